import ArrProofs.Lemmas.GenCore
/-!
# GenCoreShape — translated shape computations of `broadcast.rs` (`broadcast_shape`) and `ValidateHasError::has_error`
are the hand-written model (`ArrModel/Broadcast.lean`: `broadcastShape`, `padRev`, `bdim`, `Res.sequence`)
-/
namespace ArrModel.Gen.Core
open ArrModel Arr

variable {α γ : Type}

/-- `has_error` on a list of evaluated results: the first `Err` if there is one, else the list itself -/
theorem has_error_eq (l : List (Res γ)) :
    Vec_has_error l = match l.find? Res.isErr with
      | some (.err e) => .err e
      | some _ => .panic
      | none => .ok l := by
  unfold Vec_has_error
  simp only [Rs.find, Rs.isErr]
  cases l.find? (fun a => a.isErr) with
  | none => simp [Rs.mapOrElse]
  | some x => cases x <;> simp [Rs.mapOrElse, Rs.resErr, Rs.unwrap, Res.unwrap]

/-- an `Ok` entry is passed over: the answer for the rest decides -/
theorem has_error_cons_ok (a : γ) (xs : List (Res γ)) :
    Vec_has_error (.ok a :: xs) = Vec_has_error xs >>= fun t => .ok (.ok a :: t) := by
  rw [has_error_eq, has_error_eq, List.find?_cons_of_neg (by simp [Res.isErr])]
  cases xs.find? Res.isErr with
  | none => rfl
  | some e => cases e <;> rfl

/-- `has_error()?` followed by unwrapping every entry is `Res.sequence` (first non-ok wins), on lists of VALUES (no panic entry) -/
theorem has_error_sequence : ∀ (l : List (Res γ)), (∀ x ∈ l, x ≠ .panic) →
    (Vec_has_error l >>= fun t => Rs.mapM t (fun a => Rs.unwrapRes a)) = Res.sequence l
  | [], _ => by rw [has_error_eq]; rfl
  | .panic :: _, hnp => absurd rfl (hnp _ List.mem_cons_self)
  | .err v :: xs, _ => by rw [has_error_eq]; rfl
  | .ok a :: xs, hnp => by
    rw [has_error_cons_ok, Res.bind_assoc, Res.sequence_cons, Res.bind_ok,
      ← has_error_sequence xs (fun y hy => hnp y (List.mem_cons_of_mem _ hy)), Res.bind_assoc]
    rfl

theorem padTake_eq (s : List Nat) (n : Nat) : Rs.padTake (Rs.rev s) 1 n = padRev s n := rfl

/-- the pipeline of `broadcast_shape` for any per-axis closure that computes `bdim` -/
theorem broadcast_shape_core (s t : List Nat) (f : Nat × Nat → Res Nat) (hf : ∀ p, f p = bdim p.1 p.2) :
    (Vec_has_error (((padRev s (max s.length t.length)).zip (padRev t (max s.length t.length))).map f) >>= fun t1 =>
      Rs.mapM t1 (fun a => Rs.unwrapRes a) >>= fun t2 => Res.ok t2.reverse) = broadcastShape s t := by
  have hfe : f = fun p => bdim p.1 p.2 := funext hf
  subst hfe
  rw [← Res.bind_assoc, has_error_sequence, Res.bind_ok_eq_map]
  · rfl
  · intro x hx
    obtain ⟨p, _, rfl⟩ := List.mem_map.1 hx
    exact bdim_ne_panic _ _

/-- **`broadcast_shape` as translated from the source is `broadcastShape`** (all inputs) -/
theorem broadcast_shape_eq (a : Arr α) (t : List Nat) : Array_broadcast_shape a t = broadcastShape a.shape t := by
  unfold Array_broadcast_shape
  simp only [padTake_eq, Rs.umax, Rs.zip, Rs.map, Rs.rev]
  refine broadcast_shape_core a.shape t _ fun p => ?_
  simp only [bdim, beq_iff_eq, Bool.or_eq_true]

end ArrModel.Gen.Core
