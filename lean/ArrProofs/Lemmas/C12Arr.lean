import ArrProofs.Lemmas.C12Perm
/-!
# C12: folds of single-axis steps (`flip` over an axis list, `roll` over the accumulated shifts), `accumShifts`,
the (axis, shift) pairs of `roll`, `flip` as a fold
-/
namespace ArrModel
variable {α : Type}

theorem inRange_foldr {ι : Type} (coord : ι → List Nat → List Nat) (shape : List Nat) (good : ι → Prop)
    (hcoord : ∀ x, good x → ∀ c, inRange shape c = true → inRange shape (coord x c) = true) :
    ∀ (xs : List ι), (∀ x ∈ xs, good x) → ∀ c, inRange shape c = true → inRange shape (xs.foldr coord c) = true
  | [], _, c, hc => hc
  | x :: xs, h, c, hc => by
    simp only [List.foldr_cons]
    exact hcoord x (h x List.mem_cons_self) _ (inRange_foldr coord shape good hcoord xs (fun y hy => h y (List.mem_cons_of_mem _ hy)) c hc)

/-- a left fold of element-list steps, each with a coordinate description, has the composed coordinate description
(the LAST step is the outermost map on result coordinates, hence `foldr` on the coordinate side) -/
theorem stepFold_at {ι : Type} (step : ι → List α → Res (List α)) (coord : ι → List Nat → List Nat) (shape : List Nat)
    (good : ι → Prop)
    (hstep : ∀ x, good x → ∀ es : List α, es.length = shape.prod →
      ∃ es', step x es = .ok es' ∧ es'.length = es.length ∧
        ∀ c, inRange shape c = true → es'[ravel shape c]? = es[ravel shape (coord x c)]?)
    (hcoord : ∀ x, good x → ∀ c, inRange shape c = true → inRange shape (coord x c) = true) :
    ∀ (xs : List ι), (∀ x ∈ xs, good x) → ∀ es : List α, es.length = shape.prod →
      ∃ es', xs.foldl (fun (acc : Res (List α)) x => acc >>= fun es => step x es) (.ok es) = .ok es' ∧
        es'.length = es.length ∧
        ∀ c, inRange shape c = true → es'[ravel shape c]? = es[ravel shape (xs.foldr coord c)]? := by
  intro xs
  induction xs with
  | nil => intro _ es _; exact ⟨es, rfl, rfl, fun c _ => rfl⟩
  | cons x xs ih =>
    intro hg es hl
    obtain ⟨es1, h1, h2, h3⟩ := hstep x (hg x List.mem_cons_self) es hl
    obtain ⟨es2, g1, g2, g3⟩ := ih (fun y hy => hg y (List.mem_cons_of_mem _ hy)) es1 (by omega)
    refine ⟨es2, ?_, by omega, ?_⟩
    · simp only [List.foldl_cons, Res.bind_ok, h1]; exact g1
    · intro c hc
      have hin := inRange_foldr coord shape good hcoord xs (fun y hy => hg y (List.mem_cons_of_mem _ hy)) c hc
      rw [g3 c hc, h3 _ hin]; rfl

/-- a fold of total steps is a pure fold -/
theorem foldl_bind_ok {ι : Type} (g : ι → List α → List α) (xs : List ι) (es : List α) :
    xs.foldl (fun (acc : Res (List α)) x => acc >>= fun es => Res.ok (g x es)) (.ok es) = .ok (xs.foldl (fun es x => g x es) es) := by
  induction xs generalizing es with
  | nil => rfl
  | cons x xs ih => simp only [List.foldl_cons, Res.bind_ok]; exact ih _

theorem any_ge_false {ι : Type} (l : List ι) (f : ι → Nat) (n : Nat) (h : ∀ x ∈ l, f x < n) :
    l.any (fun x => decide (f x ≥ n)) = false :=
  List.any_eq_false.2 fun x hx => by rw [decide_eq_true_eq]; exact Nat.not_le_of_lt (h x hx)

theorem any_ge_true {ι : Type} (l : List ι) (f : ι → Nat) (n : Nat) (h : ∃ x ∈ l, f x ≥ n) :
    l.any (fun x => decide (f x ≥ n)) = true :=
  List.any_eq_true.2 (h.imp fun _ hx => ⟨hx.1, decide_eq_true hx.2⟩)

/-- total shift requested for axis `k` in a list of (axis, shift) pairs -/
def totalShift (ps : List (Nat × Int)) (k : Nat) : Int := ((ps.filter (fun p => p.1 == k)).map (·.2)).sum

/-- adding to the shift of axis `a` leaves the axes as they are -/
theorem bump_keys (r : List (Nat × Int)) (a : Nat) (s : Int) :
    (r.map (fun p => if p.1 == a then (p.1, p.2 + s) else p)).map (·.1) = r.map (·.1) := by
  rw [List.map_map]
  apply List.map_congr_left
  intro p _
  show (if p.1 == a then (p.1, p.2 + s) else p).1 = p.1
  split <;> rfl

/-- the two arms of `accumShifts`: an axis met before has its shift increased, a new axis is put in front -/
theorem accumShifts_cons_mem (a : Nat) (s : Int) (rest : List (Nat × Int)) (h : a ∈ (accumShifts rest).map (·.1)) :
    accumShifts ((a, s) :: rest) = (accumShifts rest).map (fun p => if p.1 == a then (p.1, p.2 + s) else p) := by
  obtain ⟨p, hp, e⟩ := List.mem_map.1 h
  obtain ⟨x, hx⟩ := Option.isSome_iff_exists.1
    (List.find?_isSome.2 ⟨p, hp, beq_iff_eq.2 e⟩ : ((accumShifts rest).find? (fun p => p.1 == a)).isSome = true)
  rw [accumShifts, hx]

theorem accumShifts_cons_not_mem (a : Nat) (s : Int) (rest : List (Nat × Int)) (h : a ∉ (accumShifts rest).map (·.1)) :
    accumShifts ((a, s) :: rest) = (a, s) :: accumShifts rest := by
  have hx : (accumShifts rest).find? (fun p => p.1 == a) = none :=
    List.find?_eq_none.2 fun p hp e => h (List.mem_map.2 ⟨p, hp, beq_iff_eq.1 e⟩)
  rw [accumShifts, hx]

/-- accumulation keeps exactly the axes that were paired with a shift -/
theorem accumShifts_keys (ps : List (Nat × Int)) (k : Nat) : k ∈ (accumShifts ps).map (·.1) ↔ k ∈ ps.map (·.1) := by
  induction ps generalizing k with
  | nil => rfl
  | cons q rest ih =>
    obtain ⟨a, s⟩ := q
    rw [List.map_cons, List.mem_cons, ← ih k]
    by_cases h : a ∈ (accumShifts rest).map (·.1)
    · rw [accumShifts_cons_mem a s rest h, bump_keys]
      exact ⟨Or.inr, fun h' => h'.elim (fun e => e ▸ h) id⟩
    · rw [accumShifts_cons_not_mem a s rest h, List.map_cons, List.mem_cons]

theorem accumShifts_nodup (ps : List (Nat × Int)) : ((accumShifts ps).map (·.1)).Nodup := by
  induction ps with
  | nil => exact List.nodup_nil
  | cons q rest ih =>
    obtain ⟨a, s⟩ := q
    by_cases h : a ∈ (accumShifts rest).map (·.1)
    · rw [accumShifts_cons_mem a s rest h, bump_keys]; exact ih
    · rw [accumShifts_cons_not_mem a s rest h, List.map_cons]; exact List.nodup_cons.2 ⟨h, ih⟩

/-- several shifts for one axis are accumulated into their sum -/
theorem accumShifts_same_axis (k : Nat) (x : Int) (xs : List Int) :
    accumShifts ((x :: xs).map (fun s => (k, s))) = [(k, (x :: xs).sum)] := by
  induction xs generalizing x with
  | nil => rw [List.sum_cons, List.sum_nil, Int.add_zero]; rfl
  | cons y ys ih =>
    rw [List.map_cons, accumShifts_cons_mem k x _ (by rw [ih]; exact List.mem_singleton.2 rfl), ih, List.map_singleton,
      if_pos (beq_self_eq_true k), List.sum_cons (a := x), Int.add_comm]

theorem totalShift_cons (p : Nat × Int) (ps : List (Nat × Int)) (k : Nat) :
    totalShift (p :: ps) k = (if p.1 = k then p.2 else 0) + totalShift ps k := by
  unfold totalShift
  by_cases h : p.1 = k
  · rw [List.filter_cons_of_pos (p := fun q : Nat × Int => q.1 == k) (beq_iff_eq.2 h), List.map_cons, List.sum_cons, if_pos h]
  · rw [List.filter_cons_of_neg (p := fun q : Nat × Int => q.1 == k) (fun e => h (beq_iff_eq.1 e)), if_neg h, Int.zero_add]

theorem totalShift_of_not_mem (ps : List (Nat × Int)) (k : Nat) (h : k ∉ ps.map (·.1)) : totalShift ps k = 0 := by
  induction ps with
  | nil => rfl
  | cons p ps ih =>
    rw [List.map_cons, List.mem_cons, not_or] at h
    rw [totalShift_cons, ih h.2, if_neg (fun e => h.1 e.symm)]; rfl

/-- adding `s` to the entry of axis `a` in a list with distinct axes adds `s` to the total of `a` only -/
theorem totalShift_bump (ps : List (Nat × Int)) (a : Nat) (s : Int) (k : Nat) (hnd : (ps.map (·.1)).Nodup)
    (hmem : a ∈ ps.map (·.1)) :
    totalShift (ps.map (fun p => if p.1 == a then (p.1, p.2 + s) else p)) k = (if a = k then s else 0) + totalShift ps k := by
  induction ps with
  | nil => exact nomatch hmem
  | cons p ps ih =>
    rw [List.map_cons, List.nodup_cons] at hnd
    rw [List.map_cons, totalShift_cons, totalShift_cons]
    by_cases hp : p.1 = a
    · -- this is the entry; the rest does not contain `a`
      have hrest : ps.map (fun p => if p.1 == a then (p.1, p.2 + s) else p) = ps := by
        rw [List.map_congr_left (g := id), List.map_id]
        exact fun q hq => if_neg fun e => hnd.1 (by
          rw [hp, ← (beq_iff_eq.1 e : q.1 = a)]; exact List.mem_map_of_mem hq)
      rw [hrest, if_pos (beq_iff_eq.2 hp)]
      show (if p.1 = k then p.2 + s else 0) + _ = _
      rw [hp]
      split <;> omega
    · rw [if_neg (fun e => hp (beq_iff_eq.1 e)),
        ih hnd.2 ((List.mem_cons.1 hmem).resolve_left fun e => hp e.symm)]
      exact Int.add_left_comm _ _ _

/-- **the accumulated shift of an axis is the sum of all shifts given for it** -/
theorem accumShifts_total : ∀ (ps : List (Nat × Int)) (k : Nat), totalShift (accumShifts ps) k = totalShift ps k := by
  intro ps k
  induction ps with
  | nil => rfl
  | cons q rest ih =>
    obtain ⟨a, s⟩ := q
    by_cases h : a ∈ (accumShifts rest).map (·.1)
    · rw [accumShifts_cons_mem a s rest h, totalShift_bump _ a s k (accumShifts_nodup rest) h, totalShift_cons, ih]
    · rw [accumShifts_cons_not_mem a s rest h, totalShift_cons, totalShift_cons, ih]

/-- the composed roll coordinate map, read one coordinate at a time: the total shift of that axis is subtracted -/
theorem foldr_rollCoord_getD (shape : List Nat) (hpos : ∀ d ∈ shape, 0 < d) :
    ∀ (ps : List (Nat × Int)), (∀ p ∈ ps, p.1 < shape.length) → ∀ (c : List Nat), inRange shape c = true → ∀ k, k < shape.length →
      (ps.foldr (fun p c => rollCoord shape p.1 p.2 c) c).getD k 0 = rollIdx (totalShift ps k) (shape.getD k 0) (c.getD k 0)
  | [], _, c, hc, k, hk => by
    simp only [List.foldr_nil]
    exact (rollIdx_zero _ _ (inRange_getD_lt shape c k hc hk)).symm
  | p :: ps, hv, c, hc, k, hk => by
    have hv' : ∀ q ∈ ps, q.1 < shape.length := fun q hq => hv q (List.mem_cons_of_mem _ hq)
    have ih := foldr_rollCoord_getD shape hpos ps hv' c hc
    have hin := inRange_foldr (fun (p : Nat × Int) c => rollCoord shape p.1 p.2 c) shape (fun p => p.1 < shape.length)
      (fun x hx c hc => inRange_rollCoord shape c x.1 x.2 hc hx) ps hv' c hc
    have hl := inRange_length _ _ hin
    have hp := hv p List.mem_cons_self
    simp only [List.foldr_cons]
    rw [getD_rollCoord _ _ _ _ _ (by omega), totalShift_cons]
    by_cases e : k = p.1
    · subst e
      have hd : 0 < shape.getD p.1 0 := by
        have := inRange_getD_lt shape c p.1 hc hk; omega
      simp only [if_true]
      rw [ih p.1 hk, rollIdx_rollIdx _ _ _ _ hd]
    · rw [if_neg e, if_neg (fun h => e h.symm), ih k hk, Int.zero_add]

theorem flipAxis_spec (ax : Nat) (shape : List Nat) (elems : List α)
    (hpos : ∀ d ∈ shape, 0 < d) (hlen : elems.length = shape.prod) (hax : ax < shape.length) :
    ∃ es, flipAxis ax shape elems = .ok es ∧ es.length = elems.length ∧
      ∀ c, inRange shape c = true → es[ravel shape c]? = elems[ravel shape (flipCoord shape ax c)]? := by
  rw [flipAxis_eq_permAxis]
  exact permAxis_at _ _ reverse_permSpec ax shape elems hpos hlen hax

theorem rollAxis_spec (ax : Nat) (shape : List Nat) (sh : Int) (elems : List α)
    (hpos : ∀ d ∈ shape, 0 < d) (hlen : elems.length = shape.prod) (hax : ax < shape.length) :
    ∃ es, rollAxis ax shape sh elems = .ok es ∧ es.length = elems.length ∧
      ∀ c, inRange shape c = true → es[ravel shape c]? = elems[ravel shape (rollCoord shape ax sh c)]? := by
  rw [rollAxis_eq_permAxis]
  exact permAxis_at _ _ (rollPerm_permSpec sh) ax shape elems hpos hlen hax

/-- the rank-1 arm of `roll`: successive `rotate_right` on the element vector -/
theorem rotFold_at (n : Nat) (ps : List (Nat × Int)) (hv : ∀ p ∈ ps, p.1 < [n].length)
    (es : List α) (hl : es.length = [n].prod) :
    (ps.foldl (fun es p => rotateRight es (p.2 % (es.length : Int)).toNat) es).length = es.length ∧
      ∀ c, inRange [n] c = true →
        (ps.foldl (fun es p => rotateRight es (p.2 % (es.length : Int)).toNat) es)[ravel [n] c]?
          = es[ravel [n] (ps.foldr (fun p c => rollCoord [n] p.1 p.2 c) c)]? := by
  obtain ⟨es', h1, h2, h3⟩ := stepFold_at (fun (p : Nat × Int) (es : List α) => Res.ok (rotateRight es (p.2 % (es.length : Int)).toNat))
    (fun p c => rollCoord [n] p.1 p.2 c) [n] (fun p => p.1 < [n].length)
    (fun p hp es hl => by
      refine ⟨_, rfl, rotateRight_length _ _, fun c hc => ?_⟩
      have hp0 : p.1 = 0 := Nat.lt_one_iff.1 hp
      obtain ⟨i, cs, rfl, hi, hcs⟩ := inRange_cons_inv n [] c hc
      match cs, hcs with
      | [], _ =>
        rw [List.prod_singleton] at hl
        rw [hp0]
        show (rotateRight es _)[i * 1 + 0]? = es[rollIdx p.2 n i * 1 + 0]?
        simp only [Nat.mul_one, Nat.add_zero]
        rw [← hl]
        exact (rollPerm_permSpec p.2).get _ es i (hl ▸ hi))
    (fun p hp c hc => inRange_rollCoord [n] c p.1 p.2 hc hp) ps hv es hl
  rw [foldl_bind_ok (fun (p : Nat × Int) (es : List α) => rotateRight es (p.2 % (es.length : Int)).toNat)] at h1
  cases h1
  exact ⟨h2, h3⟩

/-- the `pairs` of `Arr.roll`: (normalised axis, shift), read off the elements `ps` of the broadcast of the shifts against
the axes.  The lemmas about `roll` on a given broadcast are stated with it. -/
def pairsOf (nd : Nat) (ps : List (Int × Int)) : List (Nat × Int) := ps.map (fun p => (normalizeAxis nd p.2, p.1))

theorem pairsOf_valid (nd : Nat) (ps : List (Int × Int)) (hv : ∀ p ∈ ps, normalizeAxis nd p.2 < nd) :
    ∀ p ∈ accumShifts (pairsOf nd ps), p.1 < nd := by
  intro p hp
  obtain ⟨q, hq, e⟩ := List.mem_map.1 ((accumShifts_keys _ p.1).1 (List.mem_map_of_mem hp))
  obtain ⟨z, hz, rfl⟩ := List.mem_map.1 hq
  exact e ▸ hv z hz

/-- `pairsOf` on equally long lists of shifts and axes, which the broadcast pairs position by position
(`broadcast_flat_same` in `C12Roll`).  The property statements in `Props/C12.lean` are written with it. -/
def rollPairs (nd : Nat) (shift axs : List Int) : List (Nat × Int) :=
  (shift.zip axs).map (fun p => (normalizeAxis nd p.2, p.1))

theorem rollPairs_eq (nd : Nat) (shift axs : List Int) : rollPairs nd shift axs = pairsOf nd (shift.zip axs) := rfl

theorem rollPairs_valid (nd : Nat) (shift axs : List Int) (hv : ∀ x ∈ axs, normalizeAxis nd x < nd) :
    ∀ p ∈ accumShifts (rollPairs nd shift axs), p.1 < nd :=
  pairsOf_valid nd (shift.zip axs) fun _ hp => hv _ (List.of_mem_zip hp).2

theorem Arr.flip_some_eq (a : Arr α) (axes : List Int) :
    a.flip (some axes) =
      if (axes.map (normalizeAxis a.ndim)).any (fun x => decide (x ≥ a.ndim)) then .err .AxisOutOfBounds
      else (axes.map (normalizeAxis a.ndim)).foldl (fun (acc : Res (List α)) x => acc >>= fun es => flipAxis x a.shape es)
          (.ok a.elems) >>= fun es => Arr.new es a.shape := rfl

theorem Arr.flip_of_valid (a : Arr α) (axes : List Int) (hv : ∀ x ∈ axes, normalizeAxis a.ndim x < a.ndim) :
    a.flip (some axes) =
      (axes.map (normalizeAxis a.ndim)).foldl (fun (acc : Res (List α)) x => acc >>= fun es => flipAxis x a.shape es)
        (.ok a.elems) >>= fun es => Arr.new es a.shape := by
  rw [Arr.flip_some_eq]
  exact if_neg (Bool.eq_false_iff.1 (any_ge_false _ (fun x => x) _ (List.forall_mem_map.2 hv)))

/-- only the normalised axes matter -/
theorem Arr.flip_congr (a : Arr α) (l l' : List Int) (h : l.map (normalizeAxis a.ndim) = l'.map (normalizeAxis a.ndim)) :
    a.flip (some l) = a.flip (some l') := by
  rw [Arr.flip_some_eq, Arr.flip_some_eq, h]

end ArrModel
