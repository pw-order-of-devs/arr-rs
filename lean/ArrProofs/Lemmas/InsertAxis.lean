import ArrModel.C01Diff
import ArrProofs.Lemmas.Res
/-!
# Lemmas.InsertAxis — `Arr.insertAxis` cut into its stages

`insert(indices, values, Some(axis))` (`ArrModel/C01Diff.lean`) is four guards, the dispatch of rank 1 to the flat insert, and
then a chain of six steps: `split_axis`, `create` of the values, and four stages that get names here (`insertFit`, folded
over the other axes; `insertVals`; `insertPieces`; `insertGlue`).  `insertAxis_eq` states the definition in terms of them, so
that every fact about `insertAxis` is proved stage by stage on small terms.
-/
namespace ArrModel.Arr
variable {α : Type}

/-- one round of the fit loop: the values are repeated along axis 0 until off-axis `i` has the receiver's length -/
def insertFit (a : Arr α) (zero : α) (vst : List Nat) (i : Nat) (v : Arr α) : Res (Arr α) :=
  let si := a.shape.getD i 0
  let ti := vst.getD i 0
  if ti = 0 then .err .BroadcastShapeMismatch
  else if ti > si then .err .BroadcastShapeMismatch
  else if si % ti ≠ 0 then .err .BroadcastShapeMismatch
  else if ti < si then
    v.repeatAxis zero [si / ti] 0 >>= fun w => Arr.create w.elems w.shape (some a.ndim)
  else .ok v

/-- the fitted values, cut into one piece per insertion point -/
def insertVals (a : Arr α) (zero : α) (indices : List Nat) (axis : Nat) (v1 : Arr α) : Res (List (Arr α)) :=
  let selfRemLen := (a.shape.eraseIdx axis).prod
  if indices.length > 1 then
    (if v1.len = selfRemLen then v1.repeatAxis zero [indices.length] 0 else .ok v1) >>= fun v2 =>
    if v2.len % (selfRemLen * indices.length) ≠ 0 then .err .BroadcastShapeMismatch else
    v2.moveaxis zero [Int.ofNat axis] [0] >>= fun m =>
    m.ravel.split zero indices.length none
  else .ok [v1]

/-- `for (i, v) in indices.reversed().zip(values.reversed()) { arrays.insert(i, v) }` -/
def insertPieces (indices : List Nat) (vals arrays : List (Arr α)) : Res (List (Arr α)) :=
  (indices.reverse.zip vals.reverse).foldl (fun acc p => acc >>= fun arrs => vecInsert arrs p.1 p.2) (.ok arrays)

/-- the pieces are flattened, reshaped with the axis in front and transposed back -/
def insertGlue (a : Arr α) (zero : α) (axis : Nat) (arrays : List (Arr α)) : Res (Arr α) :=
  let selfRemLen := (a.shape.eraseIdx axis).prod
  let partialA : Arr α := Arr.flat (arrays.flatMap (·.elems))
  if selfRemLen = 0 then .panic else
  partialA.reshape (swapExt (a.shape.set axis (partialA.len / selfRemLen)) 0 axis) >>= fun p =>
  p.transpose zero (some (((List.range' 1 (a.ndim - 1)).insertIdx axis 0).map Int.ofNat))

/-- what `insertAxis` does for rank ≥ 2 once its guards have passed -/
def insertAxisCore (a : Arr α) (zero : α) (indices : List Nat) (values : Arr α) (axis : Nat) : Res (Arr α) :=
  a.splitAxis zero axis >>= fun arrays =>
  Arr.create values.elems values.shape (some a.ndim) >>= fun v0 =>
  ((List.range a.ndim).eraseIdx axis).reverse.foldl (fun acc i => acc >>= insertFit a zero (swapExt v0.shape 0 axis) i) (.ok v0)
    >>= fun v1 =>
  insertVals a zero indices axis v1 >>= fun vals =>
  insertPieces indices vals arrays >>= insertGlue a zero axis

theorem insertAxis_eq (a : Arr α) (zero : α) (indices : List Nat) (values : Arr α) (axis : Nat) :
    a.insertAxis zero indices values axis =
      if axis ≥ a.ndim then .err .AxisOutOfBounds
      else if indices.any (fun i => decide (i > a.shape.getD axis 0)) then .err .OutOfBounds
      else if !(decide (1 ≤ values.ndim) && decide (values.ndim ≤ a.ndim)) then .err .UnsupportedDimension
      else if a.ndim = 1 then a.insertFlat indices values
      else if !(isBroadcastable [indices.length] (a.shape.take 1)) then .err .BroadcastShapeMismatch
      else insertAxisCore a zero indices values axis := rfl

/-- an accepted call passed the axis guard and is either the flat insert (rank 1) or the staged chain -/
theorem insertAxis_eq_ok {a : Arr α} {zero : α} {indices : List Nat} {values : Arr α} {axis : Nat} {r : Arr α}
    (h : a.insertAxis zero indices values axis = .ok r) :
    axis < a.ndim ∧ ((a.ndim = 1 ∧ a.insertFlat indices values = .ok r) ∨
      (a.ndim ≠ 1 ∧ insertAxisCore a zero indices values axis = .ok r)) := by
  rw [insertAxis_eq] at h
  split at h
  · cases h
  refine ⟨Nat.lt_of_not_le ‹_›, ?_⟩
  split at h
  · cases h
  split at h
  · cases h
  split at h
  · exact .inl ⟨‹_›, h⟩
  split at h
  · cases h
  · exact .inr ⟨‹_›, h⟩

/-- every answer of the staged chain comes out of the final reshape-and-transpose -/
theorem insertAxisCore_eq_ok {a : Arr α} {zero : α} {indices : List Nat} {values : Arr α} {axis : Nat} {r : Arr α}
    (h : insertAxisCore a zero indices values axis = .ok r) :
    ∃ (K : Nat) (p : Arr α), p.shape = swapExt (a.shape.set axis K) 0 axis ∧ p.WF ∧
      p.transpose zero (some (((List.range' 1 (a.ndim - 1)).insertIdx axis 0).map Int.ofNat)) = .ok r := by
  obtain ⟨_, _, h⟩ := Res.bind_eq_ok h
  obtain ⟨_, _, h⟩ := Res.bind_eq_ok h
  obtain ⟨_, _, h⟩ := Res.bind_eq_ok h
  obtain ⟨_, _, h⟩ := Res.bind_eq_ok h
  obtain ⟨arrs, _, h⟩ := Res.bind_eq_ok h
  unfold insertGlue at h
  dsimp only at h
  split at h
  · cases h
  obtain ⟨p, hp, h⟩ := Res.bind_eq_ok h
  exact ⟨_, p, congrArg Arr.shape (reshape_eq_ok_iff.mp hp).2, reshape_wf hp, h⟩

end ArrModel.Arr
