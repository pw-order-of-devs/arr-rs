import ArrProofs.Lemmas.C11Flat
/-!
C11: `array_split`, `split`, `split_axis` and the conveniences `hsplit` / `vsplit` / `dsplit`.

Each function is first brought into the form "guards, then body" (`arraySplit_eq`, `split_eq`, `splitAxis_eq`); the
refusals, the answer on arrays without elements and the absence of panics are read off the guards.  The body of
`array_split` cuts consecutive blocks along the axis (`arraySplit_cut`, every rank, every axis, every part count).

The code's `is_empty` shortcut (`split.rs`): after the refusals (`parts == 0`, axis outside the rank — in the order each
function has them) an array without elements is returned whole as the single piece `[a]`, whatever the part count
(divisibility is NOT examined for `split`).
-/
namespace ArrModel.C11
open ArrModel Arr
variable {α : Type}

/-- a well-formed array is empty exactly when it has a zero-length axis -/
theorem isEmpty_iff_zero_mem (a : Arr α) (hwf : a.WF) : a.isEmpty = true ↔ 0 ∈ a.shape := by
  exact Arr.isEmpty_iff_zero_mem a hwf

/-! ### guards, then body -/

/-- the body of the `windows(2)` loop of `array_split` -/
def splitPiece (zero : α) (nd ax stride : Nat) (arr : Arr α) (w : Nat × Nat) : Res (Arr α) :=
  let sec := w.2 - w.1
  let m : Arr α := Arr.flat ((arr.elems.drop (w.1 * stride)).take (sec * stride))
  if nd = 1 then .ok m
  else m.reshape (arr.shape.set 0 sec) >>= fun r => r.moveaxis zero [0] [Int.ofNat ax]

theorem arraySplit_eq (a : Arr α) (zero : α) (parts k : Nat) :
    a.arraySplit zero parts (some k) =
      if parts = 0 then .err .ParameterError
      else if a.ndim ≤ k then .err .AxisOutOfBounds
      else if a.isEmpty = true then .ok [a]
      else Res.idx a.shape k >>= fun nTotal => a.rollaxis zero (Int.ofNat k) none >>= fun arr =>
        Res.mapM' (splitPiece zero a.ndim k (a.len / nTotal) arr) (windows2 (divPoints (sectionSizes nTotal parts))) := by
  unfold Arr.arraySplit
  simp only [Option.getD_some, ge_iff_le, decide_eq_true_eq]
  rfl

theorem split_eq (a : Arr α) (zero : α) (parts k : Nat) :
    a.split zero parts (some k) =
      if a.ndim ≤ k then .err .AxisOutOfBounds
      else if parts = 0 then .err .ParameterError
      else if a.isEmpty = true then .ok [a]
      else Res.idx a.shape k >>= fun nTotal =>
        if nTotal % parts = 0 then a.arraySplit zero parts (some k) else .err .ParameterError := by
  unfold Arr.split
  simp only [Option.getD_some, ge_iff_le, decide_eq_true_eq]

theorem splitAxis_eq (a : Arr α) (zero : α) (axis : Nat) :
    a.splitAxis zero axis =
      if a.ndim ≤ axis then .err .AxisOutOfBounds
      else if a.isEmpty = true ∨ a.ndim = 1 then .ok [a]
      else Res.idx a.shape axis >>= fun n => a.arraySplit zero n (some axis) := by
  unfold Arr.splitAxis
  simp only [ge_iff_le, Bool.or_eq_true, beq_iff_eq]

/-- the default axis is axis 0 — for every rank (a rank-0 receiver is refused either way: the DEFAULTED axis is validated) -/
theorem arraySplit_none (a : Arr α) (zero : α) (parts : Nat) :
    a.arraySplit zero parts none = a.arraySplit zero parts (some 0) := rfl

theorem split_none (a : Arr α) (zero : α) (parts : Nat) :
    a.split zero parts none = a.split zero parts (some 0) := rfl

/-! ### arrays without elements -/

/-- `array_split` on an array without elements: zero parts refused first, then an axis outside the rank, then `[a]` -/
theorem arraySplit_empty (a : Arr α) (zero : α) (parts k : Nat) (he : a.isEmpty = true) :
    a.arraySplit zero parts (some k) =
      if parts = 0 then .err .ParameterError
      else if a.ndim ≤ k then .err .AxisOutOfBounds
      else .ok [a] := by
  rw [arraySplit_eq, if_pos he]

/-- `split` on an array without elements: an axis outside the rank refused first, then zero parts, then `[a]`
(the divisibility of the axis length by the part count is not examined) -/
theorem split_empty (a : Arr α) (zero : α) (parts k : Nat) (he : a.isEmpty = true) :
    a.split zero parts (some k) =
      if a.ndim ≤ k then .err .AxisOutOfBounds
      else if parts = 0 then .err .ParameterError
      else .ok [a] := by
  rw [split_eq, if_pos he]

theorem splitAxis_empty (a : Arr α) (zero : α) (axis : Nat) (he : a.isEmpty = true) :
    a.splitAxis zero axis = if a.ndim ≤ axis then .err .AxisOutOfBounds else .ok [a] := by
  rw [splitAxis_eq, if_pos (Or.inl he : a.isEmpty = true ∨ a.ndim = 1)]

/-! ### `hsplit`, `vsplit`, `dsplit`: a rank guard, the zero-parts guard, then `split` along a fixed axis -/

theorem hsplit_guarded (a : Arr α) (zero : α) (parts : Nat) :
    a.hsplit zero parts =
      if a.ndim = 0 then .err .UnsupportedDimension
      else if parts = 0 then .err .ParameterError
      else a.split zero parts (some (if a.ndim = 1 then 0 else 1)) := by
  unfold Arr.hsplit
  rw [apply_ite (fun k => a.split zero parts (some k))]

/-- the three with a rank that passes the guard `c` and a positive part count -/
theorem guarded_split_of_pos (a : Arr α) (zero : α) (parts k : Nat) (c : Prop) [Decidable c] (hc : ¬c) (hp : 0 < parts) :
    (if c then .err .UnsupportedDimension else if parts = 0 then .err .ParameterError else a.split zero parts (some k)) =
      a.split zero parts (some k) := by
  rw [if_neg hc, if_neg (Nat.ne_of_gt hp)]

/-- the three on an array without elements; `c` is the rank guard, which leaves the axis `k` inside the rank -/
theorem guarded_split_empty (a : Arr α) (zero : α) (parts k : Nat) (c : Prop) [Decidable c] (he : a.isEmpty = true)
    (hk : ¬c → k < a.ndim) :
    (if c then .err .UnsupportedDimension else if parts = 0 then .err .ParameterError else a.split zero parts (some k)) =
      if c then .err .UnsupportedDimension else if parts = 0 then .err .ParameterError else .ok [a] := by
  by_cases hc : c
  · rw [if_pos hc, if_pos hc]
  · rw [if_neg hc, if_neg hc, split_empty a zero parts k he, if_neg (Nat.not_le.2 (hk hc))]
    by_cases hp : parts = 0
    · rw [if_pos hp, if_pos hp]
    · rw [if_neg hp]

theorem hsplit_empty (a : Arr α) (zero : α) (parts : Nat) (he : a.isEmpty = true) (hnd : 1 ≤ a.ndim) :
    a.hsplit zero parts = if parts = 0 then .err .ParameterError else .ok [a] := by
  have h0 : ¬ a.ndim = 0 := Nat.ne_of_gt hnd
  rw [hsplit_guarded, guarded_split_empty a zero parts _ (a.ndim = 0) he, if_neg h0]
  intro _
  split
  · exact hnd
  · exact Nat.lt_of_le_of_ne hnd (Ne.symm ‹_›)

theorem vsplit_empty (a : Arr α) (zero : α) (parts : Nat) (he : a.isEmpty = true) :
    a.vsplit zero parts =
      if a.ndim = 0 ∨ a.ndim = 1 then .err .UnsupportedDimension
      else if parts = 0 then .err .ParameterError else .ok [a] :=
  guarded_split_empty a zero parts 0 (a.ndim = 0 ∨ a.ndim = 1) he fun h => Nat.pos_of_ne_zero fun e => h (.inl e)

theorem dsplit_empty (a : Arr α) (zero : α) (parts : Nat) (he : a.isEmpty = true) :
    a.dsplit zero parts =
      if a.ndim = 0 ∨ a.ndim = 1 ∨ a.ndim = 2 then .err .UnsupportedDimension
      else if parts = 0 then .err .ParameterError else .ok [a] :=
  guarded_split_empty a zero parts 2 (a.ndim = 0 ∨ a.ndim = 1 ∨ a.ndim = 2) he (by omega)

/-! ### the pieces are consecutive blocks along the axis -/

/-- one window `[lo, hi)` of the rolled array (axis in front), reshaped and with the axis moved back -/
theorem splitPiece_spec (arr : Arr α) (zero : α) (n lo hi : Nat) (P Q : List Nat) (hwf : arr.WF)
    (hs : arr.shape = n :: P ++ Q) (hlo : lo ≤ hi) (hhi : hi ≤ n) :
    ∃ r, splitPiece zero (P.length + Q.length + 1) P.length (P ++ Q).prod arr (lo, hi) = .ok r ∧
      r.shape = P ++ (hi - lo) :: Q ∧ r.WF ∧
      ∀ p q j, inRange P p = true → inRange Q q = true → j < hi - lo →
        r.get? (p ++ j :: q) = arr.get? ((lo + j) :: p ++ q) := by
  have hL : arr.elems.length = n * (P ++ Q).prod := by rw [hwf, hs, List.cons_append, List.prod_cons]
  have hBl := block_length arr.elems lo (hi - lo) (P ++ Q).prod n hL (by rw [Nat.add_sub_of_le hlo]; exact hhi)
  generalize hB : (arr.elems.drop (lo * (P ++ Q).prod)).take ((hi - lo) * (P ++ Q).prod) = B at hBl
  -- the block as an array `t` of shape `(hi - lo) :: P ++ Q`
  have htwf : (⟨B, (hi - lo) :: P ++ Q⟩ : Arr α).WF := by
    show B.length = ((hi - lo) :: P ++ Q).prod
    rw [hBl, List.cons_append, List.prod_cons]
  have htget : ∀ p q j, inRange P p = true → inRange Q q = true → j < hi - lo →
      (⟨B, (hi - lo) :: P ++ Q⟩ : Arr α).get? (j :: p ++ q) = arr.get? ((lo + j) :: p ++ q) := by
    intro p q j hp hq hj
    have hrl : ravel (P ++ Q) (p ++ q) < (P ++ Q).prod := by
      apply ravel_lt
      rw [inRange_append_append _ _ _ _ (inRange_length _ _ hp).symm, hp, hq]; rfl
    show B[ravel ((hi - lo) :: P ++ Q) (j :: p ++ q)]? = arr.elems[ravel arr.shape ((lo + j) :: p ++ q)]?
    rw [hs, ← hB]
    exact block_getElem? arr.elems lo (hi - lo) _ j _ hj hrl
  by_cases h1 : P.length + Q.length + 1 = 1
  · -- rank 1: the flat block itself
    have hP : P = [] := List.eq_nil_of_length_eq_zero (Nat.eq_zero_of_add_eq_zero_right (Nat.succ.inj h1))
    have hQ : Q = [] := List.eq_nil_of_length_eq_zero (Nat.eq_zero_of_add_eq_zero_left (Nat.succ.inj h1))
    subst hP hQ
    have hBl' : B.length = hi - lo := by rw [hBl]; exact Nat.mul_one _
    refine ⟨⟨B, [hi - lo]⟩, ?_, rfl, htwf, ?_⟩
    · simp only [splitPiece, h1, if_true, hB, Arr.flat, hBl']
    · intro p q j hp hq hj
      cases p with
      | nil => exact htget [] q j hp hq hj
      | cons _ _ => cases hp
  · obtain ⟨r, h2, h3, h4, h5⟩ := frontTo_spec ⟨B, (hi - lo) :: P ++ Q⟩ zero (hi - lo) P Q htwf rfl
    refine ⟨r, ?_, h3, h4, fun p q j hp hq hj => (h5 p q j hp hq hj).trans (htget p q j hp hq hj)⟩
    simp only [splitPiece, h1, if_false, hB]
    have hre : (Arr.flat B).reshape (arr.shape.set 0 (hi - lo)) = .ok ⟨B, (hi - lo) :: P ++ Q⟩ := by
      rw [hs]
      exact Arr.new_of_prod htwf.symm
    rw [hre, Res.bind_ok]
    exact h2

/-- **`array_split` along axis `k = P.length` of a shape `P ++ n :: Q`**: `parts` pieces; piece `i` has the axis cut
to `sizes[i]` and holds the block starting at `off_i = sizes[0] + … + sizes[i-1]` -/
theorem arraySplit_cut (a : Arr α) (zero : α) (parts n : Nat) (P Q : List Nat) (hwf : a.WF) (hs : a.shape = P ++ n :: Q)
    (hnz : 0 ∉ a.shape) (hp : 0 < parts) :
    ∃ pieces, a.arraySplit zero parts (some P.length) = .ok pieces ∧ pieces.length = parts ∧
      ∀ i (hi : i < pieces.length),
        pieces[i].shape = P ++ (sectionSizes n parts).getD i 0 :: Q ∧ pieces[i].WF ∧
        ∀ p q j, inRange P p = true → inRange Q q = true → j < (sectionSizes n parts).getD i 0 →
          pieces[i].get? (p ++ j :: q) = a.get? (p ++ (((sectionSizes n parts).take i).sum + j) :: q) := by
  have hnd := ndim_cut a P Q n hs
  have hn : 0 < n := Nat.pos_of_ne_zero fun e => hnz (by rw [hs, e]; exact List.mem_append_right _ List.mem_cons_self)
  have hlen : a.len / n = (P ++ Q).prod := by
    have : a.len = (P ++ Q).prod * n := by
      show a.elems.length = _
      rw [hwf, hs]; simp only [List.prod_append, List.prod_cons]
      rw [Nat.mul_assoc, Nat.mul_comm Q.prod n]
    rw [this, Nat.mul_div_cancel _ hn]
  obtain ⟨arr, ha1, ha2, ha3, ha4⟩ := toFront_spec a zero n P Q hwf hs
  have hsl := sectionSizes_length n parts hp
  have hsum := sectionSizes_sum n parts hp
  generalize hsz : sectionSizes n parts = sizes at *
  -- every window of the division points is a block of the rolled array
  obtain ⟨pieces, hm1, hm2, hm3⟩ := mapM'_rel (splitPiece zero a.ndim P.length (P ++ Q).prod arr)
    (fun w r => r.shape = P ++ (w.2 - w.1) :: Q ∧ r.WF ∧ ∀ p q j, inRange P p = true → inRange Q q = true →
      j < w.2 - w.1 → r.get? (p ++ j :: q) = arr.get? ((w.1 + j) :: p ++ q))
    ((List.range sizes.length).map (fun i => ((sizes.take i).sum, (sizes.take (i + 1)).sum))) (by
      intro w hw
      obtain ⟨i, hi, rfl⟩ := List.mem_map.1 hw
      have hhi := sum_take_le sizes (i + 1) sizes.length (List.mem_range.1 hi)
      rw [List.take_length, hsum] at hhi
      rw [hnd]
      exact splitPiece_spec arr zero n _ _ P Q ha3 ha2 (sum_take_le sizes i (i + 1) (Nat.le_succ i)) hhi)
  rw [List.length_map, List.length_range] at hm2
  refine ⟨pieces, ?_, hm2.trans hsl, ?_⟩
  · rw [arraySplit_eq, if_neg (Nat.ne_of_gt hp), if_neg (Nat.not_le.2 (lt_ndim_cut a P Q n hs)),
      if_neg (mt (isEmpty_iff_zero_mem a hwf).1 hnz)]
    rw [idx_getD a.shape P.length (lt_ndim_cut a P Q n hs), hs, getD_mid, Res.bind_ok, ha1, Res.bind_ok, hlen, hsz,
      windows2_divPoints]
    exact hm1
  · intro i hi
    have hi' : i < sizes.length := hm2 ▸ hi
    obtain ⟨g1, g2, g3⟩ := hm3 i (by rw [List.length_map, List.length_range]; exact hi') hi
    simp only [List.getElem_map, List.getElem_range] at g1 g3
    have hg : sizes.getD i 0 = sizes[i] := by rw [List.getD_eq_getElem?_getD, List.getElem?_eq_getElem hi']; rfl
    have hd : (sizes.take (i + 1)).sum - (sizes.take i).sum = sizes.getD i 0 := by
      rw [sum_take_succ sizes i hi', Nat.add_sub_cancel_left, hg]
    rw [hd] at g1 g3
    have hle := offset_add_size_le sizes i hi'
    rw [hsum, ← hg] at hle
    refine ⟨g1, g2, fun p q j hp' hq hj => ?_⟩
    rw [g3 p q j hp' hq hj, ha4 p q _ hp' hq (Nat.lt_of_lt_of_le (Nat.add_lt_add_left hj _) hle)]

/-! ### no panic -/

theorem arraySplit_ne_panic (a : Arr α) (zero : α) (hwf : a.WF) (parts k : Nat) :
    a.arraySplit zero parts (some k) ≠ .panic := by
  by_cases hp : parts = 0
  · rw [arraySplit_eq, if_pos hp]; nofun
  by_cases hk : a.ndim ≤ k
  · rw [arraySplit_eq, if_neg hp, if_pos hk]; nofun
  by_cases he : a.isEmpty = true
  · rw [arraySplit_eq, if_neg hp, if_neg hk, if_pos he]; nofun
  · obtain ⟨P, Q, rfl, hs, _⟩ := exists_cut a.shape k (Nat.not_le.1 hk)
    obtain ⟨pieces, h, _⟩ := arraySplit_cut a zero parts _ P Q hwf hs (mt (isEmpty_iff_zero_mem a hwf).2 he)
      (Nat.pos_of_ne_zero hp)
    rw [h]; nofun

theorem split_ne_panic (a : Arr α) (zero : α) (hwf : a.WF) (parts k : Nat) : a.split zero parts (some k) ≠ .panic := by
  rw [split_eq]
  refine Res.ite_ne_panic (fun _ => nofun) fun hk => Res.ite_ne_panic (fun _ => nofun) fun _ =>
    Res.ite_ne_panic (fun _ => nofun) fun _ => ?_
  rw [idx_getD a.shape _ (Nat.not_le.1 hk), Res.bind_ok]
  exact Res.ite_ne_panic (fun _ => arraySplit_ne_panic a zero hwf parts k) fun _ => nofun

theorem splitAxis_ne_panic (a : Arr α) (zero : α) (hwf : a.WF) (k : Nat) : a.splitAxis zero k ≠ .panic := by
  rw [splitAxis_eq]
  refine Res.ite_ne_panic (fun _ => nofun) fun hk => Res.ite_ne_panic (fun _ => nofun) fun _ => ?_
  rw [idx_getD a.shape _ (Nat.not_le.1 hk), Res.bind_ok]
  exact arraySplit_ne_panic a zero hwf _ _

theorem guarded_split_ne_panic (a : Arr α) (zero : α) (hwf : a.WF) (parts k : Nat) (c : Prop) [Decidable c] :
    (if c then .err .UnsupportedDimension else if parts = 0 then .err .ParameterError else a.split zero parts (some k))
      ≠ .panic :=
  Res.ite_ne_panic (fun _ => nofun) fun _ => Res.ite_ne_panic (fun _ => nofun) fun _ => split_ne_panic a zero hwf parts _

end ArrModel.C11
