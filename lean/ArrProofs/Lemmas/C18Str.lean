import ArrModel.C18
/-!
# Lemmas for C18 — the `std` string primitives of `ArrModel.C18`

The working notion is `NoStart p A`: no occurrence of the pattern `p` begins inside the segment `A`, whatever text
follows (`NoStartCtx p A B`: when `B` follows).  Such a segment passes through `replace`/`find`/`split(..).count()`
unchanged, so texts built from segments (brackets, separators, element texts) can be treated segment by segment.
-/
namespace ArrModel.C18

/-! ### prefixes -/

theorem isPrefixOf_append_self (p s : Str) : p.isPrefixOf (p ++ s) = true := by
  rw [List.isPrefixOf_iff_prefix]
  exact List.prefix_append p s

theorem isPrefixOf_length {p s : Str} (h : p.isPrefixOf s = true) : p.length ≤ s.length := by
  rw [List.isPrefixOf_iff_prefix] at h
  exact h.length_le

theorem isPrefixOf_of_length_lt {p s : Str} (h : s.length < p.length) : p.isPrefixOf s = false :=
  Bool.eq_false_iff.2 fun hh => by have := isPrefixOf_length hh; omega

theorem isPrefixOf_append_left {p q s : Str} (h : (p ++ q).isPrefixOf s = true) : p.isPrefixOf s = true := by
  rw [List.isPrefixOf_iff_prefix] at *
  exact List.IsPrefix.trans (List.prefix_append p q) h

theorem isPrefixOf_append_right {p A : Str} (Z : Str) (h : p.isPrefixOf A = true) : p.isPrefixOf (A ++ Z) = true := by
  rw [List.isPrefixOf_iff_prefix] at h ⊢
  exact h.trans (List.prefix_append _ _)

/-- a character foreign to the pattern ends every attempt to match -/
theorem isPrefixOf_append_stop {p A Z : Str} {d : Char} (hd : d ∉ p) (h : p.isPrefixOf (A ++ d :: Z) = true) :
    p.isPrefixOf A = true := by
  induction p generalizing A with
  | nil => simp
  | cons x p ih =>
    simp only [List.mem_cons, not_or] at hd
    cases A with
    | nil =>
      simp only [List.nil_append, List.isPrefixOf_cons_cons, Bool.and_eq_true, beq_iff_eq] at h
      exact absurd h.1.symm hd.1
    | cons a A =>
      simp only [List.cons_append, List.isPrefixOf_cons_cons, Bool.and_eq_true] at h ⊢
      exact ⟨h.1, ih hd.2 h.2⟩

theorem isPrefixOf_cons_ne {p s : Str} {x c : Char} (h : x ≠ c) : (x :: p).isPrefixOf (c :: s) = false := by
  simp [List.isPrefixOf_cons_cons, h]

theorem isPrefixOf_of_not_mem {p s : Str} {c : Char} (hc : c ∈ p) (hs : c ∉ s) : p.isPrefixOf s = false :=
  Bool.eq_false_iff.2 fun hh => hs ((List.isPrefixOf_iff_prefix.1 hh).subset hc)

/-! ### segments in which no match starts -/

/-- no occurrence of `p` starts inside `A`, whatever follows `A` -/
def NoStart (p A : Str) : Prop := ∀ k, k < A.length → ∀ Z, p.isPrefixOf (A.drop k ++ Z) = false

/-- no occurrence of `p` starts inside `A` when `A` is followed by `B` -/
def NoStartCtx (p A B : Str) : Prop := ∀ k, k < A.length → p.isPrefixOf (A.drop k ++ B) = false

theorem NoStart.ctx {p A : Str} (h : NoStart p A) (B : Str) : NoStartCtx p A B := fun k hk => h k hk B

theorem noStart_iff_ctx {p A : Str} : NoStart p A ↔ ∀ B, NoStartCtx p A B :=
  ⟨NoStart.ctx, fun h k hk Z => h Z k hk⟩

theorem NoStartCtx.nil (p B : Str) : NoStartCtx p [] B := by intro k hk; simp at hk

theorem NoStart.nil (p : Str) : NoStart p [] := noStart_iff_ctx.2 (NoStartCtx.nil p)

theorem noStartCtx_cons {p : Str} {c : Char} {A B : Str} :
    NoStartCtx p (c :: A) B ↔ p.isPrefixOf (c :: (A ++ B)) = false ∧ NoStartCtx p A B := by
  constructor
  · intro h
    refine ⟨by simpa using h 0 (by simp), fun k hk => ?_⟩
    simpa using h (k + 1) (by simp; omega)
  · rintro ⟨h0, h⟩ k hk
    cases k with
    | zero => simpa using h0
    | succ k => simpa using h k (by simp at hk; omega)

theorem noStart_cons {p : Str} {c : Char} {A : Str} :
    NoStart p (c :: A) ↔ (∀ Z, p.isPrefixOf (c :: (A ++ Z)) = false) ∧ NoStart p A := by
  simp only [noStart_iff_ctx, noStartCtx_cons, forall_and]

theorem noStartCtx_append {p A1 A2 B : Str} (h1 : NoStartCtx p A1 (A2 ++ B)) (h2 : NoStartCtx p A2 B) :
    NoStartCtx p (A1 ++ A2) B := by
  induction A1 with
  | nil => exact h2
  | cons c A ih =>
    rw [List.cons_append, noStartCtx_cons] at *
    exact ⟨by simpa [List.append_assoc] using h1.1, ih h1.2⟩

theorem noStart_of_ctx {p A B : Str} (hA : ∀ Z, NoStartCtx p A (B ++ Z)) (hB : NoStart p B) : NoStart p (A ++ B) :=
  noStart_iff_ctx.2 fun Z => noStartCtx_append (hA Z) (hB.ctx Z)

theorem NoStart.append {p A B : Str} (hA : NoStart p A) (hB : NoStart p B) : NoStart p (A ++ B) :=
  noStart_of_ctx (fun _ => hA.ctx _) hB

theorem NoStart.mono {p A : Str} (q : Str) (h : NoStart p A) : NoStart (p ++ q) A :=
  fun k hk Z => Bool.eq_false_iff.2 fun hh => Bool.eq_false_iff.1 (h k hk Z) (isPrefixOf_append_left hh)

theorem noStart_of_head_not_mem {c : Char} {p A : Str} (h : c ∉ A) : NoStart (c :: p) A := by
  induction A with
  | nil => exact NoStart.nil _
  | cons d A ih =>
    simp only [List.mem_cons, not_or] at h
    exact noStart_cons.2 ⟨fun _ => isPrefixOf_cons_ne h.1, ih h.2⟩

/-- a text free of some character of the pattern holds no match -/
theorem noStartCtx_of_not_mem {p s : Str} {c : Char} (hc : c ∈ p) (hs : c ∉ s) : NoStartCtx p s [] := by
  intro k _
  rw [List.append_nil]
  exact isPrefixOf_of_not_mem hc fun h => hs (List.mem_of_mem_drop h)

/-! ### replace -/

theorem replaceAux_skip (p t : Str) (k : Nat) (s : Str) :
    replaceAux p t k s = replaceAux p t 0 (s.drop k) := by
  induction s generalizing k with
  | nil => cases k <;> simp [replaceAux]
  | cons c s ih =>
    cases k with
    | zero => simp
    | succ k => simp [replaceAux, ih k]

@[simp] theorem replace_nil (p t : Str) : replace p t [] = [] := by simp [replace, replaceAux]

theorem replace_cons_of_not_prefix {p t : Str} {c : Char} {s : Str} (h : p.isPrefixOf (c :: s) = false) :
    replace p t (c :: s) = c :: replace p t s := by
  simp [replace, replaceAux, h]

theorem length_eq_succ {p : Str} (hp : p ≠ []) : ∃ n, p.length = n + 1 := by
  cases p with
  | nil => exact absurd rfl hp
  | cons _ p => exact ⟨p.length, rfl⟩

theorem replace_of_prefix {p t s : Str} (hp : p ≠ []) (h : p.isPrefixOf s = true) :
    replace p t s = t ++ replace p t (s.drop p.length) := by
  cases s with
  | nil => cases p <;> simp_all
  | cons c s =>
    obtain ⟨n, hn⟩ := length_eq_succ hp
    simp only [replace, replaceAux, h, if_true]
    rw [replaceAux_skip, hn, Nat.add_sub_cancel, List.drop_succ_cons]

theorem replace_append_pat {p t : Str} (s : Str) (hp : p ≠ []) :
    replace p t (p ++ s) = t ++ replace p t s := by
  rw [replace_of_prefix hp (isPrefixOf_append_self p s)]
  simp

theorem replace_ctx {p t A : Str} (B : Str) (h : NoStartCtx p A B) :
    replace p t (A ++ B) = A ++ replace p t B := by
  induction A with
  | nil => simp
  | cons c A ih =>
    rw [noStartCtx_cons] at h
    show replace p t (c :: (A ++ B)) = _
    rw [replace_cons_of_not_prefix h.1, ih h.2]
    rfl

theorem replace_noStart {p t A : Str} (B : Str) (h : NoStart p A) :
    replace p t (A ++ B) = A ++ replace p t B :=
  replace_ctx B (h.ctx B)

theorem replace_eq_self {p t A : Str} (h : NoStart p A) : replace p t A = A := by
  have := replace_noStart (t := t) [] h
  simpa using this

theorem replace_of_not_mem {p t s : Str} {c : Char} (hc : c ∈ p) (hs : c ∉ s) : replace p t s = s := by
  have := replace_ctx (t := t) [] (noStartCtx_of_not_mem hc hs)
  simpa using this

theorem isPrefixOf_cons_of_not_mem {p Z : Str} {d : Char} (hp : p ≠ []) (hd : d ∉ p) :
    p.isPrefixOf (d :: Z) = false := by
  cases p with
  | nil => exact absurd rfl hp
  | cons x p => exact isPrefixOf_cons_ne fun e => hd (e ▸ List.mem_cons_self)

/-- a character that does not occur in the pattern cuts the text in two independent halves -/
theorem replaceAux_stop {p t : Str} {d : Char} (hp : p ≠ []) (hd : d ∉ p) (Z : Str) (A : Str) (k : Nat)
    (hk : k ≤ A.length) :
    replaceAux p t k (A ++ d :: Z) = replaceAux p t k A ++ d :: replace p t Z := by
  induction A generalizing k with
  | nil =>
    obtain rfl : k = 0 := by simpa using hk
    simp [replace, replaceAux, isPrefixOf_cons_of_not_mem hp hd]
  | cons c A ih =>
    cases k with
    | succ k => exact ih k (by simpa using hk)
    | zero =>
      show replaceAux p t 0 (c :: (A ++ d :: Z)) = _
      simp only [replaceAux]
      cases hh : p.isPrefixOf (c :: (A ++ d :: Z)) with
      | true =>
        have hA : p.isPrefixOf (c :: A) = true := isPrefixOf_append_stop hd hh
        have := isPrefixOf_length hA
        rw [hA, if_pos rfl, if_pos rfl, ih _ (by simp at this; omega), List.append_assoc]
      | false =>
        have hA : p.isPrefixOf (c :: A) = false :=
          Bool.eq_false_iff.2 fun h2 => Bool.eq_false_iff.1 hh (isPrefixOf_append_right (d :: Z) h2)
        simp [hA, ih 0 (Nat.zero_le _)]

theorem replace_stop {p t : Str} {d : Char} (hp : p ≠ []) (hd : d ∉ p) (A Z : Str) :
    replace p t (A ++ d :: Z) = replace p t A ++ d :: replace p t Z :=
  replaceAux_stop hp hd Z A 0 (Nat.zero_le _)

/-- `replace` invents no characters -/
theorem mem_replaceAux {p t : Str} {x : Char} (A : Str) (k : Nat) (h : x ∈ replaceAux p t k A) : x ∈ A ∨ x ∈ t := by
  induction A generalizing k with
  | nil => simp [replaceAux] at h
  | cons c A ih =>
    cases k with
    | succ k => exact (ih k h).imp_left (List.mem_cons_of_mem _)
    | zero =>
      simp only [replaceAux] at h
      split at h
      · rcases List.mem_append.1 h with h | h
        · exact Or.inr h
        · exact (ih _ h).imp_left (List.mem_cons_of_mem _)
      · rcases List.mem_cons.1 h with h | h
        · exact Or.inl (h ▸ List.mem_cons_self)
        · exact (ih _ h).imp_left (List.mem_cons_of_mem _)

/-! ### occurrences -/

theorem occAux_skip (p : Str) (k : Nat) (s : Str) : occAux p k s = occAux p 0 (s.drop k) := by
  induction s generalizing k with
  | nil => cases k <;> simp [occAux]
  | cons c s ih =>
    cases k with
    | zero => simp
    | succ k => simp [occAux, ih k]

def occ (p s : Str) : Nat := occAux p 0 s

theorem splitCount_eq (p s : Str) : splitCount p s = occ p s + 1 := rfl

@[simp] theorem occ_nil (p : Str) : occ p [] = 0 := by simp [occ, occAux]

theorem occ_cons_of_not_prefix {p : Str} {c : Char} {s : Str} (h : p.isPrefixOf (c :: s) = false) :
    occ p (c :: s) = occ p s := by
  simp [occ, occAux, h]

theorem occ_of_prefix {p s : Str} (hp : p ≠ []) (h : p.isPrefixOf s = true) :
    occ p s = occ p (s.drop p.length) + 1 := by
  cases s with
  | nil => cases p <;> simp_all
  | cons c s =>
    obtain ⟨n, hn⟩ := length_eq_succ hp
    simp only [occ, occAux, h, if_true]
    rw [occAux_skip, hn, Nat.add_sub_cancel, List.drop_succ_cons]

theorem occ_append_pat {p : Str} (s : Str) (hp : p ≠ []) : occ p (p ++ s) = occ p s + 1 := by
  rw [occ_of_prefix hp (isPrefixOf_append_self p s)]
  simp

theorem occ_ctx {p A : Str} (B : Str) (h : NoStartCtx p A B) : occ p (A ++ B) = occ p B := by
  induction A with
  | nil => simp
  | cons c A ih =>
    rw [noStartCtx_cons] at h
    show occ p (c :: (A ++ B)) = _
    rw [occ_cons_of_not_prefix h.1, ih h.2]

theorem occ_noStart {p A : Str} (B : Str) (h : NoStart p A) : occ p (A ++ B) = occ p B :=
  occ_ctx B (h.ctx B)

theorem occ_eq_zero {p s : Str} {c : Char} (hc : c ∈ p) (hs : c ∉ s) : occ p s = 0 := by
  have := occ_ctx [] (noStartCtx_of_not_mem hc hs)
  simpa using this

/-! ### find -/

theorem find_of_prefix {p s : Str} (h : p.isPrefixOf s = true) : find p s = some 0 := by
  cases s <;> simp [find, h]

theorem find_cons_of_not_prefix {p : Str} {c : Char} {s : Str} (h : p.isPrefixOf (c :: s) = false) :
    find p (c :: s) = (find p s).map (· + 1) := by
  simp [find, h]

theorem find_ctx {p A : Str} (B : Str) (h : NoStartCtx p A B) :
    find p (A ++ B) = (find p B).map (· + A.length) := by
  induction A with
  | nil => simp
  | cons c A ih =>
    rw [noStartCtx_cons] at h
    show find p (c :: (A ++ B)) = _
    rw [find_cons_of_not_prefix h.1, ih h.2]
    cases find p B <;> simp [Nat.add_assoc]

theorem find_noStart_pat {p A : Str} (B : Str) (h : NoStart p A) :
    find p (A ++ (p ++ B)) = some A.length := by
  rw [find_ctx _ (h.ctx _), find_of_prefix (isPrefixOf_append_self p B)]
  simp

/-! ### one-character patterns -/

theorem find_char_none {q : Char} {s : Str} (h : q ∉ s) : find [q] s = none := by
  have := find_ctx [] (noStartCtx_of_not_mem (p := [q]) List.mem_cons_self h)
  simpa [find] using this

theorem find_char_first {q : Char} {g : Str} (Z : Str) (h : q ∉ g) : find [q] (g ++ q :: Z) = some g.length :=
  find_noStart_pat (p := [q]) Z (noStart_of_head_not_mem h)

theorem split_first {q : Char} {s : Str} (h : q ∈ s) : ∃ g t, s = g ++ q :: t ∧ q ∉ g := by
  induction s with
  | nil => simp at h
  | cons x s ih =>
    by_cases hx : x = q
    · exact ⟨[], s, by simp [hx], by simp⟩
    · have : q ∈ s := by simpa [Ne.symm hx] using h
      obtain ⟨g, t, rfl, hg⟩ := ih this
      exact ⟨x :: g, t, rfl, by simp [Ne.symm hx, hg]⟩

theorem find_char_some {q : Char} {s : Str} {k : Nat} (h : find [q] s = some k) :
    ∃ g t, s = g ++ q :: t ∧ q ∉ g ∧ g.length = k := by
  by_cases hq : q ∈ s
  · obtain ⟨g, t, rfl, hg⟩ := split_first hq
    rw [find_char_first _ hg] at h
    exact ⟨g, t, rfl, hg, by simpa using h⟩
  · rw [find_char_none hq] at h; cases h

/-! ### runs of one character -/

theorem rep_snoc (c : Char) (n : Nat) : rep c n ++ [c] = c :: rep c n := by
  show List.replicate n c ++ [c] = c :: List.replicate n c
  rw [← List.replicate_succ', List.replicate_succ]

theorem rep_succ_snoc (c : Char) (n : Nat) : rep c (n + 1) = rep c n ++ [c] := (rep_snoc c n).symm

theorem rep_add (c : Char) (m n : Nat) : rep c (m + n) = rep c m ++ rep c n :=
  (List.replicate_append_replicate ..).symm

/-- a run of `i` copies of `c` is not a prefix of a shorter run followed by another character -/
theorem rep_isPrefixOf_short {c d : Char} (hd : d ≠ c) (m i : Nat) (hmi : m < i) (W : Str) :
    (rep c i).isPrefixOf (rep c m ++ d :: W) = false := by
  induction m generalizing i with
  | zero =>
    obtain ⟨i, rfl⟩ : ∃ j, i = j + 1 := ⟨i - 1, by omega⟩
    exact isPrefixOf_cons_ne (Ne.symm hd)
  | succ m ih =>
    obtain ⟨i, rfl⟩ : ∃ j, i = j + 1 := ⟨i - 1, by omega⟩
    have := ih i (by omega)
    simp only [rep] at this ⊢
    simp [List.replicate_succ, this]

theorem noStartCtx_rep {c d : Char} (hd : d ≠ c) (m i : Nat) (hmi : m < i) (q W : Str) :
    NoStartCtx (rep c i ++ q) (rep c m) (d :: W) := by
  intro k hk
  have hk' : k < m := by simpa using hk
  refine Bool.eq_false_iff.2 fun hh => Bool.eq_false_iff.1 (rep_isPrefixOf_short hd (m - k) i (by omega) W) ?_
  rw [show rep c (m - k) = List.drop k (rep c m) by simp [rep]]
  exact isPrefixOf_append_left hh

theorem not_mem_rep {c d : Char} (h : d ≠ c) (n : Nat) : d ∉ rep c n := by
  simp [rep, List.mem_replicate]; intro _; exact h

theorem findP_cons_ne {c : Char} (h : c ≠ '[') (t : Str) : findP (· != '[') (c :: t) = some 0 := by
  simp [findP, h]

theorem findP_rep (a : Nat) (X : Str) :
    findP (· != '[') (rep '[' a ++ X) = (findP (· != '[') X).map (· + a) := by
  induction a with
  | zero => simp
  | succ a ih =>
    show findP (· != '[') ('[' :: (rep '[' a ++ X)) = _
    cases h : findP (· != '[') X <;> simp [findP, ih, h, Nat.add_assoc]

/-! ### `remove`, `split`, slices -/

theorem remove_append (c : Char) (A B : Str) : remove c (A ++ B) = remove c A ++ remove c B := by
  simp [remove]

theorem remove_rep_self (c : Char) (n : Nat) : remove c (rep c n) = [] := by
  simp [remove, rep]

theorem remove_of_not_mem {c : Char} {A : Str} (h : c ∉ A) : remove c A = A := by
  simp only [remove, List.filter_eq_self]
  intro x hx; simp only [bne_iff_ne, ne_eq]; intro e; exact h (e ▸ hx)

theorem remove_snoc_self {q : Char} {c : Str} (h : q ∉ c) : remove q (c ++ [q]) = c := by
  rw [remove_append, remove_of_not_mem h]; simp [remove]

theorem splitChar_of_not_mem {c : Char} {e : Str} (h : c ∉ e) : splitChar c e = [e] := by
  induction e with
  | nil => rfl
  | cons x e ih =>
    simp only [List.mem_cons, not_or] at h
    simp only [splitChar, if_neg (Ne.symm h.1), ih h.2]

theorem splitChar_append_sep {c : Char} {e : Str} (X : Str) (h : c ∉ e) :
    splitChar c (e ++ c :: X) = e :: splitChar c X := by
  induction e with
  | nil => simp [splitChar]
  | cons x e ih =>
    simp only [List.mem_cons, not_or] at h
    simp only [List.cons_append, splitChar, if_neg (Ne.symm h.1), ih h.2]

theorem sliceTo_append (A R T : Str) : sliceTo (A ++ (R ++ T)) (A.length + R.length) = .ok (A ++ R) := by
  unfold sliceTo
  rw [if_pos (by simp), ← List.append_assoc, ← List.length_append, List.take_left']
  rfl

/-- the slice and the range replacement that cut `c` out of `P ++ c ++ S`, with the bounds as the loops compute them -/
theorem slice_mid (X P c S : Str) (a b : Nat) (hX : X = P ++ c ++ S) (ha : a = P.length) (hb : b = P.length + c.length) :
    slice X a b = .ok c := by
  subst hX ha hb
  unfold slice
  rw [if_pos (by simp)]
  simp [List.append_assoc]

theorem replaceRange_mid (X P c S w : Str) (a b : Nat) (hX : X = P ++ c ++ S) (ha : a = P.length)
    (hb : b = P.length + c.length) : replaceRange X a b w = .ok (P ++ w ++ S) := by
  subst hX ha hb
  unfold replaceRange
  rw [if_pos (by simp), ← List.length_append, List.drop_left' rfl, List.append_assoc P c S, List.take_left' rfl]

theorem drop_mid (X P S : Str) (a : Nat) (hX : X = P ++ S) (ha : a = P.length) : X.drop a = S := by
  subst hX ha; exact List.drop_left' rfl

end ArrModel.C18
