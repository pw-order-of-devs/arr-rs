import ArrModel.Reshape
/-!
# Lemmas.Res — the outcome monad and the validating funnel

What every property needs of `Res` (inversion of `>>=`, `map`, `sequence`, `mapM'` on `ok`; "no panic" through a bind; `idx`
inside the list; folds of binds) and of `Arr.new` / `Arr.flat` / `Arr.reshape`.  `Res.All P x` ("every `ok` outcome of `x` satisfies `P`") carries goal-directed
rules, so that a post-condition of a long chain of binds and guards is proved by walking the term once, without inverting it.
Core Lean only.
-/
namespace ArrModel
universe u v
variable {α β γ : Type u} {ι : Type v}

namespace Res

theorem bind_eq_ok {x : Res α} {f : α → Res β} {r : β} (h : (x >>= f) = .ok r) : ∃ a, x = .ok a ∧ f a = .ok r := by
  cases x with
  | ok a => exact ⟨a, rfl, h⟩
  | err e => cases h
  | panic => cases h

theorem bind_eq_ok_iff {x : Res α} {f : α → Res β} {r : β} : (x >>= f) = .ok r ↔ ∃ a, x = .ok a ∧ f a = .ok r :=
  ⟨bind_eq_ok, fun ⟨_, hx, hf⟩ => hx ▸ hf⟩

theorem map_eq_ok {x : Res α} {f : α → β} {r : β} (h : x.map f = .ok r) : ∃ a, x = .ok a ∧ f a = r := by
  cases x with
  | ok a => exact ⟨a, rfl, Res.ok.inj h⟩
  | err e => cases h
  | panic => cases h

theorem bind_ne_panic {x : Res α} {f : α → Res β} (hx : x ≠ .panic) (hf : ∀ a, x = .ok a → f a ≠ .panic) :
    (x >>= f) ≠ .panic := by
  cases x with
  | ok a => exact hf a rfl
  | err e => exact fun h => nomatch h
  | panic => exact absurd rfl hx

theorem ite_ne_panic {c : Prop} [Decidable c] {t e : Res α} (ht : c → t ≠ .panic) (he : ¬c → e ≠ .panic) :
    (if c then t else e) ≠ .panic := by
  split
  · exact ht ‹_›
  · exact he ‹_›

theorem bind_assoc (x : Res α) (f : α → Res β) (g : β → Res γ) : (x >>= f >>= g) = x >>= fun a => f a >>= g := by
  cases x <;> rfl

theorem bind_pure (x : Res α) : (x >>= fun a => Res.ok a) = x := by cases x <;> rfl

theorem bind_ok_eq_map (x : Res α) (g : α → β) : (x >>= fun a => Res.ok (g a)) = x.map g := by cases x <;> rfl

theorem map_map (f : α → β) (g : β → γ) (x : Res α) : (x.map f).map g = x.map (fun a => g (f a)) := by
  cases x <;> rfl

theorem map_ne_panic {x : Res α} (f : α → β) (h : x ≠ .panic) : x.map f ≠ .panic := by
  cases x with
  | ok v => exact nofun
  | err e => exact nofun
  | panic => exact absurd rfl h

theorem ne_panic_of_ok {x : Res α} {r : α} (h : x = .ok r) : x ≠ .panic := fun hp => nomatch h.symm.trans hp

theorem ne_panic_of_err {x : Res α} (h : ∃ e, x = .err e) : x ≠ .panic :=
  fun hp => have ⟨_, he⟩ := h; nomatch he.symm.trans hp

/-- "`ok` with a property, or an error value" excludes a panic -/
theorem ne_panic_of_total {x : Res α} {P : α → Prop} (h : (∃ r, x = .ok r ∧ P r) ∨ ∃ e, x = .err e) : x ≠ .panic :=
  h.elim (fun ⟨_, hr, _⟩ => ne_panic_of_ok hr) ne_panic_of_err

/-- "answers with an error value" through a guard: the counterpart of `ite_ne_panic` -/
theorem err_ite {c : Prop} [Decidable c] {t e : Res α} (ht : c → ∃ x, t = .err x) (he : ¬c → ∃ x, e = .err x) :
    ∃ x, (if c then t else e) = .err x := by
  split
  · exact ht ‹_›
  · exact he ‹_›

/-! ### `sequence`, `mapM'` -/

theorem sequence_cons (x : Res α) (xs : List (Res α)) :
    sequence (x :: xs) = x >>= fun a => sequence xs >>= fun as => ok (a :: as) := rfl

theorem sequence_map_ok (l : List α) : sequence (l.map Res.ok) = .ok l := by
  induction l with
  | nil => rfl
  | cons x xs ih => simp only [List.map_cons, sequence, ih, bind_ok]

/-- an `ok` sequence lists the `ok` values of its members, in order -/
theorem sequence_eq_ok {l : List (Res α)} {r : List α} (h : sequence l = .ok r) : l = r.map Res.ok := by
  induction l generalizing r with
  | nil => cases h; rfl
  | cons x xs ih =>
    rw [sequence_cons] at h
    obtain ⟨a, rfl, h⟩ := bind_eq_ok h
    obtain ⟨as, hxs, h⟩ := bind_eq_ok (x := sequence xs) h
    rw [← Res.ok.inj h, ih hxs]; rfl

theorem mapM'_ok {f : ι → Res α} {g : ι → α} {l : List ι} (h : ∀ x ∈ l, f x = .ok (g x)) : mapM' f l = .ok (l.map g) := by
  unfold mapM'
  rw [List.map_congr_left h]
  exact (congrArg Res.sequence (List.map_map (f := g) (g := Res.ok)).symm).trans (sequence_map_ok _)

theorem sequence_ne_panic {l : List (Res α)} (h : ∀ x ∈ l, x ≠ .panic) : sequence l ≠ .panic := by
  induction l with
  | nil => exact fun h => nomatch h
  | cons x xs ih =>
    refine bind_ne_panic (h x List.mem_cons_self) fun _ _ => bind_ne_panic (ih fun y hy => h y (List.mem_cons_of_mem _ hy)) ?_
    exact fun _ _ h => nomatch h

theorem mapM'_ne_panic {f : ι → Res α} {l : List ι} (h : ∀ x ∈ l, f x ≠ .panic) : mapM' f l ≠ .panic :=
  sequence_ne_panic fun _ hy => have ⟨x, hx, e⟩ := List.mem_map.mp hy; e ▸ h x hx

theorem mapM'_first_err (f : ι → Res α) (e : Err) : ∀ (l : List ι), l ≠ [] → (∀ x ∈ l, f x = .err e) → mapM' f l = .err e
  | [], h, _ => absurd rfl h
  | x :: xs, _, h => by
    unfold mapM'
    simp only [List.map_cons, sequence, h x List.mem_cons_self, bind_err]

/-! ### post-conditions -/

/-- every `ok` outcome satisfies `P` (unfolds to `∀ r, x = .ok r → P r`, the form the `_wf` lemmas are stated in) -/
def All (P : α → Prop) (x : Res α) : Prop := ∀ r, x = .ok r → P r

namespace All
variable {P : α → Prop} {Q : β → Prop}

theorem ok {a : α} (h : P a) : All P (.ok a) := fun _ e => Res.ok.inj e ▸ h
theorem err {e : Err} : All P (.err e) := nofun
theorem panic : All P .panic := nofun

theorem imp {P' : α → Prop} {x : Res α} (h : All P x) (hi : ∀ a, P a → P' a) : All P' x := fun r e => hi r (h r e)

/-- through a bind: what the first stage guarantees may be used for the second -/
theorem bind {x : Res α} {f : α → Res β} (hx : All P x) (hf : ∀ a, P a → All Q (f a)) : All Q (x >>= f) :=
  fun r e => have ⟨a, ha, hr⟩ := bind_eq_ok e; hf a (hx a ha) r hr

/-- … or nothing is needed of the first stage -/
theorem bind' {x : Res α} {f : α → Res β} (hf : ∀ a, All Q (f a)) : All Q (x >>= f) :=
  fun r e => have ⟨a, _, hr⟩ := bind_eq_ok e; hf a r hr

theorem ite {c : Prop} [Decidable c] {t e : Res α} (ht : c → All P t) (he : ¬c → All P e) : All P (if c then t else e) := by
  split
  · exact ht ‹_›
  · exact he ‹_›

theorem ite' {c : Prop} [Decidable c] {t e : Res α} (ht : All P t) (he : All P e) : All P (if c then t else e) :=
  ite (fun _ => ht) (fun _ => he)

theorem map {x : Res α} {f : α → β} (hx : All (fun a => Q (f a)) x) : All Q (x.map f) :=
  fun _ e => have ⟨a, ha, hr⟩ := map_eq_ok e; hr ▸ hx a ha

theorem sequence {l : List (Res α)} (h : ∀ x ∈ l, All P x) : All (fun r => ∀ a ∈ r, P a) (sequence l) := by
  intro _ e a ha
  exact h (.ok a) (sequence_eq_ok e ▸ List.mem_map_of_mem ha) a rfl

theorem mapM' {f : ι → Res α} {l : List ι} (h : ∀ i ∈ l, All P (f i)) : All (fun r => ∀ a ∈ r, P a) (mapM' f l) :=
  sequence fun _ hx => have ⟨i, hi, e⟩ := List.mem_map.mp hx; e ▸ h i hi

end All

/-! ### `idx` -/

theorem idx_of_lt {l : List α} {i : Nat} (h : i < l.length) : idx l i = .ok l[i] := by
  unfold idx; rw [List.getElem?_eq_getElem h]

theorem idx_eq_getD {l : List α} {i : Nat} (d : α) (h : i < l.length) : idx l i = .ok (l.getD i d) := by
  rw [idx_of_lt h, List.getD_eq_getElem?_getD, List.getElem?_eq_getElem h, Option.getD_some]

theorem idx_ne_panic {l : List α} {i : Nat} (h : i < l.length) : idx l i ≠ .panic := by
  rw [idx_of_lt h]
  nofun

theorem idx_mem {l : List α} {i : Nat} : All (· ∈ l) (idx l i) := by
  unfold idx
  split
  · exact .ok (List.mem_of_getElem? ‹_›)
  · exact .panic

/-! ### folds of binds: `l.foldl (fun acc x => acc >>= step x) acc` -/

/-- what every `· >>= step i` keeps, the fold keeps -/
theorem foldl_bind_induction {J : Res γ → Prop} {step : ι → γ → Res γ} {l : List ι}
    (hs : ∀ i ∈ l, ∀ x, J x → J (x >>= step i)) {acc : Res γ} (h : J acc) : J (l.foldl (fun acc x => acc >>= step x) acc) := by
  induction l generalizing acc with
  | nil => exact h
  | cons x xs ih => exact ih (fun i hi => hs i (List.mem_cons_of_mem _ hi)) (hs x List.mem_cons_self _ h)

/-- an invariant of the state that every step keeps holds of the fold's `ok` outcome; the steps may panic -/
theorem All.foldl_bind {I : γ → Prop} {step : ι → γ → Res γ} {l : List ι} (hs : ∀ i ∈ l, ∀ g, I g → All I (step i g))
    {acc : Res γ} (h : All I acc) : All I (l.foldl (fun acc x => acc >>= step x) acc) :=
  foldl_bind_induction (J := All I) (fun i hi _ hx => hx.bind (hs i hi)) h

/-- the same with "no panic": if moreover no step panics on a state that satisfies the invariant, the fold does not panic -/
theorem foldl_bind_inv (P : γ → Prop) (step : ι → γ → Res γ) (l : List ι)
    (hs : ∀ i ∈ l, ∀ g, P g → step i g ≠ .panic ∧ ∀ g', step i g = .ok g' → P g') (acc : Res γ)
    (h : acc ≠ .panic ∧ ∀ g, acc = .ok g → P g) :
    l.foldl (fun acc x => acc >>= step x) acc ≠ .panic ∧ ∀ g, l.foldl (fun acc x => acc >>= step x) acc = .ok g → P g :=
  foldl_bind_induction (J := fun x => x ≠ .panic ∧ ∀ g, x = .ok g → P g)
    (fun i hi _ hx => ⟨bind_ne_panic hx.1 fun g hg => (hs i hi g (hx.2 g hg)).1,
      fun g hg => have ⟨g₀, h₀, hg⟩ := bind_eq_ok hg; (hs i hi g₀ (hx.2 g₀ h₀)).2 g hg⟩) h

/-- a fold of steps none of which panics -/
theorem foldl_bind_ne_panic {step : ι → γ → Res γ} {l : List ι} (hs : ∀ i ∈ l, ∀ g, step i g ≠ .panic) (g : γ) :
    l.foldl (fun acc x => acc >>= step x) (.ok g) ≠ .panic :=
  (foldl_bind_inv (fun _ => True) step l (fun i hi g _ => ⟨hs i hi g, fun _ _ => trivial⟩) (.ok g) ⟨nofun, fun _ _ => trivial⟩).1

/-- a state that is not `ok` never becomes `ok` again -/
theorem foldl_bind_not_ok (step : ι → γ → Res γ) (l : List ι) (acc : Res γ) (h : ∀ g, acc ≠ .ok g) (g : γ) :
    l.foldl (fun acc x => acc >>= step x) acc ≠ .ok g :=
  foldl_bind_induction (J := fun x => ∀ g, x ≠ .ok g) (fun _ _ _ hx _ hg => have ⟨g₀, h₀, _⟩ := bind_eq_ok hg; hx g₀ h₀) h g

/-- one step that never answers `ok` blocks the whole fold -/
theorem foldl_bind_blocked (step : ι → γ → Res γ) (l : List ι) (b : ι) (hb : b ∈ l) (hblock : ∀ g g', step b g ≠ .ok g')
    (acc : Res γ) (g : γ) : l.foldl (fun acc x => acc >>= step x) acc ≠ .ok g := by
  induction l generalizing acc with
  | nil => cases hb
  | cons x xs ih =>
    rcases List.mem_cons.mp hb with rfl | h
    · exact foldl_bind_not_ok step xs _ (fun g hg => have ⟨g₀, _, h₁⟩ := bind_eq_ok hg; hblock g₀ g h₁) g
    · exact ih h _

/-- steps that hand the state on unchanged -/
theorem foldl_bind_id (step : ι → γ → Res γ) (l : List ι) (hs : ∀ i ∈ l, ∀ g, step i g = .ok g) (g : γ) :
    l.foldl (fun acc x => acc >>= step x) (.ok g) = .ok g := by
  induction l with
  | nil => rfl
  | cons x xs ih =>
    rw [List.foldl_cons, bind_ok, hs x List.mem_cons_self g]
    exact ih fun i hi => hs i (List.mem_cons_of_mem _ hi)

end Res

namespace Arr
variable {α : Type}

theorem new_eq_ok_iff {e : List α} {s : List Nat} {r : Arr α} : Arr.new e s = .ok r ↔ s.prod = e.length ∧ r = ⟨e, s⟩ := by
  unfold Arr.new
  split
  · simp only [Res.ok.injEq, true_and, *]; exact eq_comm
  · simp only [false_and, *]; exact ⟨nofun, False.elim⟩

theorem new_of_prod {e : List α} {s : List Nat} (h : s.prod = e.length) : Arr.new e s = .ok ⟨e, s⟩ := if_pos h

theorem new_of_not_prod {e : List α} {s : List Nat} (h : s.prod ≠ e.length) :
    Arr.new e s = .err .ShapeMustMatchValuesLength := if_neg h

theorem new_ne_panic (e : List α) (s : List Nat) : Arr.new e s ≠ .panic := by
  unfold Arr.new; split <;> exact fun h => nomatch h

theorem new_wf {e : List α} {s : List Nat} {r : Arr α} (h : Arr.new e s = .ok r) : r.WF := by
  obtain ⟨hp, rfl⟩ := new_eq_ok_iff.mp h; exact hp.symm

theorem flat_wf (l : List α) : (Arr.flat l).WF := (List.prod_singleton).symm

theorem ravel_wf (a : Arr α) : a.ravel.WF := flat_wf _

theorem reshape_eq_ok_iff {a r : Arr α} {s : List Nat} : a.reshape s = .ok r ↔ s.prod = a.elems.length ∧ r = ⟨a.elems, s⟩ :=
  new_eq_ok_iff

theorem reshape_wf {a r : Arr α} {s : List Nat} (h : a.reshape s = .ok r) : r.WF := new_wf h

theorem reshape_of_prod {a : Arr α} {s : List Nat} (hwf : a.WF) (h : s.prod = a.shape.prod) : a.reshape s = .ok ⟨a.elems, s⟩ :=
  new_of_prod (h.trans hwf.symm)

theorem reshape_ne_panic (a : Arr α) (s : List Nat) : a.reshape s ≠ .panic := new_ne_panic _ _

end Arr
end ArrModel
