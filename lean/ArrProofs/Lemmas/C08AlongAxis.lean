import ArrProofs.Lemmas.C08List
import ArrProofs.Props.C06
/-!
# `apply_along_axis` (C08; reused by C10 / C13 / C19)

After the axis guard, `apply_along_axis(axis, f)` (`Arr.applyAlongAxis`) does, in this order:
1. `moveaxis([axis], [ndim])`: the axis goes last (`moveLast_spec`);
2. `ravel().split(parts, None)`, `parts` the product of the other axes `rest`: the buffer is cut into lanes (`split_flat_even`);
3. `f` on every lane;
4. the answers are flattened and reshaped to `rest ++ [length of the first answer]`;
5. the last axis goes back to `axis`, by `rollaxis` when `axis = 0` and by `moveaxis` otherwise (`moveBack`, `moveBack_spec`).
`alongAssemble` is steps 4 and 5 as a function of the list of answers.  The sections follow this order.

`applyAlongAxis_eq`, the lane normal form: on a well-formed array and an axis inside the rank the call is
`split` of the moved buffer into lanes, `mapM' f` over the lanes, `alongAssemble` of the answers.  Everything else about
`apply_along_axis` is read off it (`applyAlongAxis_chunks` here, the zero-length cases and the total statement in `C08Empty`).

`applyAlongAxis_spec`, the central lemma: on a well-formed array without zero-length axes, for a lane function `f` that
succeeds on every lane with an output of `m` elements, `a.applyAlongAxis zero zb axis f` succeeds, the result has shape
`a.shape.set axis m`, is well formed, and its element at coordinate `c` is element number `c[axis]` of `f` applied to the
lane of `a` through `c` (`laneOf a axis c`, the elements at `c.set axis 0, c.set axis 1, …`).
-/
namespace ArrModel
open Arr
variable {α β : Type}

/-! ### the axis goes last -/

theorem moveLast_spec (a : Arr α) (zero : α) (axis : Nat) (hwf : a.WF) (hax : axis < a.ndim) :
    ∃ arr, a.moveaxis zero [Int.ofNat axis] [Int.ofNat a.ndim] = .ok arr ∧
      arr.shape = a.shape.eraseIdx axis ++ [a.shape.getD axis 0] ∧ arr.WF ∧
      ∀ c, inRange a.shape c = true → arr.get? (c.eraseIdx axis ++ [c.getD axis 0]) = a.get? c := by
  -- the destination `ndim` is clamped to the last position
  obtain ⟨r, h1, h2, h3, h4⟩ := C06.moveaxis_single a zero (Int.ofNat axis) (Int.ofNat a.ndim) hwf axis (a.ndim - 1)
    (normalizeAxis_ofNat _ _).symm hax (by rw [normalizeAxis_ofNat]; exact (Nat.min_eq_right (Nat.sub_le _ _)).symm)
  refine ⟨r, h1, ?_, h3, fun c hc => ?_⟩
  · exact h2.trans (insertIdx_eraseIdx_last _ _ _ hax)
  · rw [← h4 c hc, ← insertIdx_eraseIdx_last c axis _ (by rw [inRange_length _ _ hc]; exact hax), inRange_length _ _ hc]
    rfl

/-! ### ravel and cut into lanes -/

theorem rollaxis_flat_id (L : List α) (zero : α) : (Arr.flat L).rollaxis zero (Int.ofNat 0) none = .ok (Arr.flat L) := by
  obtain ⟨r, h1, h2, h3, h4⟩ := C06.rollaxis_spec (Arr.flat L) zero (Int.ofNat 0) none (Arr.flat_wf L) 0 0
    (normalizeAxis_ofNat _ 0).symm rfl Nat.one_pos Nat.one_pos
  have hs : r.shape = [L.length] := h2
  refine h1.trans (congrArg Res.ok (Arr.ext_get r _ h3 (Arr.flat_wf L) hs fun c hc => ?_))
  rw [hs] at hc
  obtain ⟨x, rfl⟩ := List.length_eq_one_iff.1 (inRange_length _ _ hc)
  exact h4 [x] hc

/-- `split(parts, None)` after its two guards (rank ≥ 1, `parts ≠ 0`) -/
theorem split_none_eq (a : Arr α) (zero : α) (parts : Nat) (hnd : 0 < a.ndim) (hp : parts ≠ 0) :
    a.split zero parts none =
      if a.isEmpty then .ok [a]
      else Res.idx a.shape 0 >>= fun n => if n % parts = 0 then a.arraySplit zero parts none else .err .ParameterError := by
  unfold Arr.split
  rw [if_neg (by rw [decide_eq_true_eq]; exact Nat.not_le_of_lt hnd), if_neg hp]
  rfl

/-- `array_split(parts, None)` of a non-empty 1-D array: the slices between consecutive cut points -/
theorem arraySplit_flat (L : List α) (zero : α) (parts : Nat) (hp : parts ≠ 0) (hne : L ≠ []) :
    (Arr.flat L).arraySplit zero parts none =
      Res.mapM' (fun w : Nat × Nat => Res.ok (Arr.flat ((L.drop (w.1 * 1)).take ((w.2 - w.1) * 1))))
        (windows2 (divPoints (sectionSizes L.length parts))) := by
  unfold Arr.arraySplit
  rw [if_neg hp, if_neg (by rw [decide_eq_true_eq]; exact Nat.not_le_of_lt Nat.one_pos), if_neg (by rw [isEmpty_flat]; exact mt List.isEmpty_iff.1 hne)]
  show (Res.ok L.length >>= fun nTotal => _) = _
  rw [Res.bind_ok, show (Arr.flat L).len = L.length from rfl, Nat.div_self (List.length_pos_of_ne_nil hne)]
  show ((Arr.flat L).rollaxis zero (Int.ofNat 0) none >>= _) = _
  rw [rollaxis_flat_id, Res.bind_ok]
  rfl

/-- `ravel().split(parts, None)` on a buffer of `P * n` elements: the `P` consecutive chunks of width `n` -/
theorem split_flat_even (L : List α) (zero : α) (P n : Nat) (hP : 0 < P) (hn : 0 < n) (hL : L.length = P * n) :
    (Arr.flat L).split zero P none = .ok ((List.range P).map (fun k => Arr.flat ((L.drop (k * n)).take n))) := by
  have hne : L ≠ [] := List.ne_nil_of_length_pos (hL ▸ Nat.mul_pos hP hn)
  rw [split_none_eq (Arr.flat L) zero P Nat.one_pos (Nat.pos_iff_ne_zero.1 hP), if_neg (by rw [isEmpty_flat]; exact mt List.isEmpty_iff.1 hne)]
  show (Res.ok L.length >>= fun n => _) = _
  rw [Res.bind_ok, hL, if_pos (Nat.mul_mod_right P n), arraySplit_flat L zero P (Nat.pos_iff_ne_zero.1 hP) hne, hL,
    sectionSizes_even P n hP, windows2_divPoints_even]
  refine (Res.mapM'_ok (g := fun w : Nat × Nat => Arr.flat ((L.drop (w.1 * 1)).take ((w.2 - w.1) * 1))) fun _ _ => rfl).trans
    (congrArg Res.ok ?_)
  rw [List.map_map]
  refine List.map_congr_left fun k _ => ?_
  show Arr.flat ((L.drop (k * n * 1)).take (((k + 1) * n - k * n) * 1)) = _
  rw [Nat.mul_one, Nat.mul_one, Nat.succ_mul, Nat.add_sub_cancel_left]

/-! ### the lane through a coordinate -/

/-- the lane of `a` along `axis` through coordinate `c`: the elements at `c` with coordinate `axis` replaced by
`0, 1, …, a.shape[axis] - 1` (the value of `c[axis]` itself is irrelevant) -/
def laneOf (a : Arr α) (axis : Nat) (c : List Nat) : List α :=
  (List.range (a.shape.getD axis 0)).filterMap (fun j => a.get? (c.set axis j))

theorem inRange_set_axis (s c : List Nat) (axis m j : Nat) (h : inRange (s.set axis m) c = true) (hj : j < s.getD axis 0) :
    inRange s (c.set axis j) = true := by
  have := inRange_set (s.set axis m) c axis (s.getD axis 0) j h hj
  rwa [List.set_set, set_getD_self] at this

theorem get?_isSome_of_inRange (a : Arr α) (hwf : a.WF) (c : List Nat) (h : inRange a.shape c = true) : (a.get? c).isSome = true := by
  rw [Arr.get?, List.getElem?_eq_getElem (hwf ▸ ravel_lt _ _ h)]
  rfl

theorem laneOf_length (a : Arr α) (axis m : Nat) (c : List Nat) (hwf : a.WF) (hc : inRange (a.shape.set axis m) c = true) :
    (laneOf a axis c).length = a.shape.getD axis 0 := by
  unfold laneOf
  rw [length_filterMap_of_isSome, List.length_range]
  intro j hj
  exact get?_isSome_of_inRange a hwf _ (inRange_set_axis _ _ _ _ _ hc (List.mem_range.1 hj))

theorem laneOf_set (a : Arr α) (axis : Nat) (c : List Nat) (j : Nat) : laneOf a axis (c.set axis j) = laneOf a axis c := by
  unfold laneOf
  simp only [List.set_set]

/-- element `j` of the lane through `c` is the element of `a` at `c` with coordinate `axis` set to `j` -/
theorem laneOf_getElem? (a : Arr α) (axis m : Nat) (c : List Nat) (hwf : a.WF) (hc : inRange (a.shape.set axis m) c = true)
    (j : Nat) (hj : j < a.shape.getD axis 0) : (laneOf a axis c)[j]? = a.get? (c.set axis j) := by
  unfold laneOf
  rw [getElem?_filterMap_of_isSome]
  · rw [List.getElem?_range hj]; rfl
  · intro k hk
    exact get?_isSome_of_inRange a hwf _ (inRange_set_axis _ _ _ _ _ hc (List.mem_range.1 hk))

/-- after the axis has been moved last, chunk number `ravel rest (c without axis)` of the buffer is the lane through `c` -/
theorem chunk_eq_lane (a arr : Arr α) (axis m : Nat) (c : List Nat) (hax : axis < a.ndim)
    (hs : arr.shape = a.shape.eraseIdx axis ++ [a.shape.getD axis 0])
    (hget : ∀ c, inRange a.shape c = true → arr.get? (c.eraseIdx axis ++ [c.getD axis 0]) = a.get? c)
    (hc : inRange (a.shape.set axis m) c = true) :
    (arr.elems.drop (ravel (a.shape.eraseIdx axis) (c.eraseIdx axis) * a.shape.getD axis 0)).take (a.shape.getD axis 0)
      = laneOf a axis c := by
  rw [chunk_eq_filterMap]
  unfold laneOf
  apply List.filterMap_congr
  intro j hj
  have hcl : c.length = a.shape.length := (inRange_length _ _ hc).trans List.length_set
  have := hget _ (inRange_set_axis _ _ _ _ _ hc (List.mem_range.1 hj))
  rw [List.eraseIdx_set_eq, getD_set_self c axis j (hcl ▸ hax)] at this
  rw [← this, Arr.get?, hs, ravel_append_singleton _ _ _ _
    (by rw [List.length_eraseIdx_of_lt hax, List.length_eraseIdx_of_lt (hcl ▸ hax), hcl])]

/-! ### the lane answers: flatten, reshape, move the last axis back -/

/-- step 5: axis number `last` of `p` (its last one) goes to position `axis`; the code has an arm of its own for `axis = 0` -/
def moveBack (p : Arr β) (zb : β) (last axis : Nat) : Res (Arr β) :=
  if axis = 0 then p.rollaxis zb (Int.ofNat last) none
  else p.moveaxis zb [Int.ofNat last] [Int.ofNat axis]

theorem moveBack_spec (p : Arr β) (zb : β) (s' : List Nat) (m axis : Nat) (hwf : p.WF) (hs : p.shape = s' ++ [m])
    (hax : axis ≤ s'.length) :
    ∃ r, moveBack p zb s'.length axis = .ok r ∧ r.shape = s'.insertIdx axis m ∧ r.WF ∧
      ∀ c' j, inRange s' c' = true → j < m → r.get? (c'.insertIdx axis j) = p.get? (c' ++ [j]) := by
  have hnd : p.ndim = s'.length + 1 := by rw [Arr.ndim, hs, List.length_append]; rfl
  -- both arms take the last coordinate out and re-insert it at `axis`
  obtain ⟨r, h1, h2, h3, h4⟩ : ∃ r, moveBack p zb s'.length axis = .ok r ∧
      r.shape = (p.shape.eraseIdx s'.length).insertIdx axis (p.shape.getD s'.length 0) ∧ r.WF ∧
      ∀ c, inRange p.shape c = true → r.get? ((c.eraseIdx s'.length).insertIdx axis (c.getD s'.length 0)) = p.get? c := by
    unfold moveBack
    by_cases h0 : axis = 0
    · rw [if_pos h0, h0]
      exact C06.rollaxis_spec p zb _ none hwf _ 0 (normalizeAxis_ofNat _ _).symm rfl (by omega) (by omega)
    · rw [if_neg h0]
      exact C06.moveaxis_single p zb _ _ hwf _ axis (normalizeAxis_ofNat _ _).symm (by omega)
        (by rw [normalizeAxis_ofNat, hnd]; omega)
  rw [hs, eraseIdx_concat_length, getD_concat _ _ _ rfl] at h2
  refine ⟨r, h1, h2, h3, fun c' j hc hj => ?_⟩
  have hl := inRange_length _ _ hc
  have := h4 (c' ++ [j]) (by rw [hs, inRange_append_singleton _ _ _ _ hl.symm, hc, decide_eq_true hj]; rfl)
  rwa [← hl, eraseIdx_concat_length, getD_concat _ _ _ rfl] at this

/-- steps 4 and 5 on the list of lane answers -/
def alongAssemble (zb : β) (rest : List Nat) (axis : Nat) (outs : List (Arr β)) : Res (Arr β) :=
  Res.idx outs 0 >>= fun p0 =>
  (Arr.flat (outs.flatMap (·.elems))).reshape (rest ++ [p0.len]) >>= fun p =>
  moveBack p zb rest.length axis

theorem alongAssemble_cons (zb : β) (rest : List Nat) (axis : Nat) (p0 : Arr β) (t : List (Arr β)) :
    alongAssemble zb rest axis (p0 :: t) =
      Arr.new ((p0 :: t).flatMap (·.elems)) (rest ++ [p0.len]) >>= fun p => moveBack p zb rest.length axis := rfl

/-- the `P` lane answers (each of `m` elements) are written back along the axis -/
theorem alongAssemble_uniform (zb : β) (outs : List (Arr β)) (rest : List Nat) (m axis : Nat)
    (hlen : outs.length = rest.prod) (hpos : 0 < rest.prod) (hm : ∀ x ∈ outs, x.elems.length = m) (hax : axis ≤ rest.length) :
    ∃ r, alongAssemble zb rest axis outs = .ok r ∧ r.shape = rest.insertIdx axis m ∧ r.WF ∧
      ∀ c' j, inRange rest c' = true → j < m →
        ∃ (h : ravel rest c' < outs.length), r.get? (c'.insertIdx axis j) = (outs[ravel rest c']).elems[j]? := by
  have hl : (outs.flatMap (·.elems)).length = (rest ++ [m]).prod := by
    rw [length_flatMap_uniform _ m outs hm, hlen, List.prod_append, List.prod_singleton]
  obtain ⟨r, hr1, hr2, hr3, hr4⟩ := moveBack_spec ⟨outs.flatMap (·.elems), rest ++ [m]⟩ zb rest m axis hl rfl hax
  refine ⟨r, ?_, hr2, hr3, fun c' j hc hj => ?_⟩
  · obtain ⟨p0, t, rfl⟩ := List.exists_cons_of_ne_nil (List.ne_nil_of_length_pos (hlen ▸ hpos))
    rw [alongAssemble_cons, show p0.len = m from hm _ List.mem_cons_self, Arr.new_of_prod hl.symm]
    exact hr1
  · have hk : ravel rest c' < outs.length := hlen ▸ ravel_lt _ _ hc
    refine ⟨hk, (hr4 c' j hc hj).trans ?_⟩
    rw [Arr.get?, ravel_append_singleton _ _ _ _ (inRange_length _ _ hc).symm]
    exact getElem?_flatMap_uniform (·.elems) m outs _ j hk hm hj

/-! ### the lane normal form and the central lemma -/

theorem length_eraseIdx_ndim (a : Arr α) (axis : Nat) (hax : axis < a.ndim) : (a.shape.eraseIdx axis).length = a.ndim - 1 :=
  List.length_eraseIdx_of_lt hax

theorem applyAlongAxis_axis_err (a : Arr α) (zero : α) (zb : β) (axis : Nat) (f : Arr α → Res (Arr β)) (h : a.ndim ≤ axis) :
    a.applyAlongAxis zero zb axis f = .err .AxisOutOfBounds := by
  unfold Arr.applyAlongAxis
  rw [if_pos h]

/-- **lane normal form**: on a well-formed array and an axis inside the rank, `apply_along_axis` moves the axis last (`arr`),
cuts the buffer of `arr` into lanes, maps `f` over them and assembles the answers -/
theorem applyAlongAxis_eq (a : Arr α) (zero : α) (zb : β) (axis : Nat) (hwf : a.WF) (hax : axis < a.ndim) :
    ∃ arr : Arr α, arr.shape = a.shape.eraseIdx axis ++ [a.shape.getD axis 0] ∧ arr.WF ∧
      (∀ c, inRange a.shape c = true → arr.get? (c.eraseIdx axis ++ [c.getD axis 0]) = a.get? c) ∧
      ∀ f : Arr α → Res (Arr β), a.applyAlongAxis zero zb axis f =
        (Arr.flat arr.elems).split zero (a.shape.eraseIdx axis).prod none >>= fun lanes =>
          Res.mapM' f lanes >>= alongAssemble zb (a.shape.eraseIdx axis) axis := by
  obtain ⟨arr, ha1, ha2, ha3, ha4⟩ := moveLast_spec a zero axis hwf hax
  refine ⟨arr, ha2, ha3, ha4, fun f => ?_⟩
  unfold Arr.applyAlongAxis alongAssemble moveBack
  rw [if_neg (Nat.not_le_of_lt hax), ha1, Res.bind_ok, ha2, ← length_eraseIdx_ndim a axis hax]
  simp only [set_concat _ _ _ _ rfl]
  rfl

/-- without a zero-length axis the lanes are the consecutive chunks of the moved buffer -/
theorem applyAlongAxis_chunks (a : Arr α) (zero : α) (zb : β) (axis : Nat) (hwf : a.WF) (hax : axis < a.ndim) (hnz : 0 ∉ a.shape) :
    ∃ arr : Arr α, arr.shape = a.shape.eraseIdx axis ++ [a.shape.getD axis 0] ∧
      arr.elems.length = (a.shape.eraseIdx axis).prod * a.shape.getD axis 0 ∧
      (∀ c, inRange a.shape c = true → arr.get? (c.eraseIdx axis ++ [c.getD axis 0]) = a.get? c) ∧
      ∀ f : Arr α → Res (Arr β), a.applyAlongAxis zero zb axis f =
        Res.mapM' f ((List.range (a.shape.eraseIdx axis).prod).map
          (fun k => Arr.flat ((arr.elems.drop (k * a.shape.getD axis 0)).take (a.shape.getD axis 0)))) >>=
          alongAssemble zb (a.shape.eraseIdx axis) axis := by
  obtain ⟨arr, ha2, ha3, ha4, h⟩ := applyAlongAxis_eq a zero zb axis hwf hax
  have hL : arr.elems.length = (a.shape.eraseIdx axis).prod * a.shape.getD axis 0 := by
    rw [ha3, ha2, List.prod_append, List.prod_singleton]
  refine ⟨arr, ha2, hL, ha4, fun f => ?_⟩
  rw [h, split_flat_even arr.elems zero _ _ (prod_pos_of_not_mem _ (not_mem_eraseIdx _ _ hnz)) (getD_mem_pos _ _ hax hnz) hL,
    Res.bind_ok]

/-- **the central lemma**: `apply_along_axis` applies `f` to every lane and writes the `m` outputs back along the axis -/
theorem applyAlongAxis_spec (a : Arr α) (zero : α) (zb : β) (axis m : Nat) (f : Arr α → Res (Arr β))
    (hwf : a.WF) (hax : axis < a.ndim) (hnz : 0 ∉ a.shape)
    (hf : ∀ lane : List α, lane.length = a.shape.getD axis 0 → ∃ r, f (Arr.flat lane) = .ok r ∧ r.elems.length = m) :
    ∃ r, a.applyAlongAxis zero zb axis f = .ok r ∧ r.shape = a.shape.set axis m ∧ r.WF ∧
      ∀ c, inRange r.shape c = true →
        ∃ y, f (Arr.flat (laneOf a axis c)) = .ok y ∧ r.get? c = y.elems[c.getD axis 0]? := by
  have hax' : axis < a.shape.length := hax
  have hset : (a.shape.eraseIdx axis).insertIdx axis m = a.shape.set axis m := insertIdx_eraseIdx_self _ _ _ hax'
  have hP : 0 < (a.shape.eraseIdx axis).prod := prod_pos_of_not_mem _ (not_mem_eraseIdx _ _ hnz)
  obtain ⟨arr, ha2, hL, ha4, hnf⟩ := applyAlongAxis_chunks a zero zb axis hwf hax hnz
  -- `f` answers on every chunk, with `m` elements
  have hfc : ∀ x ∈ (List.range (a.shape.eraseIdx axis).prod).map
      (fun k => Arr.flat ((arr.elems.drop (k * a.shape.getD axis 0)).take (a.shape.getD axis 0))),
      ∃ r, f x = .ok r ∧ r.elems.length = m := by
    intro x hx
    obtain ⟨k, hk, rfl⟩ := List.mem_map.1 hx
    exact hf _ (length_chunk _ _ _ _ hL (List.mem_range.1 hk))
  obtain ⟨outs, ho1, ho2, ho3⟩ := mapM'_exists f _ (fun x hx => (hfc x hx).imp fun _ h => h.1)
  have hom : ∀ x ∈ outs, x.elems.length = m :=
    Res.All.mapM' (P := fun r => r.elems.length = m)
      (fun x hx r hr => by obtain ⟨r', hr', hm⟩ := hfc x hx; rw [hr'] at hr; cases hr; exact hm) outs ho1
  rw [List.length_map, List.length_range] at ho2
  obtain ⟨r, hr1, hr2, hr3, hr4⟩ := alongAssemble_uniform zb outs _ m axis ho2 hP hom
    (by rw [length_eraseIdx_ndim a axis hax]; exact Nat.le_sub_one_of_lt hax)
  rw [hset] at hr2
  refine ⟨r, by rw [hnf, ho1]; exact hr1, hr2, hr3, fun c hc => ?_⟩
  rw [hr2] at hc
  have hc' : inRange (a.shape.eraseIdx axis) (c.eraseIdx axis) = true := by
    have := inRange_eraseIdx _ _ axis hc
    rwa [List.eraseIdx_set_eq] at this
  have hj : c.getD axis 0 < m := by
    have := inRange_getD_lt _ _ axis hc (by rwa [List.length_set])
    rwa [getD_set_self _ _ _ hax'] at this
  obtain ⟨hk, h5⟩ := hr4 _ _ hc' hj
  rw [insertIdx_eraseIdx_getD c axis (by rw [inRange_length _ _ hc, List.length_set]; exact hax')] at h5
  have h6 := ho3 _ (by rw [List.length_map, List.length_range, ← ho2]; exact hk) hk
  rw [List.getElem_map, List.getElem_range, chunk_eq_lane a arr axis m c hax ha2 ha4 hc] at h6
  exact ⟨_, h6, h5⟩

end ArrModel
