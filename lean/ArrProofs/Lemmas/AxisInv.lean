import Mathlib.Data.List.Nodup
import ArrProofs.Lemmas.Axis
/-! inverse permutations of coordinate vectors -/
namespace ArrModel

/-- undo `permute axes`: position `k` of the original vector sits at position `idxOf k axes` of the permuted one -/
def unpermute (axes c' : List Nat) : List Nat := (List.range axes.length).map (fun k => c'.getD (axes.idxOf k) 0)

/-- inverse permutation as an axis list -/
def invAxes (axes : List Nat) : List Nat := (List.range axes.length).map (fun k => axes.idxOf k)

theorem unpermute_eq_permute_inv (axes c' : List Nat) : unpermute axes c' = permute (invAxes axes) c' := by
  unfold unpermute permute invAxes
  rw [List.map_map]
  rfl

theorem getD_unpermute (axes c' : List Nat) (k : Nat) (hk : k < axes.length) :
    (unpermute axes c').getD k 0 = c'.getD (axes.idxOf k) 0 := by
  unfold unpermute
  rw [getD_eq_getElem 0 (by rwa [List.length_map, List.length_range]), List.getElem_map, List.getElem_range]

/-- where a permutation of `0..n` holds `k` -/
theorem idxOf_perm_range {axes : List Nat} {n : Nat} (h : axes.Perm (List.range n)) {k : Nat} (hk : k < n) :
    ∃ hi : axes.idxOf k < axes.length, axes[axes.idxOf k] = k :=
  have hi := List.idxOf_lt_length_of_mem (h.mem_iff.2 (List.mem_range.2 hk))
  ⟨hi, List.getElem_idxOf hi⟩

theorem permute_unpermute (axes c' : List Nat) (n : Nat) (h : axes.Perm (List.range n)) (hc : c'.length = n) :
    permute axes (unpermute axes c') = c' := by
  have ⟨hl, hb, hn⟩ := perm_range_iff.1 h
  apply List.ext_getElem (by rw [permute_length, hl, hc])
  intro j h1 h2
  rw [permute_length] at h1
  rw [← getD_eq_getElem 0 ‹_›, getD_permute _ _ j h1, getD_unpermute _ _ _ (hl ▸ hb _ (List.getElem_mem h1)),
    hn.idxOf_getElem j h1, getD_eq_getElem 0 h2]

theorem unpermute_permute (axes c : List Nat) (n : Nat) (h : axes.Perm (List.range n)) (hc : c.length = n) :
    unpermute axes (permute axes c) = c := by
  have hl : axes.length = n := (perm_range_iff.1 h).1
  have hu : (unpermute axes (permute axes c)).length = n := by rw [unpermute, List.length_map, List.length_range, hl]
  exact permute_inj axes _ _ n h hu hc (permute_unpermute axes _ n h ((permute_length _ _).trans hl))

theorem inRange_unpermute (axes s c' : List Nat) (h : axes.Perm (List.range s.length))
    (hc : inRange (permute axes s) c' = true) : inRange s (unpermute axes c') = true := by
  have hl : axes.length = s.length := (perm_range_iff.1 h).1
  rw [inRange_iff] at hc ⊢
  refine ⟨by rw [unpermute, List.length_map, List.length_range, hl], fun k hk => ?_⟩
  have ⟨hi, e⟩ := idxOf_perm_range h hk
  have := hc.2 (axes.idxOf k) (by rwa [permute_length])
  rwa [getD_permute _ _ _ hi, e, ← getD_unpermute _ _ k (hl ▸ hk)] at this

theorem invAxes_perm (axes : List Nat) (n : Nat) (h : axes.Perm (List.range n)) : (invAxes axes).Perm (List.range n) := by
  have hl : axes.length = n := (perm_range_iff.1 h).1
  refine perm_range_iff.2 ⟨by rw [invAxes, List.length_map, List.length_range, hl], fun x hx => ?_, ?_⟩
  · obtain ⟨k, hk, rfl⟩ := List.mem_map.1 hx
    exact hl ▸ (idxOf_perm_range h (hl ▸ List.mem_range.1 hk)).1
  · -- `idxOf` is injective on the members of `axes`
    refine List.Nodup.map_on (fun x hx y hy hxy => ?_) List.nodup_range
    have ⟨_, ex⟩ := idxOf_perm_range h (hl ▸ List.mem_range.1 hx)
    have ⟨_, ey⟩ := idxOf_perm_range h (hl ▸ List.mem_range.1 hy)
    rw [← ex, ← ey]
    simp only [hxy]

/-- a list whose position `i` names the position at which the duplicate-free `p` holds `i` is the inverse of `p` -/
theorem eq_invAxes (p q : List Nat) (hn : p.Nodup) (hl : q.length = p.length)
    (h : ∀ i j : Nat, q[i]? = some j → p[j]? = some i) : q = invAxes p := by
  apply List.ext_getElem (by rw [hl, invAxes, List.length_map, List.length_range])
  intro i h1 _
  obtain ⟨hj, e⟩ := List.getElem?_eq_some_iff.1 (h i _ (List.getElem?_eq_getElem h1))
  have := hn.idxOf_getElem _ hj
  rw [e] at this
  simp only [invAxes, List.getElem_map, List.getElem_range, this]

end ArrModel
