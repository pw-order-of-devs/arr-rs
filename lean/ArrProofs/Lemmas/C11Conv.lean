import ArrProofs.Lemmas.C11Concat
/-!
C11: the stacking functions built on `concatenate`.  `Joinable`, the hypotheses under which `concatenate` is specified, and
what they give for the validation and the summed axis lengths that `vstack` / `hstack` / `dstack` run before joining
(`join_tail`); `vstack` of 1-D inputs (`vstack_1d`); `column_stack`, which lays 1-D inputs as single columns and 2-D inputs
side by side (`columnStack_eq`).
-/
namespace ArrModel.C11
open ArrModel Arr
variable {α : Type}

/-- the hypotheses under which `concatenate` along `k` is specified (`concatenate_coord`) -/
def Joinable (k : Nat) (a0 : Arr α) (rest : List (Arr α)) : Prop :=
  ∀ b ∈ a0 :: rest, b.WF ∧ k < b.ndim ∧ b.shape.eraseIdx k = a0.shape.eraseIdx k

theorem joinable_validate (k : Nat) (a0 : Arr α) (rest : List (Arr α)) (h : Joinable k a0 rest) :
    validateStackShapes (a0 :: rest) k k = .ok () :=
  validate_ok k (a0.shape.eraseIdx k) _ (fun b hb => ⟨(h b hb).2.1, (h b hb).2.2⟩)

theorem joinable_dims (k : Nat) (a0 : Arr α) (rest : List (Arr α)) (h : Joinable k a0 rest) :
    Res.mapM' (fun (b : Arr α) => Res.idx b.shape k) (a0 :: rest) = .ok ((a0 :: rest).map (axLen k)) :=
  Res.mapM'_ok fun b hb => idx_getD _ _ (h b hb).2.1

/-- the common tail of `hstack` / `dstack`: validation, summing the axis lengths, joining and the final reshape
are together just `concatenate` -/
theorem join_tail (zero : α) (k : Nat) (a0 : Arr α) (rest : List (Arr α)) (h : Joinable k a0 rest) :
    (validateStackShapes (a0 :: rest) k k >>= fun _ =>
      Res.mapM' (fun (b : Arr α) => Res.idx b.shape k) (a0 :: rest) >>= fun ds =>
      (Res.idx (a0 :: rest) 0) >>= fun a0' =>
      concatenate (a0 :: rest) zero (some k) >>= fun c => c.reshape (a0'.shape.set k ds.sum))
      = concatenate (a0 :: rest) zero (some k) := by
  obtain ⟨r, h1, h2, h3, _⟩ := concatenate_coord zero k a0 rest h
  rw [joinable_validate k a0 rest h, Res.bind_ok, joinable_dims k a0 rest h, Res.bind_ok]
  have : Res.idx (a0 :: rest) 0 = .ok a0 := rfl
  rw [this, Res.bind_ok, h1, Res.bind_ok, ← h2, Arr.reshape_of_prod h3 rfl]

/-! ### `vstack` of 1-D inputs -/

theorem atleast2_rank1 (b : Arr α) (n : Nat) (hwf : b.WF) (hs : b.shape = [n]) : b.atleast 2 = .ok ⟨b.elems, [1, n]⟩ := by
  obtain ⟨e, s⟩ := b
  subst hs
  show Arr.new e [1, n] = _
  exact Arr.new_of_prod (by rw [hwf]; simp)

/-- a 1-D array of length `n` seen as one row -/
def prom2 (n : Nat) (b : Arr α) : Arr α := ⟨b.elems, [1, n]⟩

theorem flatMap_map_elems {β} (f : β → Arr α) (l : List β) : (l.map f).flatMap (·.elems) = l.flatMap (fun x => (f x).elems) := by
  rw [List.flatMap_map]

/-- **`vstack` of 1-D inputs of one length is `concatenate` along axis 0 of the inputs promoted by `atleast(2)`**:
both are the rows laid under each other, shape `[count, n]` -/
theorem vstack_1d (zero : α) (n : Nat) (a0 : Arr α) (rest : List (Arr α))
    (h : ∀ b ∈ a0 :: rest, b.WF ∧ b.shape = [n]) :
    vstack (a0 :: rest) zero = .ok ⟨(a0 :: rest).flatMap (·.elems), [rest.length + 1, n]⟩ ∧
    (Res.mapM' (fun (a : Arr α) => a.atleast 2) (a0 :: rest) >>= fun l => concatenate l zero (some 0))
      = .ok ⟨(a0 :: rest).flatMap (·.elems), [rest.length + 1, n]⟩ := by
  have hs0 := (h a0 List.mem_cons_self).2
  have hax : ∀ b ∈ a0 :: rest, axLen 0 b = n := fun b hb => by rw [axLen, (h b hb).2]; rfl
  have hlen : ∀ b ∈ a0 :: rest, b.elems.length = n := fun b hb => by
    rw [(h b hb).1, (h b hb).2, List.prod_cons, List.prod_nil, Nat.mul_one]
  have hF : ((a0 :: rest).flatMap (·.elems)).length = (rest.length + 1) * n := by
    rw [length_flatMap_uniform _ n _ hlen]; rfl
  constructor
  · have hj : Joinable 0 a0 rest :=
      fun b hb => ⟨(h b hb).1, by rw [Arr.ndim, (h b hb).2]; exact Nat.one_pos, by rw [(h b hb).2, hs0]⟩
    have hc := concatenate_axis0 zero [] a0 rest (fun b hb => ⟨(h b hb).1, by rw [hax b hb]; exact (h b hb).2⟩)
    rw [sum_map_const _ n _ hax] at hc
    have hany : ¬ ((a0 :: rest).any (fun a => decide (a.shape ≠ a0.shape))) = true := by
      rw [List.any_eq_true]
      rintro ⟨b, hb, hne⟩
      exact of_decide_eq_true hne (by rw [(h b hb).2, hs0])
    unfold Arr.vstack
    dsimp only
    rw [joinable_validate 0 a0 rest hj, Res.bind_ok, if_pos (by rw [hs0]; rfl), if_neg hany, hs0, vecInsert,
      if_neg (Nat.not_lt_zero _), Res.bind_ok, hc, Res.bind_ok]
    exact Arr.new_of_prod (by
      rw [hF]; show [rest.length + 1, n].prod = _; rw [List.prod_cons, List.prod_cons, List.prod_nil, Nat.mul_one])
  · have hprom : Res.mapM' (fun (a : Arr α) => a.atleast 2) (a0 :: rest) = .ok ((a0 :: rest).map (prom2 n)) :=
      Res.mapM'_ok fun b hb => atleast2_rank1 b n (h b hb).1 (h b hb).2
    have e : (a0 :: rest).map (prom2 n) = prom2 n a0 :: rest.map (prom2 n) := rfl
    have hc := concatenate_axis0 zero [n] (prom2 n a0) (rest.map (prom2 n)) (by
        intro b hb
        rw [← e] at hb
        obtain ⟨x, hx, rfl⟩ := List.mem_map.1 hb
        refine ⟨?_, rfl⟩
        show x.elems.length = [1, n].prod
        rw [hlen x hx, List.prod_cons, List.prod_cons, List.prod_nil, Nat.mul_one, Nat.one_mul])
    rw [hprom, Res.bind_ok, e, hc, ← e, flatMap_map_elems (prom2 n), List.map_map,
      sum_map_const (axLen 0 ∘ prom2 n) 1 _ (fun b _ => rfl), Nat.mul_one]
    rfl

/-! ### `column_stack` -/

/-- number of columns an input contributes -/
def colsOf (b : Arr α) : Nat := if b.ndim = 1 then 1 else b.shape.getD 1 0

/-- coordinate of row `row`, column `col` of an input (a vector has only the row index) -/
def colCoord (b : Arr α) (row col : Nat) : List Nat := if b.ndim = 1 then [row] else [row, col]

/-- accepted input of `column_stack` with `R` rows -/
def ColOK (R : Nat) (b : Arr α) : Prop := b.WF ∧ (b.shape = [R] ∨ ∃ m, b.shape = [R, m])

/-- the part of result row `row` that comes from input `b` -/
def seg (zero : α) (row : Nat) (b : Arr α) : List α :=
  (List.range (colsOf b)).map (fun col => b.elems.getD (row * colsOf b + col) zero)

theorem zip_map_self {β γ} (f : β → γ) (l : List β) : l.zip (l.map f) = l.map (fun b => (b, f b)) := by
  induction l with
  | nil => rfl
  | cons x xs ih => rw [List.map_cons, List.zip_cons_cons, ih, List.map_cons]

theorem colsOf_vec (b : Arr α) (R : Nat) (hs : b.shape = [R]) : colsOf b = 1 := by rw [colsOf, Arr.ndim, hs]; rfl

theorem colsOf_mat (b : Arr α) (R m : Nat) (hs : b.shape = [R, m]) : colsOf b = m := by rw [colsOf, Arr.ndim, hs]; rfl

theorem colOK_len (R : Nat) (b : Arr α) (h : ColOK R b) : b.elems.length = R * colsOf b := by
  obtain ⟨hw, hs | ⟨m, hs⟩⟩ := h
  · rw [hw, hs, colsOf_vec b R hs, List.prod_cons, List.prod_nil]
  · rw [hw, hs, colsOf_mat b R m hs, List.prod_cons, List.prod_cons, List.prod_nil, Nat.mul_one]

theorem colOK_get (R : Nat) (b : Arr α) (h : ColOK R b) (row col : Nat) (hcol : col < colsOf b) :
    b.get? (colCoord b row col) = b.elems[row * colsOf b + col]? := by
  obtain ⟨_, hs | ⟨m, hs⟩⟩ := h
  · have hc := colsOf_vec b R hs
    have : col = 0 := Nat.lt_one_iff.1 (hc ▸ hcol)
    subst this
    rw [Arr.get?, hc, show colCoord b row 0 = [row] by rw [colCoord, Arr.ndim, hs]; rfl, hs]
    rfl
  · rw [Arr.get?, colsOf_mat b R m hs, show colCoord b row col = [row, col] by rw [colCoord, Arr.ndim, hs]; rfl, hs]
    show b.elems[row * (m * 1) + (col * 1 + 0)]? = _
    rw [Nat.mul_one, Nat.mul_one, Nat.add_zero]

theorem seg_length (zero : α) (row : Nat) (b : Arr α) : (seg zero row b).length = colsOf b := by
  rw [seg, List.length_map, List.length_range]

theorem row_length (zero : α) (row : Nat) (arrs : List (Arr α)) :
    (arrs.flatMap (seg zero row)).length = (arrs.map colsOf).sum := by
  rw [List.length_flatMap, List.map_congr_left fun b _ => seg_length zero row b]

theorem seg_getElem? (zero : α) (R row col : Nat) (b : Arr α) (h : ColOK R b) (hrow : row < R) (hcol : col < colsOf b) :
    (seg zero row b)[col]? = b.get? (colCoord b row col) := by
  have hin : row * colsOf b + col < b.elems.length := by rw [colOK_len R b h]; exact mul_add_lt hrow hcol
  rw [colOK_get R b h row col hcol, seg, List.getElem?_map, List.getElem?_range hcol, Option.map_some,
    List.getD_eq_getElem?_getD, List.getElem?_eq_getElem hin, Option.getD_some]

/-- **`column_stack` on accepted inputs**: row after row, each row the inputs' parts side by side -/
theorem columnStack_eq (zero : α) (R : Nat) (a0 : Arr α) (rest : List (Arr α)) (h : ∀ b ∈ a0 :: rest, ColOK R b) :
    columnStack (a0 :: rest) zero =
      .ok ⟨(List.range R).flatMap (fun row => (a0 :: rest).flatMap (seg zero row)), [R, ((a0 :: rest).map colsOf).sum]⟩ := by
  have hidx : ∀ b ∈ a0 :: rest, Res.idx b.shape 0 = .ok R := by
    intro b hb
    obtain ⟨_, hs | ⟨m, hs⟩⟩ := h b hb <;> rw [hs] <;> rfl
  have hnd : ¬ ((a0 :: rest).any fun a => !(a.ndim == 1 || a.ndim == 2)) = true := by
    simp only [List.any_eq_true, not_exists, not_and]
    intro b hb
    obtain ⟨_, hs | ⟨m, hs⟩⟩ := h b hb <;> rw [Arr.ndim, hs] <;> exact Bool.false_ne_true
  have hinner : ∀ row, row < R → ∀ b ∈ a0 :: rest,
      Res.mapM' (fun col => Res.idx b.elems (row * colsOf b + col)) (List.range (colsOf b)) = .ok (seg zero row b) := by
    intro row hrow b hb
    apply Res.mapM'_ok
    intro col hcol
    apply Res.idx_eq_getD
    rw [colOK_len R b (h b hb)]
    exact mul_add_lt hrow (List.mem_range.1 hcol)
  have hrows : Res.mapM' (fun row =>
        Res.mapM' (fun (p : Arr α × Nat) => Res.mapM' (fun col => Res.idx p.1.elems (row * p.2 + col)) (List.range p.2))
          ((a0 :: rest).zip ((a0 :: rest).map colsOf)) >>= fun parts => Res.ok parts.flatten) (List.range R)
      = .ok ((List.range R).map fun row => (a0 :: rest).flatMap (seg zero row)) := by
    apply Res.mapM'_ok
    intro row hrow
    rw [zip_map_self, mapM'_map, Res.mapM'_ok (g := seg zero row) (hinner row (List.mem_range.1 hrow)), Res.bind_ok,
      List.flatMap_def]
  unfold Arr.columnStack
  dsimp only
  rw [hidx a0 List.mem_cons_self, Res.bind_ok, if_neg hnd, Res.mapM'_ok (g := fun _ => R) hidx, Res.bind_ok, if_neg (by simp)]
  rw [show ((a0 :: rest).map fun a => if a.ndim = 1 then 1 else a.shape.getD 1 0) = (a0 :: rest).map colsOf from rfl,
    hrows, Res.bind_ok, ← List.flatMap_def]
  exact Arr.new_of_prod (by
    rw [length_flatMap_uniform _ _ _ (fun row _ => row_length zero row _), List.length_range, List.prod_cons, List.prod_cons,
      List.prod_nil, Nat.mul_one])

end ArrModel.C11
