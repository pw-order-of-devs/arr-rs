import ArrProofs.Lemmas.C12Reads
/-!
# C12: the pairing of shifts with axes in `roll` (the three shapes of the broadcast: equal lengths, one shift for several
axes, several shifts for one axis) and `roll` on a given pairing
-/
namespace ArrModel
variable {α β : Type}

theorem sequence_map_ok {ι : Type} (f : ι → β) (l : List ι) :
    Res.sequence (l.map (fun i => Res.ok (f i))) = .ok (l.map f) :=
  (congrArg Res.sequence (List.map_map (f := f) (g := Res.ok)).symm).trans (Res.sequence_map_ok _)

theorem isBroadcastable_one_left (n : Nat) (hn : n ≠ 0) : isBroadcastable [1] [n] = true := by
  simp [isBroadcastable, dimClash, hn]
theorem isBroadcastable_one_right (n : Nat) (hn : n ≠ 0) : isBroadcastable [n] [1] = true := by
  simp [isBroadcastable, dimClash, hn]
theorem isBroadcastable_same (n : Nat) (hn : n ≠ 0) : isBroadcastable [n] [n] = true := by
  simp [isBroadcastable, dimClash, hn]

theorem broadcastShape_one_left (n : Nat) : broadcastShape [1] [n] = .ok [n] := by
  simp [broadcastShape, padRev, bdim, Res.sequence, Res.map]
theorem broadcastShape_one_right (n : Nat) (hn : n ≠ 1) : broadcastShape [n] [1] = .ok [n] := by
  simp [broadcastShape, padRev, bdim, Res.sequence, Res.map, hn]

/-- on a unit source axis the gather of `broadcast_to` reads coordinate `0`, whatever the target position -/
theorem atc_bsrc_unit (v : β) (n idx : Nat) : (Arr.flat [v]).atc (bsrc [1] (unravelFold [n] idx)) = .ok v := by
  simp [Arr.flat, Arr.atc, Arr.indexAt, bsrc, unravelFold, anyOut, indexAtFold, Res.idx]

theorem broadcastTo_flat_one (v : β) (n : Nat) (hn : 2 ≤ n) :
    (Arr.flat [v]).broadcastTo [n] = .ok ⟨List.replicate n v, [n]⟩ := by
  have hgather : Res.sequence ((List.range [n].prod).map fun idx => (Arr.flat [v]).atc (bsrc [1] (unravelFold [n] idx)))
      = .ok (List.replicate n v) := by
    rw [List.map_congr_left (fun idx _ => atc_bsrc_unit v n idx), sequence_map_ok, List.map_const', List.length_range,
      List.prod_singleton]
  -- the guards in the order of the code: the lengths are compatible; the element counts `1` and `n` differ, so there is
  -- no `reshape`; the rank is not smaller; the source axis is a unit; then the gather
  unfold Arr.broadcastTo
  rw [show (Arr.flat [v]).shape = [1] from rfl, isBroadcastable_one_left n (by omega), if_neg (by decide),
    if_neg (by rw [List.prod_singleton, List.prod_singleton]; omega),
    if_neg (show ¬ [n].length < [1].length from Nat.lt_irrefl 1)]
  dsimp only
  rw [if_neg (by simp), hgather]
  exact Arr.new_of_prod (by rw [List.prod_singleton, List.length_replicate])

theorem broadcastTo_flat_self (l : List β) (hn : l.length ≠ 0) :
    (Arr.flat l).broadcastTo [l.length] = .ok ⟨l, [l.length]⟩ := by
  unfold Arr.broadcastTo
  rw [show (Arr.flat l).shape = [l.length] from rfl, isBroadcastable_same l.length hn, if_neg (by decide), if_pos rfl]
  exact Arr.new_of_prod (List.prod_singleton ..)

theorem zip_replicate_right (l : List α) (x : β) : l.zip (List.replicate l.length x) = l.map (fun s => (s, x)) := by
  induction l with
  | nil => rfl
  | cons y ys ih => simp only [List.length_cons, List.replicate_succ, List.zip_cons_cons, List.map_cons, ih]

theorem zip_ne_nil (l : List α) (l' : List β) (h : l.length = l'.length) (hne : l ≠ []) : l.zip l' ≠ [] := by
  intro e
  have := congrArg List.length e
  rw [List.length_zip, ← h, Nat.min_self] at this
  exact hne (List.eq_nil_of_length_eq_zero this)

/-- shifts and axes in equal number (not zero): paired position by position -/
theorem broadcast_flat_same (shift axs : List Int) (h : shift.length = axs.length) (hne : shift ≠ []) :
    (Arr.flat shift).broadcast (Arr.flat axs) = .ok ⟨shift.zip axs, [shift.length]⟩ := by
  have hn : shift.length ≠ 0 := fun e => hne (List.eq_nil_of_length_eq_zero e)
  unfold Arr.broadcast
  rw [show (Arr.flat shift).shape = [shift.length] from rfl, show (Arr.flat axs).shape = [axs.length] from rfl, ← h,
    isBroadcastable_same shift.length hn, if_neg (by decide), if_pos rfl]
  show Arr.new (shift.zip axs) [shift.length] = _
  exact Arr.new_of_prod (by rw [List.prod_singleton, List.length_zip, ← h, Nat.min_self])

/-- one shift for several axes -/
theorem broadcast_flat_one_left (s : α) (axs : List β) (hn : 2 ≤ axs.length) :
    (Arr.flat [s]).broadcast (Arr.flat axs) = .ok ⟨axs.map (fun x => (s, x)), [axs.length]⟩ := by
  unfold Arr.broadcast
  rw [show (Arr.flat [s]).shape = [1] from rfl, show (Arr.flat axs).shape = [axs.length] from rfl,
    isBroadcastable_one_left axs.length (by omega), if_neg (by decide),
    if_neg (fun e => absurd (List.cons.inj e).1 (by omega)),
    broadcastShape_one_left, Res.bind_ok, broadcastTo_flat_one s axs.length hn, Res.bind_ok,
    broadcastTo_flat_self axs (by omega), Res.bind_ok]
  show Arr.new ((List.replicate axs.length s).zip axs) [axs.length] = _
  rw [zip_replicate_left]
  exact Arr.new_of_prod (by rw [List.prod_singleton, List.length_map])

/-- several shifts for one axis -/
theorem broadcast_flat_one_right (shift : List α) (x : β) (hn : 2 ≤ shift.length) :
    (Arr.flat shift).broadcast (Arr.flat [x]) = .ok ⟨shift.map (fun s => (s, x)), [shift.length]⟩ := by
  unfold Arr.broadcast
  rw [show (Arr.flat shift).shape = [shift.length] from rfl, show (Arr.flat [x]).shape = [1] from rfl,
    isBroadcastable_one_right shift.length (by omega), if_neg (by decide),
    if_neg (fun e => absurd (List.cons.inj e).1 (by omega)),
    broadcastShape_one_right _ (by omega), Res.bind_ok, broadcastTo_flat_self shift (by omega), Res.bind_ok,
    broadcastTo_flat_one x shift.length hn, Res.bind_ok]
  show Arr.new (shift.zip (List.replicate shift.length x)) [shift.length] = _
  rw [zip_replicate_right]
  exact Arr.new_of_prod (by rw [List.prod_singleton, List.length_map])

/-- `roll` along given axes once the pairing `ps` of shifts and axes is known (a vector): the range test on the
accumulated axes, then the arm of the rank -/
theorem Arr.roll_some_of_bc (a : Arr α) (shift axs : List Int) (ps : List (Int × Int)) (n : Nat)
    (hbc : (Arr.flat shift).broadcast (Arr.flat axs) = .ok ⟨ps, [n]⟩) :
    a.roll shift (some axs) =
      if (accumShifts (pairsOf a.ndim ps)).any (fun p => decide (p.1 ≥ a.ndim)) then .err .AxisOutOfBounds else
      match a.ndim with
      | 0 => .ok ⟨[], [0]⟩
      | 1 => Arr.new ((accumShifts (pairsOf a.ndim ps)).foldl
              (fun es p => rotateRight es (p.2 % (es.length : Int)).toNat) a.elems) a.shape
      | _ => (accumShifts (pairsOf a.ndim ps)).foldl
              (fun (acc : Res (List α)) p => acc >>= fun es => rollAxis p.1 a.shape p.2 es) (.ok a.elems)
              >>= fun es => Arr.new es a.shape := by
  unfold Arr.roll
  simp only [Option.isNone_some, Bool.false_eq_true, if_false, Option.getD_some, hbc, Res.bind_ok]
  rfl

/-- `roll` without axes by one shift: the flat element vector rotated, under the shape of the array -/
theorem Arr.roll_none (a : Arr α) (s : Int) :
    a.roll [s] none = Arr.new (rotateRight a.elems (s % (a.elems.length : Int)).toNat) a.shape := by
  have hbc := broadcast_flat_same [s] [0] rfl (List.cons_ne_nil _ _)
  unfold Arr.roll
  simp only [Option.isNone_none, if_true, Option.getD_none, hbc, Res.bind_ok]
  rfl

/-- an axis outside the rank among the paired axes is refused, wherever it stands -/
theorem roll_rejects_of_bc (a : Arr α) (shift axs : List Int) (ps : List (Int × Int)) (n : Nat)
    (hbc : (Arr.flat shift).broadcast (Arr.flat axs) = .ok ⟨ps, [n]⟩)
    (h : ∃ p ∈ ps, normalizeAxis a.ndim p.2 ≥ a.ndim) : a.roll shift (some axs) = .err .AxisOutOfBounds := by
  obtain ⟨p, hp, hge⟩ := h
  obtain ⟨q, hq, e⟩ := List.mem_map.1 ((accumShifts_keys (pairsOf a.ndim ps) _).2
    (List.mem_map_of_mem (f := (·.1)) (List.mem_map_of_mem (f := fun p => (normalizeAxis a.ndim p.2, p.1)) hp)))
  rw [a.roll_some_of_bc shift axs ps n hbc]
  exact if_pos (any_ge_true _ (fun p : Nat × Int => p.1) _ ⟨q, hq, e ▸ hge⟩)

/-- **roll with equally long lists refuses an axis outside the rank**, wherever it stands (every array) -/
theorem roll_list_rejects (a : Arr α) (shift axs : List Int) (hlen : shift.length = axs.length) (hne : shift ≠ [])
    (h : ∃ x ∈ axs, normalizeAxis a.ndim x ≥ a.ndim) : a.roll shift (some axs) = .err .AxisOutOfBounds := by
  obtain ⟨x, hx, hge⟩ := h
  rw [← List.map_snd_zip (l₁ := shift) (Nat.le_of_eq hlen.symm)] at hx
  obtain ⟨p, hp, rfl⟩ := List.mem_map.1 hx
  exact roll_rejects_of_bc a shift axs _ _ (broadcast_flat_same shift axs hlen hne) ⟨p, hp, hge⟩

/-- `roll` once the pairing of shifts and axes is known -/
theorem roll_of_bc (a : Arr α) (shift axs : List Int) (ps : List (Int × Int)) (n : Nat)
    (hbc : (Arr.flat shift).broadcast (Arr.flat axs) = .ok ⟨ps, [n]⟩) (hne : ps ≠ [])
    (hwf : a.WF) (hpos : ∀ d ∈ a.shape, 0 < d) (hv : ∀ p ∈ ps, normalizeAxis a.ndim p.2 < a.ndim) :
    Reads (a.roll shift (some axs)) a a.shape
      (fun c => (accumShifts (pairsOf a.ndim ps)).foldr (fun p c => rollCoord a.shape p.1 p.2 c) c) := by
  have hvalid := pairsOf_valid a.ndim ps hv
  have hany : (accumShifts (pairsOf a.ndim ps)).any (fun p => decide (p.1 ≥ a.ndim)) = false :=
    any_ge_false _ (fun p : Nat × Int => p.1) _ hvalid
  rw [a.roll_some_of_bc shift axs ps n hbc, hany, if_neg Bool.false_ne_true]
  split
  · next h0 =>
    obtain ⟨x, hx⟩ := List.exists_mem_of_ne_nil ps hne
    exact absurd (hv x hx) (h0 ▸ Nat.not_lt_zero _)
  · next h1 =>
    -- rank 1: successive rotations of the element vector
    obtain ⟨elems, shape⟩ := a
    obtain ⟨d, rfl⟩ := List.length_eq_one_iff.1 h1
    obtain ⟨h2, h3⟩ := rotFold_at d _ hvalid elems hwf
    exact ⟨_, Arr.new_of_prod (h2.trans hwf).symm, rfl, h2.trans hwf, h3⟩
  · obtain ⟨es, h1, h2, h3⟩ := stepFold_at (fun (p : Nat × Int) es => rollAxis p.1 a.shape p.2 es)
      (fun p c => rollCoord a.shape p.1 p.2 c) a.shape (fun p => p.1 < a.shape.length)
      (fun p hp es hl => rollAxis_spec p.1 a.shape p.2 es hpos hl hp)
      (fun p hp c hc => inRange_rollCoord a.shape c p.1 p.2 hc hp) _ hvalid a.elems hwf
    rw [h1]
    exact ⟨_, Arr.new_of_prod (h2.trans hwf).symm, rfl, h2.trans hwf, h3⟩

/-- roll by one shift along one axis named by an integer, on an array whose shape is known to be `S` -/
theorem roll_int_at (a : Arr α) (S : List Nat) (hS : a.shape = S) (s ax : Int) (k : Nat) (hk : normalizeAxis S.length ax = k)
    (hlt : k < S.length) (hwf : a.WF) (hpos : ∀ d ∈ S, 0 < d) : Reads (a.roll [s] (some [ax])) a S (rollCoord S k s) := by
  subst hS hk
  exact roll_of_bc a [s] [ax] _ _ (broadcast_flat_same [s] [ax] rfl (List.cons_ne_nil _ _)) (List.cons_ne_nil _ _) hwf hpos
    (List.forall_mem_singleton.2 hlt)

/-- the same, read one coordinate at a time: the total shift of each axis is subtracted -/
theorem roll_total_of_bc (a : Arr α) (shift axs : List Int) (ps : List (Int × Int)) (n : Nat)
    (hbc : (Arr.flat shift).broadcast (Arr.flat axs) = .ok ⟨ps, [n]⟩) (hne : ps ≠ [])
    (hwf : a.WF) (hpos : ∀ d ∈ a.shape, 0 < d) (hv : ∀ p ∈ ps, normalizeAxis a.ndim p.2 < a.ndim) :
    ∃ r, a.roll shift (some axs) = .ok r ∧ r.shape = a.shape ∧
      ∀ c, inRange a.shape c = true → ∃ c', inRange a.shape c' = true ∧ r.get? c = a.get? c' ∧
        ∀ k, k < a.ndim → c'.getD k 0 = rollIdx (totalShift (pairsOf a.ndim ps) k) (a.shape.getD k 0) (c.getD k 0) := by
  obtain ⟨r, h1, h2, _, h4⟩ := roll_of_bc a shift axs ps n hbc hne hwf hpos hv
  have hvalid := pairsOf_valid a.ndim ps hv
  refine ⟨r, h1, h2, fun c hc => ⟨_, ?_, h4 c hc, fun k hk => ?_⟩⟩
  · exact inRange_foldr (fun (p : Nat × Int) c => rollCoord a.shape p.1 p.2 c) a.shape (fun p => p.1 < a.shape.length)
      (fun x hx c hc => inRange_rollCoord a.shape c x.1 x.2 hc hx) _ hvalid c hc
  · rw [foldr_rollCoord_getD a.shape hpos _ hvalid c hc k hk, accumShifts_total]

end ArrModel
