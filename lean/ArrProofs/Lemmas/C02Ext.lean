import ArrModel.IndexExt
import ArrProofs.Lemmas.Res
import ArrProofs.Lemmas.Index
/-! `slice` and `indices_at` (`ArrModel/IndexExt.lean`): the copy loop of `slice` is one contiguous window, windows and row
gathers read through `get?`, the arms of `indices_at`, and the window `sliceWindow` that `slice` cuts out for rank ≥ 2 -/
namespace ArrModel
variable {α : Type}

/-! ### the copy loop of `slice` -/

theorem stepPositions_mul (lo n step : Nat) (hs : 0 < step) :
    stepPositions lo (n * step) step = (List.range n).map (fun k => lo + k * step) := by
  unfold stepPositions
  have h : (n * step + step - 1) / step = n :=
    (Nat.div_eq_iff hs).2 ⟨by omega, Nat.le_refl _⟩
  rw [h]

theorem vrange_ok (l : List α) (i j : Nat) (h1 : i ≤ j) (h2 : j ≤ l.length) :
    Res.vrange l i j = .ok ((l.drop i).take (j - i)) := if_pos ⟨h1, h2⟩

theorem gatherChunks_steps (elems : List α) (stride : Nat) : ∀ (n lo : Nat), lo + n * stride ≤ elems.length →
    gatherChunks elems stride ((List.range n).map (fun k => lo + k * stride)) = .ok ((elems.drop lo).take (n * stride))
  | 0, lo, _ => by rw [Nat.zero_mul, List.take_zero]; rfl
  | n + 1, lo, h => by
    rw [Nat.succ_mul] at h
    have ih := gatherChunks_steps elems stride n (lo + stride) (by omega)
    have hmap : (List.range n).map ((fun k => lo + k * stride) ∘ Nat.succ)
        = (List.range n).map (fun k => lo + stride + k * stride) :=
      List.map_congr_left fun k _ => by
        show lo + (k + 1) * stride = _
        rw [Nat.succ_mul]; omega
    rw [List.range_succ_eq_map, List.map_cons, List.map_map, hmap, gatherChunks, Nat.zero_mul, Nat.add_zero,
      vrange_ok elems lo (lo + stride) (by omega) (by omega), Res.bind_ok, ih, Res.bind_ok, Nat.add_sub_cancel_left,
      Nat.succ_mul, Nat.add_comm (n * stride) stride, List.take_add, List.drop_drop]

/-! ### reading windows through `get?` -/

theorem getElem?_window (l : List α) (off n j : Nat) (hj : j < n) : ((l.drop off).take n)[j]? = l[off + j]? := by
  rw [List.getElem?_take_of_lt hj, List.getElem?_drop]

/-- a window of `n` rows starting at flat offset `off`, read by coordinates -/
theorem window_get? (elems : List α) (off n : Nat) (t c : List Nat) (i : Nat) (hi : i < n) (hc : inRange t c = true) :
    (⟨(elems.drop off).take (n * t.prod), n :: t⟩ : Arr α).get? (i :: c) = elems[off + (i * t.prod + ravel t c)]? :=
  getElem?_window _ _ _ _ (mul_add_lt hi (ravel_lt t c hc))

/-- a single row starting at flat offset `off`, read by coordinates -/
theorem row_get? (elems : List α) (off : Nat) (t c : List Nat) (hc : inRange t c = true) :
    (⟨(elems.drop off).take t.prod, t⟩ : Arr α).get? c = elems[off + ravel t c]? :=
  getElem?_window _ _ _ _ (ravel_lt t c hc)

/-! ### `indices_at` -/

theorem sequence_map_ok {β γ : Type} (f : β → Res γ) (g : β → γ) :
    ∀ (l : List β), (∀ x ∈ l, f x = .ok (g x)) → Res.mapM' f l = .ok (l.map g) :=
  fun _ h => Res.mapM'_ok h

/-- `indices.iter().map(|&i| v[i])` with every index inside: the gathered values, position by position -/
theorem mapM'_idx (l : List α) : ∀ (idx : List Nat) (h : ∀ i ∈ idx, i < l.length),
    Res.mapM' (Res.idx l) idx = .ok (idx.pmap (fun i hi => l[i]) h)
  | [], _ => rfl
  | i :: is, h => by
    have ih := mapM'_idx l is fun j hj => h j (List.mem_cons_of_mem _ hj)
    unfold Res.mapM' at ih ⊢
    rw [List.map_cons, Res.sequence_cons, Res.idx_of_lt (h i List.mem_cons_self), Res.bind_ok, ih]
    rfl

theorem slice_valid_unfold (a : Arr α) (start stop : Nat) (h1 : start ≤ stop) (h2 : stop ≤ a.len) :
    (!(decide (start ≤ stop) && decide (stop ≤ a.elems.length))) = false := by
  rw [decide_eq_true h1, decide_eq_true (show stop ≤ a.elems.length from h2)]
  rfl

theorem indicesAt_of_ndim_one (a : Arr α) (h : a.ndim = 1) (idx : List Nat) :
    a.indicesAt idx = if idx.any (fun i => decide (i ≥ a.len)) then .err .OutOfBounds
      else Res.mapM' (fun i => a.opIndex i) idx >>= fun l => .ok (Arr.flat l) := if_pos h

theorem indicesAt_of_shape (a : Arr α) (d0 d1 : Nat) (t : List Nat) (hs : a.shape = d0 :: d1 :: t) (idx : List Nat) :
    a.indicesAt idx = if idx.any (fun i => decide (i ≥ d0)) then .err .OutOfBounds
      else if a.isEmpty then Arr.new [] (idx.length :: d1 :: t)
      else Res.mapM' (fun i => Res.idx a.axis0Pieces i) idx >>= fun ls =>
        (Arr.flat ls.flatten).reshape (idx.length :: d1 :: t) := by
  have hnd : a.ndim = t.length + 2 := congrArg List.length hs
  unfold Arr.indicesAt
  rw [if_neg (by omega), if_neg (by omega), hs]
  rfl

theorem axis0Pieces_length (a : Arr α) (h : a.isEmpty = false) : a.axis0Pieces.length = a.shape.headD 0 := by
  unfold Arr.axis0Pieces
  rw [h, if_neg Bool.false_ne_true, List.length_map, List.length_range]

/-- the length of a consistent array is its leading length times its row size -/
theorem len_of_shape (a : Arr α) (hwf : a.WF) (d0 : Nat) (T : List Nat) (hs : a.shape = d0 :: T) : a.len = d0 * T.prod := by
  rw [Arr.len, hwf, hs, List.prod_cons]

/-- the pieces `split_axis(0)` yields for a consistent non-empty array of shape `d0 :: T`: the `d0` row blocks -/
theorem axis0Pieces_rows (a : Arr α) (hwf : a.WF) (d0 : Nat) (T : List Nat) (hs : a.shape = d0 :: T) (hne : a.isEmpty = false) :
    a.axis0Pieces = (List.range d0).map (fun i => (a.elems.drop (i * T.prod)).take T.prod) := by
  have hlen := len_of_shape a hwf d0 T hs
  have hd0 : 0 < d0 := Nat.pos_of_ne_zero fun e => by
    rw [e, Nat.zero_mul] at hlen
    rw [Arr.isEmpty, ← Arr.len, hlen] at hne
    cases hne
  unfold Arr.axis0Pieces
  simp only [hne, Bool.false_eq_true, if_false, hs, List.headD_cons, hlen, Nat.mul_div_cancel_left _ hd0]

/-! ### the window of `slice` for rank ≥ 2 -/

namespace C02

/-- the window `slice` cuts out of the flat element list for rank ≥ 2: refused when it is empty or leaves the buffer -/
def sliceWindow (a : Arr α) (off : Nat) (shape : List Nat) : Res (Arr α) :=
  if shape.prod = 0 ∨ a.len < off + shape.prod then .err .OutOfBounds
  else .ok ⟨(a.elems.drop off).take shape.prod, shape⟩

theorem sliceWindow_ne_panic (a : Arr α) (off : Nat) (shape : List Nat) : sliceWindow a off shape ≠ .panic :=
  Res.ite_ne_panic (fun _ => nofun) fun _ => nofun

/-- an accepted window lies inside the buffer, and the result is consistent -/
theorem sliceWindow_ok (a : Arr α) (off : Nat) (shape : List Nat) (r : Arr α) (h : sliceWindow a off shape = .ok r) :
    off + shape.prod ≤ a.len ∧ r = ⟨(a.elems.drop off).take shape.prod, shape⟩ ∧ r.WF := by
  unfold sliceWindow at h
  by_cases hne : shape.prod = 0 ∨ a.len < off + shape.prod
  · rw [if_pos hne] at h
    cases h
  · rw [if_neg hne] at h
    cases h
    have hle : off + shape.prod ≤ a.elems.length := Nat.le_of_not_lt fun hlt => hne (.inr hlt)
    refine ⟨hle, rfl, ?_⟩
    show (List.take _ (List.drop _ _)).length = shape.prod
    rw [List.length_take, List.length_drop]
    omega

/-- the bounds check and the tail of `slice` (stride, `step_by` loop, `Array::new`) for a window of shape `n0 :: rest` at
flat offset `off`: one contiguous window is copied -/
theorem slice_tail (a : Arr α) (n0 : Nat) (rest : List Nat) (off : Nat) :
    (if (n0 :: rest).prod = 0 ∨ off + (n0 :: rest).prod > a.elems.length then .err .OutOfBounds
     else if (n0 :: rest).prod / n0 = 0 then .panic
     else gatherChunks a.elems ((n0 :: rest).prod / n0) (stepPositions off (n0 :: rest).prod ((n0 :: rest).prod / n0))
            >>= fun ne => Arr.new ne (n0 :: rest))
      = sliceWindow a off (n0 :: rest) := by
  unfold sliceWindow Arr.len
  by_cases he : (n0 :: rest).prod = 0 ∨ off + (n0 :: rest).prod > a.elems.length
  · rw [if_pos he, if_pos he]
  · rw [if_neg he, if_neg he]
    have hlen : ((a.elems.drop off).take (n0 :: rest).prod).length = (n0 :: rest).prod := by
      rw [List.length_take, List.length_drop]; omega
    rw [List.prod_cons] at he hlen ⊢
    have hn0 : 0 < n0 := Nat.pos_of_ne_zero fun e => he (.inl (by rw [e, Nat.zero_mul]))
    have hr : 0 < rest.prod := Nat.pos_of_ne_zero fun e => he (.inl (by rw [e, Nat.mul_zero]))
    rw [Nat.mul_div_cancel_left _ hn0, if_neg (Nat.ne_of_gt hr), stepPositions_mul off n0 rest.prod hr,
      gatherChunks_steps a.elems rest.prod n0 off (Nat.le_of_not_lt fun h => he (.inr h)), Res.bind_ok]
    exact Arr.new_of_prod (List.prod_cons.trans hlen.symm)

end C02

end ArrModel
