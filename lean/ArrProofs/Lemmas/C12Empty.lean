import ArrProofs.Lemmas.C12Rot
import ArrProofs.Lemmas.C12FlipAll
import ArrProofs.Lemmas.C12Roll
/-!
# C12 on arrays with a zero-length axis

A well-formed array with a zero-length axis has no elements.  `flip_axis` / `roll_axis` (`permAxis`) on the empty
element vector still CUT it: arm "first axis" cuts into `shape[0]` blocks, arm "last axis" into `prod shape[..ax]` rows,
arm "inner axis" into `shape[0]` blocks and recurses.  `splitFlat 0 _` refuses with `ParameterError`, `splitFlat p []`
(`p > 0`) returns the single empty piece.  So the outcome is decided by the axes the code cuts along, `cutAxes ax shape`:
an error when one of them has length 0, otherwise the (empty) vector unchanged.
-/
namespace ArrModel
open Arr
variable {α : Type}

/-- the axes `flip_axis(ax)` / `roll_axis(ax)` cut along: `0 … ax`, except that the last axis of an array of rank ≥ 2 is
processed by cutting along `0 … ax − 1` only -/
def cutAxes (ax : Nat) (shape : List Nat) : List Nat :=
  shape.take (if 0 < ax ∧ ax + 1 = shape.length then ax else ax + 1)

theorem prod_eq_zero_iff_mem (s : List Nat) : s.prod = 0 ↔ 0 ∈ s := prod_eq_zero_iff s

theorem splitFlat_nil {β : Type} (parts : Nat) :
    splitFlat parts ([] : List β) = if parts = 0 then .err .ParameterError else .ok [[]] := by
  unfold splitFlat; split <;> rfl

/-- **the skeleton on the empty vector** -/
theorem permAxis_nil (p : ∀ β : Type, List β → List β) (h0 : p α [] = []) (h1 : p (List α) [[]] = [[]]) :
    ∀ (ax : Nat) (shape : List Nat), shape.prod = 0 → ax < shape.length →
      permAxis p ax shape ([] : List α) = if 0 ∈ cutAxes ax shape then .err .ParameterError else .ok [] := by
  intro ax
  induction ax with
  | zero =>
    intro shape hp hax
    match shape, hax with
    | d :: ds, _ =>
      have hc : cutAxes 0 (d :: ds) = [d] := rfl
      rw [permAxis_first, splitFlat_nil, hc]
      by_cases hd : d = 0
      · rw [if_pos hd, if_pos (List.mem_singleton.2 hd.symm)]; rfl
      · rw [if_neg hd, if_neg (fun h => hd (List.mem_singleton.1 h).symm), Res.bind_ok, h1]; rfl
  | succ ax ih =>
    intro shape hp hax
    by_cases hlast : ax + 1 = shape.length - 1
    · have hc : cutAxes (ax + 1) shape = shape.take (ax + 1) := by
        unfold cutAxes; rw [if_pos ⟨Nat.succ_pos _, by omega⟩]
      have hiff := prod_eq_zero_iff_mem (shape.take (ax + 1))
      rw [permAxis_last p ax shape _ hlast, splitFlat_nil, hc]
      by_cases hz : (shape.take (ax + 1)).prod = 0
      · rw [if_pos hz, if_pos (hiff.1 hz)]; rfl
      · rw [if_neg hz, if_neg (fun h => hz (hiff.2 h)), Res.bind_ok, List.map_cons, List.map_nil, h0]; rfl
    · match shape, hax with
      | d :: ds, hax =>
        have hne : ¬ (ax + 1 + 1 = (d :: ds).length) := by rw [List.length_cons] at hlast ⊢; omega
        have hc : cutAxes (ax + 1) (d :: ds) = d :: cutAxes ax ds := by
          unfold cutAxes
          rw [if_neg (fun h => hne h.2), if_neg (fun h => hne (congrArg (· + 1) h.2))]; rfl
        rw [permAxis_inner p ax d ds _ hlast, splitFlat_nil, hc]
        by_cases hd : d = 0
        · rw [if_pos hd, if_pos (List.mem_cons.2 (Or.inl hd.symm))]; rfl
        · rw [List.prod_cons] at hp
          have hds : ds.prod = ([] : List α).length := (Nat.mul_eq_zero.1 hp).resolve_left hd
          rw [if_neg hd, Res.bind_ok]
          show (((if ds.prod = ([] : List α).length then permAxis p ax ds [] else _) >>= fun a => Res.ok [a]) >>= _) = _
          rw [if_pos hds, ih ds hds (Nat.lt_of_succ_lt_succ hax)]
          by_cases hz : 0 ∈ cutAxes ax ds
          · rw [if_pos hz, if_pos (List.mem_cons_of_mem _ hz)]; rfl
          · rw [if_neg hz, if_neg (fun h => (List.mem_cons.1 h).elim (fun e => hd e.symm) hz)]; rfl

theorem flipAxis_nil (ax : Nat) (shape : List Nat) (hp : shape.prod = 0) (hax : ax < shape.length) :
    flipAxis ax shape ([] : List α) = if 0 ∈ cutAxes ax shape then .err .ParameterError else .ok [] := by
  rw [flipAxis_eq_permAxis]
  exact permAxis_nil (fun _ => List.reverse) rfl rfl ax shape hp hax

theorem rollAxis_nil (ax : Nat) (shape : List Nat) (sh : Int) (hp : shape.prod = 0) (hax : ax < shape.length) :
    rollAxis ax shape sh ([] : List α) = if 0 ∈ cutAxes ax shape then .err .ParameterError else .ok [] := by
  rw [rollAxis_eq_permAxis]
  exact permAxis_nil (rollPerm sh) rfl (by rw [rollPerm, rotateRight_eq, List.length_singleton, Nat.mod_one]; rfl) ax shape hp hax

/-- folding steps that answer `Err(ParameterError)` on a marked item and keep the empty vector otherwise -/
theorem foldl_nil_steps {ι : Type} (step : ι → List α → Res (List α)) (bad : ι → Bool)
    (l : List ι) (hstep : ∀ x ∈ l, step x [] = if bad x then .err .ParameterError else .ok []) :
    l.foldl (fun (acc : Res (List α)) x => acc >>= fun es => step x es) (.ok []) =
      if l.any bad then .err .ParameterError else .ok [] := by
  have herr : ∀ (l : List ι) (e : Err), l.foldl (fun (acc : Res (List α)) x => acc >>= fun es => step x es) (.err e) = .err e := by
    intro l e; induction l with
    | nil => rfl
    | cons x xs ih => exact ih
  induction l with
  | nil => rfl
  | cons x xs ih =>
    rw [List.foldl_cons, Res.bind_ok, List.any_cons, hstep x List.mem_cons_self]
    cases bad x with
    | true => exact herr xs _
    | false => exact ih (fun y hy => hstep y (List.mem_cons_of_mem _ hy))

/-- **flip of an empty array along a list of valid axes**: `Err(ParameterError)` when one of the listed axes makes the
code cut along a zero-length axis, otherwise the array unchanged -/
theorem flip_empty (a : Arr α) (axes : List Int) (hwf : a.WF) (h0 : 0 ∈ a.shape)
    (hv : ∀ x ∈ axes, normalizeAxis a.ndim x < a.ndim) :
    a.flip (some axes) =
      if axes.any (fun x => decide (0 ∈ cutAxes (normalizeAxis a.ndim x) a.shape)) then .err .ParameterError else .ok a := by
  have hp : a.shape.prod = 0 := prod_eq_zero_of_mem _ h0
  have hfold := foldl_nil_steps (α := α) (fun x es => flipAxis x a.shape es) (fun x => decide (0 ∈ cutAxes x a.shape))
    (axes.map (normalizeAxis a.ndim))
    (fun x hx => by
      obtain ⟨y, hy, rfl⟩ := List.mem_map.1 hx
      simp only [flipAxis_nil _ a.shape hp (hv y hy), decide_eq_true_eq])
  rw [Arr.flip_of_valid a axes hv, elems_nil_of_zero_mem a hwf h0, hfold, List.any_map]
  simp only [Function.comp_def]
  split
  · rfl
  · rw [Res.bind_ok, Arr.new_of_prod (hp.trans List.length_nil.symm)]
    exact congrArg Res.ok (eq_mk_nil_of_zero_mem a hwf h0).symm

/-- **flip without axes on an empty array**: the array unchanged -/
theorem flip_none_empty (a : Arr α) (hwf : a.WF) (h0 : 0 ∈ a.shape) : a.flip none = .ok a := by
  rw [a.flip_none_ok hwf, elems_nil_of_zero_mem a hwf h0]
  exact congrArg Res.ok (eq_mk_nil_of_zero_mem a hwf h0).symm

/-- **roll of an empty array on a given pairing of shifts and valid axes**: rank 1 — the array unchanged; rank ≥ 2 —
`Err(ParameterError)` when one of the accumulated axes makes the code cut along a zero-length axis, else unchanged -/
theorem roll_empty_of_bc (a : Arr α) (shift axs : List Int) (ps : List (Int × Int)) (n : Nat)
    (hbc : (Arr.flat shift).broadcast (Arr.flat axs) = .ok ⟨ps, [n]⟩)
    (hwf : a.WF) (h0 : 0 ∈ a.shape) (hv : ∀ p ∈ ps, normalizeAxis a.ndim p.2 < a.ndim) :
    a.roll shift (some axs) =
      if 2 ≤ a.ndim ∧ (accumShifts (pairsOf a.ndim ps)).any (fun p => decide (0 ∈ cutAxes p.1 a.shape)) = true
      then .err .ParameterError else .ok a := by
  have hvalid := pairsOf_valid a.ndim ps hv
  have hany : (accumShifts (pairsOf a.ndim ps)).any (fun p => decide (p.1 ≥ a.ndim)) = false :=
    any_ge_false _ (fun p : Nat × Int => p.1) _ hvalid
  have ha := eq_mk_nil_of_zero_mem a hwf h0
  have he := elems_nil_of_zero_mem a hwf h0
  have hp : a.shape.prod = 0 := prod_eq_zero_of_mem _ h0
  have hnew : Arr.new ([] : List α) a.shape = .ok a := (Arr.new_of_prod (hp.trans List.length_nil.symm)).trans (congrArg Res.ok ha.symm)
  rw [a.roll_some_of_bc shift axs ps n hbc, hany, if_neg Bool.false_ne_true, he]
  split
  · next hnd => exact absurd (hnd ▸ List.length_pos_of_mem h0 : 0 < 0) (Nat.lt_irrefl 0)
  · next hnd =>
    -- rank 1: rotating the empty vector
    have hfold : ∀ (l : List (Nat × Int)),
        l.foldl (fun (es : List α) p => rotateRight es (p.2 % (es.length : Int)).toNat) [] = [] := by
      intro l; induction l with
      | nil => rfl
      | cons x xs ih => exact ih
    have h2 : ¬ 2 ≤ a.ndim := by rw [hnd]; decide
    rw [hfold, hnew, if_neg (fun h => h2 h.1)]
  · next hnd0 hnd1 =>
    have h2 : 2 ≤ a.ndim := Nat.lt_of_le_of_ne (Nat.pos_of_ne_zero hnd0) (fun e => hnd1 e.symm)
    rw [foldl_nil_steps (α := α) (fun (p : Nat × Int) es => rollAxis p.1 a.shape p.2 es)
      (fun p => decide (0 ∈ cutAxes p.1 a.shape)) _
      (fun p hp' => by simp only [rollAxis_nil p.1 a.shape p.2 hp (hvalid p hp'), decide_eq_true_eq])]
    by_cases hc : (accumShifts (pairsOf a.ndim ps)).any (fun p => decide (0 ∈ cutAxes p.1 a.shape)) = true
    · rw [if_pos hc, if_pos ⟨h2, hc⟩]; rfl
    · rw [if_neg hc, if_neg (fun h => hc h.2), Res.bind_ok, hnew]

/-- **roll along the flattened order on an empty array**: the array unchanged -/
theorem roll_flat_empty (a : Arr α) (s : Int) (hwf : a.WF) (h0 : 0 ∈ a.shape) : a.roll [s] none = .ok a := by
  rw [a.roll_none s, elems_nil_of_zero_mem a hwf h0]
  exact (Arr.new_of_prod ((prod_eq_zero_of_mem _ h0).trans List.length_nil.symm)).trans
    (congrArg Res.ok (eq_mk_nil_of_zero_mem a hwf h0).symm)

/-- exchanging two axes of an empty array: the empty array of the exchanged shape -/
theorem swap_empty (a : Arr α) (zero : α) (i j : Nat) (hwf : a.WF) (h0 : 0 ∈ a.shape) (hi : i < a.ndim) (hj : j < a.ndim) :
    a.transpose zero (some ((swapOrder a.ndim i j).map Int.ofNat)) = .ok ⟨[], permute (swapOrder a.ndim i j) a.shape⟩ ∧
    0 ∈ permute (swapOrder a.ndim i j) a.shape := by
  obtain ⟨r, h1, h2, h3, _⟩ := swap_at a a.shape rfl zero a.ndim i j rfl hwf hi hj
  have hp : (permute (swapOrder a.ndim i j) a.shape).prod = 0 := by
    rw [prod_permute _ _ (C06.swapOrder_perm a.ndim i j hi hj)]; exact prod_eq_zero_of_mem _ h0
  have hz := (prod_eq_zero_iff_mem _).1 hp
  refine ⟨?_, hz⟩
  rw [h1, eq_mk_nil_of_zero_mem r h3 (h2 ▸ hz), h2]

theorem wf_nil_of_zero_mem (s : List Nat) (h : 0 ∈ s) : (⟨[], s⟩ : Arr α).WF := (prod_eq_zero_of_mem s h).symm

/-- **flip of an empty array along one axis** -/
theorem flip_one_empty (a : Arr α) (ax : Int) (hwf : a.WF) (h0 : 0 ∈ a.shape) (hk : normalizeAxis a.ndim ax < a.ndim) :
    a.flip (some [ax]) = if 0 ∈ cutAxes (normalizeAxis a.ndim ax) a.shape then .err .ParameterError else .ok a := by
  rw [flip_empty a [ax] hwf h0 (List.forall_mem_singleton.2 hk)]
  simp only [List.any_cons, List.any_nil, Bool.or_false, decide_eq_true_eq]

theorem flip_nat_empty (a : Arr α) (k : Nat) (hwf : a.WF) (h0 : 0 ∈ a.shape) (hk : k < a.ndim) :
    a.flip (some [Int.ofNat k]) = if 0 ∈ cutAxes k a.shape then .err .ParameterError else .ok a := by
  have e := normalizeAxis_ofNat a.ndim k
  have := flip_one_empty a (Int.ofNat k) hwf h0 (e.symm ▸ hk)
  rwa [e] at this

theorem turn_empty (a : Arr α) (zero : α) (i j : Nat) (hwf : a.WF) (hz : 0 ∈ a.shape) (hi : i < a.ndim) (hj : j < a.ndim) :
    a.turn zero i j =
      if 0 ∈ cutAxes j a.shape then .err .ParameterError else .ok ⟨[], permute (swapOrder a.ndim i j) a.shape⟩ := by
  unfold Arr.turn
  rw [flip_nat_empty a j hwf hz hj]
  by_cases c : 0 ∈ cutAxes j a.shape
  · rw [if_pos c, if_pos c]; rfl
  · rw [if_neg c, if_neg c, Res.bind_ok]
    exact (swap_empty a zero i j hwf hz hi hj).1

theorem rot2_empty (a : Arr α) (a0 a1 : Int) (hwf : a.WF) (hz : 0 ∈ a.shape)
    (hi : normalizeAxis a.ndim a0 < a.ndim) (hj : normalizeAxis a.ndim a1 < a.ndim) :
    (a.flip (some [a1]) >>= fun r => r.flip (some [a0])) =
      if 0 ∈ cutAxes (normalizeAxis a.ndim a1) a.shape ∨ 0 ∈ cutAxes (normalizeAxis a.ndim a0) a.shape
      then .err .ParameterError else .ok a := by
  rw [flip_one_empty a a1 hwf hz hj]
  by_cases c1 : 0 ∈ cutAxes (normalizeAxis a.ndim a1) a.shape
  · rw [if_pos c1, if_pos (Or.inl c1)]; rfl
  · rw [if_neg c1, Res.bind_ok, flip_one_empty a a0 hwf hz hi]
    by_cases c0 : 0 ∈ cutAxes (normalizeAxis a.ndim a0) a.shape
    · rw [if_pos c0, if_pos (Or.inr c0)]
    · rw [if_neg c0, if_neg (fun h => h.elim c1 c0)]

theorem rot3_empty (a : Arr α) (zero : α) (i j : Nat) (hwf : a.WF) (hz : 0 ∈ a.shape) (hi : i < a.ndim) (hj : j < a.ndim) :
    (a.transpose zero (some ((swapOrder a.ndim i j).map Int.ofNat)) >>= fun r => r.flip (some [Int.ofNat j])) =
      if 0 ∈ cutAxes j (permute (swapOrder a.ndim i j) a.shape) then .err .ParameterError
      else .ok ⟨[], permute (swapOrder a.ndim i j) a.shape⟩ := by
  obtain ⟨hsw, hzT⟩ := swap_empty a zero i j hwf hz hi hj
  have hTnd : (⟨[], permute (swapOrder a.ndim i j) a.shape⟩ : Arr α).ndim = a.ndim := permute_swap_length _ _ _ _
  rw [hsw, Res.bind_ok, flip_nat_empty _ j (wf_nil_of_zero_mem (α := α) _ hzT) hzT (hTnd.symm ▸ hj)]

end ArrModel
