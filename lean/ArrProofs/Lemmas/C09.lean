import ArrModel.C09
import ArrModel.Reorder
import ArrModel.Joining
import ArrProofs.Lemmas.Axis
import ArrProofs.Lemmas.C08AlongAxis
import ArrProofs.Lemmas.C13List
/-!
# Lemmas for C09 — the table lookup and how outcomes pass through guards
-/
namespace ArrModel.C09
open ArrModel ArrModel.Gen.Tables

/-! ## generic lookup -/

theorem lookup_cons (k : List Char) (v : Nat) (rest : List (List Char × Nat)) (s : List Char) :
    lookup ((k, v) :: rest) s = if s = k then some v else lookup rest s := rfl

theorem lookup_none_iff (rows : List (List Char × Nat)) (s : List Char) :
    lookup rows s = none ↔ ∀ r ∈ rows, r.1 ≠ s := by
  induction rows with
  | nil => simp [lookup]
  | cons r rest ih =>
    obtain ⟨k, v⟩ := r
    unfold lookup
    by_cases h : s = k
    · subst h; simp
    · simp only [if_neg h, ih, List.mem_cons, forall_eq_or_imp]
      exact ⟨fun hr => ⟨fun hk => h hk.symm, hr⟩, fun hr => hr.2⟩

theorem lookup_some_mem (rows : List (List Char × Nat)) (s : List Char) (i : Nat) (h : lookup rows s = some i) :
    (s, i) ∈ rows := by
  induction rows with
  | nil => simp [lookup] at h
  | cons r rest ih =>
    obtain ⟨k, v⟩ := r
    unfold lookup at h
    by_cases hk : s = k
    · subst hk; simp only [if_true, Option.some.injEq] at h; subst h; simp
    · rw [if_neg hk] at h; exact List.mem_cons_of_mem _ (ih h)

/-! ## outcomes and guards -/

theorem errOf_known {β} (fall : List Char) (e : Err) (h : Err.ofChars? fall = some e) : (errOf fall : Res β) = .err e := by
  unfold errOf; rw [h]

/-- two guards with the same refusal: either one suffices -/
theorem ite_ite_of_or {β} {c₁ c₂ : Prop} [Decidable c₁] [Decidable c₂] {e x : β} (h : c₁ ∨ c₂) :
    (if c₁ then e else if c₂ then e else x) = e := by
  by_cases h1 : c₁
  · exact if_pos h1
  · rw [if_neg h1, if_pos (h.resolve_left h1)]

/-- the guard `l.any (fun x => decide (p x))` fires as soon as one member satisfies `p` -/
theorem any_decide {ι} {l : List ι} {p : ι → Prop} [DecidablePred p] (h : ∃ x ∈ l, p x) : l.any (fun x => decide (p x)) = true :=
  have ⟨x, hx, hp⟩ := h
  List.any_eq_true.2 ⟨x, hx, decide_eq_true hp⟩

/-- the Bool guard `!(p && q)` of a model, read as a proposition -/
theorem not_decide_and_decide {p q : Prop} [Decidable p] [Decidable q] : (!(decide p && decide q)) = true ↔ ¬ (p ∧ q) := by
  simp only [Bool.not_eq_true', Bool.and_eq_false_iff, decide_eq_false_iff_not, Decidable.not_and_iff_not_or_not]

end ArrModel.C09
