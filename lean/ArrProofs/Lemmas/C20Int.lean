import ArrProofs.Lemmas.C20
import ArrModel.C20Int
/-!
# Lemmas for C20Int — the native fixed-width integer operators (all widths, all values)

First the forms: evaluating the term array the generic model returns gives `liftOpt` of the lifted zip / map of the native
scalar operator (`iBinop_eq`, `iScalar_eq`, …).  Then the scalars: `IntTy.val` and the representable range, the value of
each operator when it answers, and which operands make it panic in which build.

Core Lean only (`BitVec` / `Int` lemmas of `Init`, `omega`, `simp`).
-/
namespace ArrModel.C20
open ArrModel

variable {β γ : Type}

/-! ### structure: evaluating the terms of the generic model -/

theorem range_map_eq_zipWith (f : β → β → γ) (xs ys : List β) (h : xs.length = ys.length) (g : Nat → γ)
    (hg : ∀ i (h1 : i < xs.length) (h2 : i < ys.length), g i = f xs[i] ys[i]) :
    (List.range xs.length).map g = List.zipWith f xs ys := by
  apply List.ext_getElem
  · simp [h]
  · intro i h1 h2
    simp only [List.length_map, List.length_range] at h1
    simp [hg i h1 (h ▸ h1)]

theorem range_map_eq_map (f : β → γ) (xs : List β) (g : Nat → γ)
    (hg : ∀ i (h1 : i < xs.length), g i = f xs[i]) :
    (List.range xs.length).map g = xs.map f := by
  apply List.ext_getElem
  · simp
  · intro i h1 h2
    simp only [List.length_map, List.length_range] at h1
    simp [hg i h1]

theorem zipWith_range_map (c d : Nat → Sym) (k : Sym → Sym → Sym) (n : Nat) :
    List.zipWith k ((List.range n).map c) ((List.range n).map d) = (List.range n).map (fun i => k (c i) (d i)) := by
  simp [List.zipWith_map, List.zipWith_self]

/-- the answer of an operator call whose scalar function may panic: all positions, or a panic -/
def liftOpt (sh : List Nat) : Option (List β) → Res (Arr β)
  | some vs => .ok ⟨vs, sh⟩
  | none => .panic

theorem liftOpt_some (sh : List Nat) (vs : List β) : liftOpt sh (some vs) = .ok ⟨vs, sh⟩ := rfl

theorem evalArr_ok (ev : Sym → Option β) (ts : List Sym) (sh : List Nat) :
    evalArr ev (.ok ⟨ts, sh⟩) = liftOpt sh (allSome (ts.map ev)) := by
  simp only [evalArr, liftOpt]; cases allSome (ts.map ev) <;> rfl

theorem liftOpt_eq_ok_iff {sh : List Nat} {o : Option (List β)} {r : Arr β} :
    liftOpt sh o = .ok r ↔ ∃ vs, o = some vs ∧ r = ⟨vs, sh⟩ := by
  cases o with
  | none => exact ⟨nofun, nofun⟩
  | some vs => exact ⟨fun h => ⟨vs, rfl, (Res.ok.inj h).symm⟩, fun ⟨_, h, e⟩ => Option.some.inj h ▸ e ▸ rfl⟩

theorem liftOpt_eq_panic_iff {sh : List Nat} {o : Option (List β)} : liftOpt sh o = .panic ↔ o = none := by
  cases o with
  | none => exact ⟨fun _ => rfl, fun _ => rfl⟩
  | some vs => exact ⟨nofun, nofun⟩

theorem liftOpt_ne_err (sh : List Nat) (o : Option (List β)) (e : Err) : liftOpt sh o ≠ .err e := by
  cases o <;> exact nofun

theorem allSome_map_some (xs : List β) : allSome (xs.map some) = some xs := by
  induction xs with
  | nil => rfl
  | cons x xs ih => simp [allSome, ih]

theorem allSome_eq_some_iff : ∀ (os : List (Option β)) (vs : List β),
    allSome os = some vs ↔ os = vs.map some
  | [], vs => by cases vs <;> simp [allSome]
  | none :: os, vs => by cases vs <;> simp [allSome]
  | some x :: os, vs => by
    cases vs with
    | nil => simp only [allSome]; cases allSome os <;> simp
    | cons v vs =>
      simp only [allSome, List.map_cons, List.cons.injEq, Option.some.injEq]
      rw [← allSome_eq_some_iff os vs]
      cases allSome os <;> simp

theorem allSome_eq_none_iff (os : List (Option β)) : allSome os = none ↔ none ∈ os := by
  induction os with
  | nil => simp [allSome]
  | cons o os ih =>
    cases o with
    | none => simp [allSome]
    | some x =>
      simp only [allSome, List.mem_cons, reduceCtorEq, false_or]
      rw [← ih]; cases allSome os <;> simp

/-- per position: a value answer holds the value of every member -/
theorem allSome_getElem {os : List (Option β)} {vs : List β} (h : allSome os = some vs) {i : Nat} {o : Option β}
    (ho : os[i]? = some o) : ∃ v, o = some v ∧ vs[i]? = some v := by
  rw [allSome_eq_some_iff] at h
  subst h
  rw [List.getElem?_map] at ho
  cases hv : vs[i]? with
  | none => rw [hv] at ho; cases ho
  | some v => rw [hv] at ho; exact ⟨v, (Option.some.inj ho).symm, rfl⟩

/-- … `f x y` everywhere, for a lifted zip -/
theorem zipOpt_some_getElem (f : β → β → Option β) (xs ys vs : List β) (h : zipOpt f xs ys = some vs)
    (i : Nat) (x y : β) (hx : xs[i]? = some x) (hy : ys[i]? = some y) : ∃ v, f x y = some v ∧ vs[i]? = some v :=
  allSome_getElem h (by rw [List.getElem?_zipWith, hx, hy])

/-- a scalar function that never panics lifts to the plain zip -/
theorem zipOpt_total (g : β → β → β) (xs ys : List β) :
    zipOpt (fun x y => some (g x y)) xs ys = some (List.zipWith g xs ys) := by
  rw [zipOpt, ← allSome_map_some (List.zipWith g xs ys), List.map_zipWith]

theorem zipOpt_none_iff (f : β → β → Option β) (xs ys : List β) :
    zipOpt f xs ys = none ↔ ∃ (i : Nat) (x y : β), xs[i]? = some x ∧ ys[i]? = some y ∧ f x y = none := by
  simp only [zipOpt, allSome_eq_none_iff, List.mem_iff_getElem?, List.getElem?_zipWith_eq_some]

/-- if every defined `f x y` is `g x y`, a value answer of the lifted `f` is the plain zip with `g` -/
theorem zipOpt_some_eq (f : β → β → Option β) (g : β → β → β) (hfg : ∀ x y v, f x y = some v → v = g x y) :
    ∀ (xs ys vs : List β), zipOpt f xs ys = some vs → vs = List.zipWith g xs ys
  | [], _, vs, h => by simp [zipOpt, allSome] at h; simp [h]
  | _ :: _, [], vs, h => by simp [zipOpt, allSome] at h; simp [h]
  | x :: xs, y :: ys, vs, h => by
    simp only [zipOpt, List.zipWith_cons_cons] at h
    cases hf : f x y with
    | none => simp [hf, allSome] at h
    | some v =>
      rw [hf] at h
      simp only [allSome] at h
      cases hr : allSome (List.zipWith f xs ys) with
      | none => simp [hr] at h
      | some r =>
        simp only [hr, Option.some.injEq] at h
        subst h
        rw [List.zipWith_cons_cons, ← hfg x y v hf, ← zipOpt_some_eq f g hfg xs ys r hr]

/-- a zipped term list: when the term at position `i` evaluates to `F` of the operands' elements at `i`, the array
evaluates to the lifted zip -/
theorem evalArr_zip (ev : Sym → Option β) (K : Sym → Sym → Sym) (F : β → β → Option β) (xs ys : List β) (sh : List Nat)
    (hl : xs.length = ys.length)
    (hK : ∀ i (h1 : i < xs.length) (h2 : i < ys.length), ev (K (.a i) (.b i)) = F xs[i] ys[i]) :
    evalArr ev (.ok ⟨List.zipWith K ((List.range xs.length).map .a) ((List.range ys.length).map .b), sh⟩)
      = liftOpt sh (zipOpt F xs ys) := by
  rw [← hl, zipWith_range_map, evalArr_ok, List.map_map, zipOpt]
  exact congrArg (fun l => liftOpt sh (allSome l)) (range_map_eq_zipWith F xs ys hl _ hK)

/-- the same for a mapped term list (scalar operand, unary operator) -/
theorem evalArr_map (ev : Sym → Option β) (K : Sym → Sym) (F : β → Option β) (xs : List β) (sh : List Nat)
    (hK : ∀ i (h : i < xs.length), ev (K (.a i)) = F xs[i]) :
    evalArr ev (.ok ⟨((List.range xs.length).map .a).map K, sh⟩) = liftOpt sh (allSome (xs.map F)) := by
  rw [evalArr_ok, List.map_map, List.map_map]
  exact congrArg (fun l => liftOpt sh (allSome l)) (range_map_eq_map F xs _ hK)

theorem symOf_WF (c : Nat → Sym) (a : Arr β) (ha : a.WF) : (symOf c a).WF :=
  ((List.length_map _).trans List.length_range).trans ha

section forms
variable (ty : IntTy) (bld : Build) (op : BinOp) (un : UnOp)

/-! where the operand values enter: a node over the `i`-th leaves evaluates to the native operator on the `i`-th elements -/

theorem evalTerm_op_envAB (a b : IArr ty) (i : Nat) (h1 : i < a.elems.length) (h2 : i < b.elems.length) :
    evalTerm ty bld op un (envAB a b) (.op (.a i) (.b i)) = scalarBin ty bld op a.elems[i] b.elems[i] := by
  simp [evalTerm, envAB, h1, h2]

theorem evalTerm_asg_envAB (a b : IArr ty) (i : Nat) (h1 : i < a.elems.length) (h2 : i < b.elems.length) :
    evalTerm ty bld op un (envAB a b) (.asg (.a i) (.b i)) = scalarAsg ty bld op a.elems[i] b.elems[i] := by
  simp [evalTerm, envAB, h1, h2]

theorem evalTerm_un_envAB (a b : IArr ty) (i : Nat) (h : i < a.elems.length) :
    evalTerm ty bld op un (envAB a b) (.un (.a i)) = scalarUn ty bld un a.elems[i] := by
  simp [evalTerm, envAB, h]

theorem evalTerm_op_envAS (a : IArr ty) (s : BitVec ty.w) (i : Nat) (h : i < a.elems.length) :
    evalTerm ty bld op un (envAS a s) (.op (.a i) .s) = scalarBin ty bld op a.elems[i] s := by
  simp [evalTerm, envAS, h]

theorem evalTerm_asg_envAS (a : IArr ty) (s : BitVec ty.w) (i : Nat) (h : i < a.elems.length) :
    evalTerm ty bld op un (envAS a s) (.asg (.a i) .s) = scalarAsg ty bld op a.elems[i] s := by
  simp [evalTerm, envAS, h]

theorem iBinop_eq (a b : IArr ty) (ha : a.WF) (hb : b.WF) (hs : a.shape = b.shape) :
    iBinop ty bld op a b = liftOpt a.shape (zipOpt (scalarBin ty bld op) a.elems b.elems) := by
  rw [iBinop, binop_eq _ _ _ (symOf_WF _ a ha) (symOf_WF _ b hb) hs]
  exact evalArr_zip _ _ _ _ _ _ (length_eq_of_shape ha hb hs) (evalTerm_op_envAB ty bld op .id a b)

theorem iAssign_eq (a b : IArr ty) (ha : a.WF) (hb : b.WF) (hs : a.shape = b.shape) :
    iAssign ty bld op a b = liftOpt a.shape (zipOpt (scalarAsg ty bld op) a.elems b.elems) := by
  have hl := length_eq_of_shape ha hb hs
  rw [iAssign, assignop_eq Sym.asg (symOf .a a) (symOf .b b) (by simp [symOf, hl]) hs]
  exact evalArr_zip _ _ _ _ _ _ hl (evalTerm_asg_envAB ty bld op .id a b)

theorem iBitop_eq (a b : IArr ty) (ha : a.WF) (hb : b.WF) (hs : a.shape = b.shape) :
    iBitop ty bld op a b = liftOpt a.shape (zipOpt (scalarBin ty bld op) a.elems b.elems) := by
  rw [iBitop, bitop_eq Sym.op (symOf .a a) (symOf .b b) hs]
  exact evalArr_zip _ _ _ _ _ _ (length_eq_of_shape ha hb hs) (evalTerm_op_envAB ty bld op .id a b)

theorem iBitAssign_eq (a b : IArr ty) (ha : a.WF) (hb : b.WF) (hs : a.shape = b.shape) :
    iBitAssign ty bld op a b = liftOpt a.shape (zipOpt (scalarBin ty bld op) a.elems b.elems) := by
  have hl := length_eq_of_shape ha hb hs
  rw [iBitAssign, bitAssign, assignop_eq Sym.op (symOf .a a) (symOf .b b) (by simp [symOf, hl]) hs]
  exact evalArr_zip _ _ _ _ _ _ hl (evalTerm_op_envAB ty bld op .id a b)

/-- differently shaped operands: every two-array form panics -/
theorem iForms_mismatch (a b : IArr ty) (hs : a.shape ≠ b.shape) :
    iBinop ty bld op a b = .panic ∧ iAssign ty bld op a b = .panic ∧ iBitop ty bld op a b = .panic ∧
    iBitAssign ty bld op a b = .panic := by
  have h : (symOf Sym.a a).shape ≠ (symOf Sym.b b).shape := hs
  exact ⟨by rw [iBinop, binop, if_pos h]; rfl, by rw [iAssign, assignop, if_pos h]; rfl,
    by rw [iBitop, bitop, if_pos h]; rfl, by rw [iBitAssign, bitAssign, assignop, if_pos h]; rfl⟩

theorem iScalar_eq (a : IArr ty) (s : BitVec ty.w) (ha : a.WF) :
    iScalar ty bld op a s = liftOpt a.shape (allSome (a.elems.map (fun x => scalarBin ty bld op x s))) := by
  rw [iScalar, scalarop_eq _ _ _ (symOf_WF _ a ha)]
  exact evalArr_map _ (fun x => Sym.op x .s) _ _ _ (evalTerm_op_envAS ty bld op .id a s)

theorem iAssignScalar_eq (a : IArr ty) (s : BitVec ty.w) :
    iAssignScalar ty bld op a s = liftOpt a.shape (allSome (a.elems.map (fun x => scalarAsg ty bld op x s))) :=
  evalArr_map _ (fun x => Sym.asg x .s) _ _ _ (evalTerm_asg_envAS ty bld op .id a s)

theorem iBitScalar_eq (a : IArr ty) (s : BitVec ty.w) :
    iBitScalar ty bld op a s = liftOpt a.shape (allSome (a.elems.map (fun x => scalarBin ty bld op x s))) :=
  evalArr_map _ (fun x => Sym.op x .s) _ _ _ (evalTerm_op_envAS ty bld op .id a s)

theorem iUnop_eq (a : IArr ty) (ha : a.WF) :
    iUnop ty bld un a = liftOpt a.shape (allSome (a.elems.map (scalarUn ty bld un))) := by
  rw [iUnop, unop_eq _ _ (symOf_WF _ a ha)]
  exact evalArr_map _ Sym.un _ _ _ (evalTerm_un_envAB ty bld .and un a a)

end forms

/-! ### scalars: range, exact results without overflow -/

section scalars
variable (ty : IntTy) (bld : Build)

theorem inRange_iff (v : Int) : ty.inRange v = true ↔ ty.minVal ≤ v ∧ v ≤ ty.maxVal := by
  simp [IntTy.inRange]

theorem two_pow_cast (w : Nat) : ((2 ^ w : Nat) : Int) = (2 : Int) ^ w := by simp

theorem val_unsigned {ty : IntTy} (h : ty.signed = false) (x : BitVec ty.w) : ty.val x = (x.toNat : Int) := by
  simp [IntTy.val, h]

theorem val_signed {ty : IntTy} (h : ty.signed = true) (x : BitVec ty.w) : ty.val x = x.toInt := by
  simp [IntTy.val, h]

theorem inRange_unsigned {ty : IntTy} (h : ty.signed = false) (v : Int) :
    ty.inRange v = true ↔ 0 ≤ v ∧ v < (2 : Int) ^ ty.w := by
  simp only [inRange_iff, IntTy.minVal, IntTy.maxVal, h, Bool.false_eq_true, if_false]; omega

theorem inRange_signed {ty : IntTy} (h : ty.signed = true) (v : Int) :
    ty.inRange v = true ↔ -(2 : Int) ^ (ty.w - 1) ≤ v ∧ v < (2 : Int) ^ (ty.w - 1) := by
  simp only [inRange_iff, IntTy.minVal, IntTy.maxVal, h, if_true]; omega

/-- every bit pattern denotes a representable integer -/
theorem val_inRange (x : BitVec ty.w) : ty.inRange (ty.val x) = true := by
  cases hs : ty.signed
  · rw [inRange_unsigned hs, val_unsigned hs, ← two_pow_cast]
    exact ⟨Int.natCast_nonneg _, Int.ofNat_lt.2 x.isLt⟩
  · rw [inRange_signed hs, val_signed hs]
    exact ⟨BitVec.le_toInt x, BitVec.toInt_lt⟩

theorem val_inj (x y : BitVec ty.w) : ty.val x = ty.val y ↔ x = y := by
  cases hs : ty.signed
  · rw [val_unsigned hs, val_unsigned hs, Int.ofNat_inj, BitVec.toNat_inj]
  · rw [val_signed hs, val_signed hs]; exact BitVec.toInt_inj

theorem val_zero : ty.val (0#ty.w) = 0 := by
  cases hs : ty.signed
  · rw [val_unsigned hs]; rfl
  · rw [val_signed hs]; exact BitVec.toInt_zero

/-- the bit pattern is the value modulo `2^w` -/
theorem val_emod (x : BitVec ty.w) : ty.val x % (2 : Int) ^ ty.w = (x.toNat : Int) := by
  have hlt : (x.toNat : Int) < (2 : Int) ^ ty.w := two_pow_cast ty.w ▸ Int.ofNat_lt.2 x.isLt
  cases hs : ty.signed
  · rw [val_unsigned hs]
    exact Int.emod_eq_of_lt (Int.natCast_nonneg _) hlt
  · rw [val_signed hs, BitVec.toInt_eq_toNat_bmod, ← two_pow_cast, Int.bmod_emod, two_pow_cast]
    exact Int.emod_eq_of_lt (Int.natCast_nonneg _) hlt

theorem val_add_emod (x y : BitVec ty.w) : ty.val (x + y) % (2 : Int) ^ ty.w = (ty.val x + ty.val y) % (2 : Int) ^ ty.w := by
  rw [val_emod, Int.add_emod, val_emod, val_emod, BitVec.toNat_add, Int.natCast_emod, Int.natCast_add, two_pow_cast]

theorem val_mul_emod (x y : BitVec ty.w) : ty.val (x * y) % (2 : Int) ^ ty.w = (ty.val x * ty.val y) % (2 : Int) ^ ty.w := by
  rw [val_emod, Int.mul_emod, val_emod, val_emod, BitVec.toNat_mul, Int.natCast_emod, Int.natCast_mul, two_pow_cast]

/-- two bit patterns whose values agree modulo `2^w` are the same -/
theorem eq_of_val_emod_eq {x y : BitVec ty.w} (h : ty.val x % (2 : Int) ^ ty.w = ty.val y % (2 : Int) ^ ty.w) : x = y := by
  rw [val_emod, val_emod, Int.ofNat_inj] at h
  exact BitVec.toNat_inj.1 h

theorem scalarBin_eq_some_iff {op : BinOp} {x y v : BitVec ty.w} :
    scalarBin ty bld op x y = some v ↔ binPanics ty bld op x y = false ∧ v = wrapBin ty.signed op x y := by
  unfold scalarBin
  cases binPanics ty bld op x y <;> simp [eq_comm]

theorem scalarBin_eq_none_iff {op : BinOp} {x y : BitVec ty.w} :
    scalarBin ty bld op x y = none ↔ binPanics ty bld op x y = true := by
  unfold scalarBin
  cases binPanics ty bld op x y <;> simp

/-- a value in any build is the wrapped value -/
theorem scalarBin_some (op : BinOp) (x y v : BitVec ty.w) (h : scalarBin ty bld op x y = some v) :
    v = wrapBin ty.signed op x y :=
  ((scalarBin_eq_some_iff ty bld).1 h).2

/-- `+ - *` with overflow checks panic exactly when the result on the integers (`exactBin`) is not representable -/
theorem binPanics_checked (op : BinOp) (hop : op = .add ∨ op = .sub ∨ op = .mul) (x y : BitVec ty.w) :
    binPanics ty Build.harness op x y = !ty.inRange (exactBin op (ty.val x) (ty.val y)) := by
  rcases hop with rfl | rfl | rfl <;> rfl

theorem checked_none_iff (op : BinOp) (hop : op = .add ∨ op = .sub ∨ op = .mul) (x y : BitVec ty.w) :
    scalarBin ty Build.harness op x y = none ↔
      ¬ (ty.minVal ≤ exactBin op (ty.val x) (ty.val y) ∧ exactBin op (ty.val x) (ty.val y) ≤ ty.maxVal) := by
  rw [scalarBin_eq_none_iff, binPanics_checked ty op hop, ← inRange_iff, Bool.not_eq_true', Bool.not_eq_true]

/-- inside the signed window nothing overflows (the shape of core's `saddOverflow`, `ssubOverflow`, `smulOverflow`) -/
theorem not_signed_overflow {w : Nat} {s : Int} (h : -(2 : Int) ^ (w - 1) ≤ s ∧ s < (2 : Int) ^ (w - 1)) :
    ¬ (decide (s ≥ 2 ^ (w - 1)) || decide (s < -2 ^ (w - 1))) = true := by
  rw [Bool.or_eq_true, decide_eq_true_eq, decide_eq_true_eq]
  exact fun c => c.elim (fun c => absurd h.2 (Int.not_lt.2 c)) (fun c => absurd h.1 (Int.not_le.2 c))

/-- **`+ - *` with overflow checks**: a value is the exact result -/
theorem checked_value (op : BinOp) (hop : op = .add ∨ op = .sub ∨ op = .mul) (x y v : BitVec ty.w)
    (h : scalarBin ty Build.harness op x y = some v) : ty.val v = exactBin op (ty.val x) (ty.val y) := by
  obtain ⟨hp, rfl⟩ := (scalarBin_eq_some_iff ty _).1 h
  have hr : ty.inRange (exactBin op (ty.val x) (ty.val y)) = true := by
    rw [binPanics_checked ty op hop, Bool.not_eq_false'] at hp; exact hp
  clear hp h
  cases hs : ty.signed
  · rw [inRange_unsigned hs, val_unsigned hs, val_unsigned hs, ← two_pow_cast] at hr
    rw [val_unsigned hs, val_unsigned hs, val_unsigned hs]
    rcases hop with rfl | rfl | rfl
    · rw [exactBin, ← Int.natCast_add, Int.ofNat_lt] at hr
      rw [wrapBin, BitVec.toNat_add_of_lt hr.2]; exact Int.natCast_add _ _
    · have hle : y.toNat ≤ x.toNat := Int.ofNat_le.1 (Int.sub_nonneg.1 hr.1)
      rw [wrapBin, BitVec.toNat_sub_of_le (BitVec.le_def.2 hle)]; exact Int.natCast_sub hle
    · rw [exactBin, ← Int.natCast_mul, Int.ofNat_lt] at hr
      rw [wrapBin, BitVec.toNat_mul_of_lt hr.2]; exact Int.natCast_mul _ _
  · rw [inRange_signed hs, val_signed hs, val_signed hs] at hr
    rw [val_signed hs, val_signed hs, val_signed hs]
    rcases hop with rfl | rfl | rfl
    · exact BitVec.toInt_add_of_not_saddOverflow (not_signed_overflow hr)
    · exact BitVec.toInt_sub_of_not_ssubOverflow (not_signed_overflow hr)
    · exact BitVec.toInt_mul_of_not_smulOverflow (not_signed_overflow hr)

theorem neg_value (x v : BitVec ty.w) (h : scalarUn ty Build.harness .neg x = some v) :
    ty.signed = true ∧ x ≠ BitVec.intMin ty.w ∧ v = -x ∧ ty.val v = - ty.val x := by
  unfold scalarUn unPanics at h
  simp only [Build.harness, Bool.true_and] at h
  split at h
  · simp at h
  · rename_i hr
    simp only [Bool.or_eq_true, Bool.not_eq_eq_eq_not, Bool.not_true, not_or, Bool.not_eq_false, beq_iff_eq] at hr
    simp only [wrapUn, Option.some.injEq] at h
    subst h
    refine ⟨hr.1, hr.2, rfl, ?_⟩
    rw [val_signed hr.1, val_signed hr.1]
    exact BitVec.toInt_neg_of_ne_intMin hr.2

/-- `/` and `%` panic on the same operands, in every build -/
theorem divPanics_iff (op : BinOp) (hop : op = .div ∨ op = .rem) (x y : BitVec ty.w) :
    binPanics ty bld op x y = true ↔ y = 0 ∨ (ty.signed = true ∧ x = BitVec.intMin ty.w ∧ y = BitVec.allOnes ty.w) := by
  have h : binPanics ty bld op x y = (y == 0 || (ty.signed && x == BitVec.intMin ty.w && y == BitVec.allOnes ty.w)) := by
    rcases hop with rfl | rfl <;> rfl
  simp [h, and_assoc]

theorem div_value (x y q : BitVec ty.w) (h : scalarBin ty bld .div x y = some q) :
    ty.val q = (ty.val x).tdiv (ty.val y) := by
  obtain ⟨hp, rfl⟩ := (scalarBin_eq_some_iff ty bld).1 h
  cases hs : ty.signed
  · simp only [val_unsigned hs, wrapBin, Bool.false_eq_true, if_false, BitVec.toNat_udiv, Int.ofNat_tdiv]
  · simp only [val_signed hs, wrapBin, if_true]
    have hp' := mt (divPanics_iff ty bld .div (.inl rfl) x y).2 (by rw [hp]; exact Bool.false_ne_true)
    apply BitVec.toInt_sdiv_of_ne_or_ne
    rw [BitVec.neg_one_eq_allOnes]
    by_cases hx : x = BitVec.intMin ty.w
    · exact .inr fun hy => hp' (.inr ⟨hs, hx, hy⟩)
    · exact .inl hx

theorem rem_value (x y r : BitVec ty.w) (h : scalarBin ty bld .rem x y = some r) :
    ty.val r = (ty.val x).tmod (ty.val y) := by
  obtain ⟨-, rfl⟩ := (scalarBin_eq_some_iff ty bld).1 h
  cases hs : ty.signed
  · simp only [val_unsigned hs, wrapBin, Bool.false_eq_true, if_false, BitVec.toNat_umod, Int.ofNat_tmod]
  · simp only [val_signed hs, wrapBin, if_true]; exact BitVec.toInt_srem x y

theorem shl_value (x k : BitVec ty.w) (hk : k.toNat < ty.w) :
    scalarBin ty bld .shl x k = some (x * BitVec.twoPow ty.w k.toNat) := by
  have : ¬ ty.w ≤ k.toNat := by omega
  simp only [scalarBin, binPanics, this, decide_false, Bool.and_false, Bool.false_eq_true, if_false, wrapBin,
    Nat.mod_eq_of_lt hk, BitVec.shiftLeft_eq_mul_twoPow]

theorem shr_value (x k r : BitVec ty.w) (hk : k.toNat < ty.w) (h : scalarBin ty bld .shr x k = some r) :
    ty.val r = ty.val x / (2 : Int) ^ k.toNat := by
  obtain ⟨-, rfl⟩ := (scalarBin_eq_some_iff ty bld).1 h
  cases hs : ty.signed
  · simp [val_unsigned hs, wrapBin, Nat.mod_eq_of_lt hk, Nat.shiftRight_eq_div_pow]
  · simp [val_signed hs, wrapBin, Nat.mod_eq_of_lt hk, BitVec.toInt_sshiftRight, Int.shiftRight_eq_div_pow]

/-- only `/` and `%` can panic without overflow checks … -/
theorem binPanics_release (op : BinOp) (h1 : op ≠ .div) (h2 : op ≠ .rem) (x y : BitVec ty.w) :
    binPanics ty Build.release op x y = false := by
  cases op with
  | div => exact absurd rfl h1
  | rem => exact absurd rfl h2
  | _ => rfl

/-- … and they panic in both builds alike -/
theorem binPanics_release_imp (op : BinOp) (x y : BitVec ty.w) (h : binPanics ty Build.release op x y = true) :
    binPanics ty Build.harness op x y = true := by
  by_cases h1 : op = .div
  · subst h1; exact h
  · by_cases h2 : op = .rem
    · subst h2; exact h
    · rw [binPanics_release ty op h1 h2] at h; cases h

/-- what the overflow-checks build computes, the plain release build computes too -/
theorem harness_some_release (op : BinOp) (x y v : BitVec ty.w) (h : scalarBin ty Build.harness op x y = some v) :
    scalarBin ty Build.release op x y = some v := by
  obtain ⟨hp, rfl⟩ := (scalarBin_eq_some_iff ty _).1 h
  refine (scalarBin_eq_some_iff ty _).2 ⟨Bool.eq_false_iff.2 fun hr => ?_, rfl⟩
  rw [binPanics_release_imp ty op x y hr] at hp
  cases hp

/-- without overflow checks `+ - * & | ^ << >>` never panic -/
theorem release_total (op : BinOp) (h1 : op ≠ .div) (h2 : op ≠ .rem) (x y : BitVec ty.w) :
    scalarBin ty Build.release op x y = some (wrapBin ty.signed op x y) :=
  (scalarBin_eq_some_iff ty _).2 ⟨binPanics_release ty op h1 h2 x y, rfl⟩

end scalars

end ArrModel.C20
