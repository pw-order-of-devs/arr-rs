import ArrModel.C16
import ArrProofs.Lemmas.Index
import ArrProofs.Lemmas.Res
/-! helper lemmas for C16 (structured constructors): matrix read-back, uniform `flat_map`, `chunks`,
the `apply_triangular` mask as one enumerate and `saturating_add` against exact addition in its comparisons,
`diag_1d`/`diag_2d` closed forms, neighbours in the spaced sequences (`linspace`, `geomspace`) and their rational
arithmetic, the `arange` loop, the diagonal test of `identity` -/
namespace ArrModel.C16
open ArrModel

/-! ### row-major arithmetic -/

theorem prod_pair (n m : Nat) : [n, m].prod = n * m := by
  rw [List.prod_cons, List.prod_cons, List.prod_nil, Nat.mul_one]

/-- whole `r × m` matrices in front of a flat position change neither its column nor its row -/
theorem row_col_shift (r m q x : Nat) :
    (q * (r * m) + x) % m = x % m ∧ (q * (r * m) + x) / m % r = x / m % r := by
  have e : q * (r * m) + x = x + q * r * m := by rw [Nat.mul_assoc, Nat.add_comm]
  rw [e, Nat.add_mul_mod_self_right]
  refine ⟨rfl, ?_⟩
  rcases Nat.eq_zero_or_pos m with rfl | hm
  · simp
  · rw [Nat.add_mul_div_right _ _ hm, Nat.add_mul_mod_self_right]

/-- column and row of a flat position survive reduction modulo the matrix size -/
theorem mod_chunk (r m idx : Nat) : idx % (r * m) % m = idx % m ∧ idx % (r * m) / m % r = idx / m % r := by
  have h := row_col_shift r m (idx / (r * m)) (idx % (r * m))
  rw [Nat.div_add_mod'] at h
  exact ⟨h.1.symm, h.2.symm⟩

/-- position of `[…, i, j]` in a stack of `r × m` matrices: column = `pos % m`, row = `pos / m % r` -/
theorem ravel_row_col (r m i j : Nat) : ∀ (pre cp : List Nat), pre.length = cp.length →
    inRange (pre ++ [r, m]) (cp ++ [i, j]) = true →
    j < m ∧ ravel (pre ++ [r, m]) (cp ++ [i, j]) % m = j ∧ ravel (pre ++ [r, m]) (cp ++ [i, j]) / m % r = i
  | [], [], _, h => by
    simp only [List.nil_append, inRange, Bool.and_true, Bool.and_eq_true, decide_eq_true_eq] at h
    obtain ⟨d, e⟩ := mul_add_divmod i j m h.2
    rw [List.nil_append, List.nil_append, ravel_mat, d, e, Nat.mod_eq_of_lt h.1]
    exact ⟨h.2, rfl, rfl⟩
  | d :: ds, c :: cs, hl, h => by
    simp only [List.cons_append, inRange, Bool.and_eq_true] at h
    obtain ⟨hj, e1, e2⟩ := ravel_row_col r m i j ds cs (Nat.succ.inj hl) h.2
    have hp : (ds ++ [r, m]).prod = ds.prod * (r * m) := by simp [List.prod_append]
    obtain ⟨s1, s2⟩ := row_col_shift r m (c * ds.prod) (ravel (ds ++ [r, m]) (cs ++ [i, j]))
    simp only [List.cons_append, ravel, hp]
    rw [← Nat.mul_assoc]
    exact ⟨hj, s1.trans e1, s2.trans e2⟩
  | [], _ :: _, hl, _ => nomatch hl
  | _ :: _, [], hl, _ => nomatch hl

/-- matrices built by `(0..n*m).map(f)` read back `f (i*m+j)` at `[i, j]` -/
theorem get_rangeMap {α} (n m : Nat) (f : Nat → α) (i j : Nat) (hi : i < n) (hj : j < m) :
    (⟨(List.range (n * m)).map f, [n, m]⟩ : Arr α).get? [i, j] = some (f (i * m + j)) := by
  simp [Arr.get?, ravel_mat, mul_add_lt hi hj]

/-! ### lists -/

/-- uniform `flat_map`: `l.flat_map(|x| (0..m).map(|j| g(x, j)))` at position `i*m + j` -/
theorem length_flatMap_uniform {α β} (m : Nat) (g : α → Nat → β) (l : List α) :
    (l.flatMap fun x => (List.range m).map (g x)).length = l.length * m :=
  ArrModel.length_flatMap_uniform _ m l fun _ _ => by rw [List.length_map, List.length_range]

theorem getElem?_flatMap_uniform {α β} (m : Nat) (g : α → Nat → β) (l : List α) (i j : Nat) (hj : j < m) :
    (l.flatMap fun x => (List.range m).map (g x))[i * m + j]? = l[i]?.map (fun x => g x j) := by
  by_cases hi : i < l.length
  · rw [ArrModel.getElem?_flatMap_uniform _ m l i j hi (fun _ _ => by rw [List.length_map, List.length_range]) hj,
      List.getElem?_map, List.getElem?_range hj, List.getElem?_eq_getElem hi]
    rfl
  · have hle := Nat.le_of_not_lt hi
    rw [List.getElem?_eq_none hle, List.getElem?_eq_none]
    · rfl
    · rw [length_flatMap_uniform]
      exact Nat.le_trans (Nat.mul_le_mul_right m hle) (Nat.le_add_right _ _)

theorem mapIdx_congr_lt {α β} (l : List α) (f g : Nat → α → β) (h : ∀ i (hi : i < l.length), f i l[i] = g i l[i]) :
    l.mapIdx f = l.mapIdx g := by
  apply List.ext_getElem (by simp)
  intro i h1 h2
  simp only [List.getElem_mapIdx]
  exact h i (by simpa using h1)

/-- `chunks(n).flat_map(|chunk| chunk.iter().enumerate().map(f))` = one enumerate with the index taken mod `n` -/
theorem flatMap_chunksAux {α β} (n : Nat) (hn : 0 < n) (f : Nat → α → β) :
    ∀ (fuel : Nat) (l : List α), l.length ≤ fuel →
      (chunksAux n fuel l).flatMap (fun chunk => chunk.mapIdx f) = l.mapIdx (fun idx v => f (idx % n) v)
  | 0, l, h => by
    rw [List.eq_nil_of_length_eq_zero (Nat.le_zero.1 h)]; rfl
  | fuel + 1, l, h => by
    unfold chunksAux
    split
    · rename_i he
      rw [List.isEmpty_iff.1 he]; rfl
    · rename_i he
      have hlen : 0 < l.length := List.length_pos_iff.2 fun e => he (e ▸ rfl)
      rw [List.flatMap_cons, flatMap_chunksAux n hn f fuel (l.drop n) (by rw [List.length_drop]; omega)]
      conv => rhs; rw [← List.take_append_drop n l, List.mapIdx_append]
      congr 1
      · exact mapIdx_congr_lt _ _ _ fun i hi => by
          rw [Nat.mod_eq_of_lt (by rw [List.length_take] at hi; omega)]
      · rcases Nat.lt_or_ge l.length n with hl | hl
        · rw [List.drop_eq_nil_of_le (Nat.le_of_lt hl)]; rfl
        · simp only [List.length_take, Nat.min_eq_left hl, Nat.add_mod_right]

theorem sequence_map_ok {α β} (g : α → β) : ∀ (l : List α), Res.sequence (l.map fun x => Res.ok (g x)) = .ok (l.map g) :=
  fun l => (congrArg Res.sequence (List.map_map (f := g) (g := Res.ok) (l := l)).symm).trans (Res.sequence_map_ok _)

/-- a `map` whose every call succeeds collects all the values -/
theorem mapM'_ok {α β} (f : α → Res β) (g : α → β) (l : List α) (h : ∀ x ∈ l, f x = .ok (g x)) :
    Res.mapM' f l = .ok (l.map g) :=
  Res.mapM'_ok h

theorem idx_ok {α} [Inhabited α] (l : List α) (i : Nat) (h : i < l.length) : Res.idx l i = .ok (l[i]'h) :=
  Res.idx_of_lt h

/-! ### triangular masks -/

/-- the mask `apply_triangular` applies at flat position `idx` of a stack of `r × m` matrices -/
def maskAt (r m : Nat) (k : Int) (compare : Int → Int → Int → Bool) (idx : Nat) (value : Int) : Int :=
  if compare ((idx % m : Nat) : Int) (((idx / m) % r : Nat) : Int) k then 0 else value

/-- a stack of `r × m` matrices that has an element has non-empty matrices -/
theorem stack_pos {α} (a : Arr α) (pre : List Nat) (r m : Nat) (hwf : a.WF) (hs : a.shape = pre ++ [r, m])
    {idx : Nat} (h : idx < a.elems.length) : 0 < r * m := by
  rw [hwf, hs, List.prod_append, List.prod_cons, List.prod_cons, List.prod_nil, Nat.mul_one] at h
  exact Nat.pos_of_ne_zero fun h0 => by rw [h0, Nat.mul_zero] at h; exact Nat.not_lt_zero _ h

theorem applyTriangular_eq (a : Arr Int) (k : Int) (cmp : Int → Int → Int → Bool) (pre : List Nat) (r m : Nat)
    (hwf : a.WF) (hs : a.shape = pre ++ [r, m]) :
    applyTriangular a k cmp = .ok ⟨a.elems.mapIdx (maskAt r m k cmp), a.shape⟩ := by
  have hlen : a.shape.length = pre.length + 2 := by rw [hs, List.length_append]; rfl
  have hlast : a.shape.getD (a.shape.length - 1) 0 = m := by
    rw [hlen, hs]; simp [List.getD_eq_getElem?_getD]
  have hsl : a.shape.getD (a.shape.length - 2) 0 = r := by
    rw [hlen, hs]; simp [List.getD_eq_getElem?_getD]
  have hpos : 0 < max (m * r) 1 := by omega
  unfold applyTriangular
  rw [if_neg (by omega)]
  simp only [hlast, hsl, chunks, if_neg (Nat.pos_iff_ne_zero.1 hpos)]
  rw [flatMap_chunksAux _ hpos _ _ _ (Nat.le_refl _), mapIdx_congr_lt a.elems _ (maskAt r m k cmp) ?_]
  · exact Arr.new_of_prod (hwf.symm.trans List.length_mapIdx.symm)
  · intro idx h1
    have hrm := stack_pos a pre r m hwf hs h1
    have hmx : max (m * r) 1 = r * m := by rw [Nat.mul_comm m r]; omega
    obtain ⟨e1, e2⟩ := mod_chunk r m idx
    simp only [maskAt, hmx, e1, e2]

/-- the masked stack read at a coordinate `[…, i, j]` -/
theorem applyTriangular_at (a : Arr Int) (k : Int) (cmp : Int → Int → Int → Bool) (pre cp : List Nat) (r m i j : Nat)
    (hwf : a.WF) (hs : a.shape = pre ++ [r, m]) (hc : inRange a.shape (cp ++ [i, j]) = true) :
    ∃ t, applyTriangular a k cmp = .ok t ∧ t.shape = a.shape ∧ t.WF ∧ j < m ∧
      t.get? (cp ++ [i, j]) = if cmp j i k = true then some 0 else a.get? (cp ++ [i, j]) := by
  have hlt : ravel a.shape (cp ++ [i, j]) < a.elems.length := hwf ▸ ravel_lt _ _ hc
  have hl : pre.length = cp.length := by
    have := inRange_length _ _ hc
    rw [hs, List.length_append, List.length_append] at this
    exact (Nat.add_right_cancel this).symm
  rw [hs] at hc hlt
  obtain ⟨hj, e1, e2⟩ := ravel_row_col r m i j pre cp hl hc
  refine ⟨_, applyTriangular_eq a k cmp pre r m hwf hs, rfl, List.length_mapIdx.trans hwf, hj, ?_⟩
  simp only [Arr.get?, hs, List.getElem?_mapIdx, List.getElem?_eq_getElem hlt, Option.map_some, maskAt, e1, e2]
  exact apply_ite some _ _ _

/-- `saturating_add` decides the three comparisons of `tri/tril/triu` exactly like unbounded addition, for
every column index that fits `isize` with room to spare and every offset (even outside `isize`) -/
theorem satAdd_cmp (j i k : Int) (hj0 : 0 ≤ j) (hj : j < isizeMax) :
    (j ≤ satAdd i k ↔ j ≤ i + k) ∧ (j > satAdd i k ↔ j > i + k) ∧ (j < satAdd i k ↔ j < i + k) := by
  unfold satAdd isizeMin
  unfold isizeMax at hj ⊢
  omega

/-- at every flat position the masks of `tril(k)` and `triu(k + 1)` split the entry: one keeps it, the other writes
zero (the lower mask zeroes where `col > row + k`, the upper one where `col < row + k + 1`) -/
theorem maskAt_lower_add_upper (r m : Nat) (k : Int) (idx : Nat) (v : Int) (hm : (m : Int) ≤ isizeMax) (hjm : idx % m < m) :
    maskAt r m k (fun j i k => decide (j > satAdd i k)) idx v
      + maskAt r m (k + 1) (fun j i k => decide (j < satAdd i k)) idx v = v := by
  have s1 := (satAdd_cmp ((idx % m : Nat) : Int) ((idx / m % r : Nat) : Int) k (by omega) (by omega)).2.1
  have s2 := (satAdd_cmp ((idx % m : Nat) : Int) ((idx / m % r : Nat) : Int) (k + 1) (by omega) (by omega)).2.2
  have hc : ((idx % m : Nat) : Int) < ↑(idx / m % r) + (k + 1) ↔ ¬ ((idx % m : Nat) : Int) > ↑(idx / m % r) + k := by
    omega
  simp only [maskAt, decide_eq_true_eq, s1, s2, hc, ite_not]
  split
  · exact Int.zero_add _
  · exact Int.add_zero _

/-! ### `diag` -/

/-- a guarded read that falls back to the default is `getD` -/
theorem idx_or_default {α} (l : List α) (i : Nat) (d : α) :
    (if i < l.length then Res.idx l i else .ok d) = .ok (l.getD i d) := by
  split
  · exact Res.idx_eq_getD d ‹_›
  · rw [List.getD_eq_getElem?_getD, List.getElem?_eq_none (by omega), Option.getD_none]

/-- what `diag_1d` writes at row `i`, column `j`: the vector sits on the k-th diagonal -/
theorem diag1d_entry (v : List Int) (k : Int) (i j : Nat) :
    (if k ≥ 0 ∧ j = i + k.toNat then (if i < v.length then Res.idx v i else .ok (0 : Int))
      else if k < 0 ∧ i = j + k.natAbs then (if j < v.length then Res.idx v j else .ok 0)
      else .ok 0)
    = .ok (if (j : Int) = i + k then v.getD (min i j) 0 else 0) := by
  simp only [idx_or_default]
  by_cases hd : (j : Int) = i + k
  · rw [if_pos hd]
    by_cases hk : 0 ≤ k
    · rw [if_pos ⟨hk, by omega⟩, Nat.min_eq_left (by omega)]
    · rw [if_neg (fun h => hk h.1), if_pos ⟨by omega, by omega⟩, Nat.min_eq_right (by omega)]
  · rw [if_neg hd, if_neg (by omega), if_neg (by omega)]

theorem diag1d_eq (v : List Int) (k : Int) (n : Nat) (hn : n = v.length + k.natAbs) (hb : n * n ≤ usizeMax) :
    diag1d (Arr.flat v) k = .ok ⟨(List.range (n * n)).map fun idx =>
      if ((idx % n : Nat) : Int) = (idx / n : Nat) + k then v.getD (min (idx / n) (idx % n)) 0 else 0, [n, n]⟩ := by
  have hb1 : ¬ (n > usizeMax ∨ n * n > usizeMax) := by
    have : n ≤ n * n := Nat.le_mul_self _
    omega
  have h0 : Res.idx [v.length] 0 = .ok v.length := rfl
  unfold diag1d
  simp only [Arr.flat, h0, Res.bind_ok, ← hn, if_neg hb1]
  rw [Res.mapM'_ok fun idx _ => diag1d_entry v k (idx / n) (idx % n), Res.bind_ok]
  exact Arr.new_of_prod (by simp)

/-- a side `size + |k|` whose square does not fit `usize` is refused with an error value -/
theorem diag1d_too_large (v : List Int) (k : Int)
    (hb : (v.length + k.natAbs) * (v.length + k.natAbs) > usizeMax) :
    diag1d (Arr.flat v) k = .err .OutOfBounds := by
  have h0 : Res.idx [v.length] 0 = .ok v.length := rfl
  unfold diag1d
  simp only [Arr.flat, h0, Res.bind_ok]
  rw [if_pos (Or.inr hb)]

/-- the coordinate pairs `(start_row..rows).zip(start_col..cols)` walked by `diag_2d` -/
def diagPairs (r c s₁ s₂ : Nat) : List (Nat × Nat) :=
  (List.range' s₁ (r - s₁)).zip (List.range' s₂ (c - s₂))

theorem diagPairs_length (r c s₁ s₂ : Nat) : (diagPairs r c s₁ s₂).length = min (r - s₁) (c - s₂) := by
  simp [diagPairs]

theorem diagPairs_getElem (r c s₁ s₂ t : Nat) (h : t < (diagPairs r c s₁ s₂).length) :
    (diagPairs r c s₁ s₂)[t] = (s₁ + t, s₂ + t) := by
  simp [diagPairs, List.getElem_zip, List.getElem_range']

theorem diagPairs_mem (r c s₁ s₂ : Nat) (p : Nat × Nat) (h : p ∈ diagPairs r c s₁ s₂) : p.1 < r ∧ p.2 < c := by
  obtain ⟨t, ht, rfl⟩ := List.getElem_of_mem h
  rw [diagPairs_length] at ht
  rw [diagPairs_getElem]
  exact ⟨Nat.add_lt_of_lt_sub' (Nat.lt_min.1 ht).1, Nat.add_lt_of_lt_sub' (Nat.lt_min.1 ht).2⟩

theorem diag2d_eq (a : Arr Int) (r c : Nat) (k : Int) (hwf : a.WF) (hs : a.shape = [r, c]) :
    diag2d a k = .ok (Arr.flat ((diagPairs r c (-k).toNat k.toNat).map fun p => a.elems.getD (p.1 * c + p.2) 0)) := by
  have hstart : (if k ≥ 0 then ((0 : Nat), k.toNat) else (k.natAbs, 0)) = ((-k).toNat, k.toNat) := by
    split
    · exact Prod.ext (by simp only; omega) rfl
    · exact Prod.ext (by simp only; omega) (by simp only; omega)
  have hlen : a.elems.length = r * c := by rw [hwf, hs, prod_pair]
  have h0 : Res.idx [r, c] 0 = .ok r := rfl
  have h1 : Res.idx [r, c] 1 = .ok c := rfl
  unfold diag2d
  simp only [hs, h0, h1, Res.bind_ok, hstart]
  rw [show (List.range' (-k).toNat (r - (-k).toNat)).zip (List.range' k.toNat (c - k.toNat))
      = diagPairs r c (-k).toNat k.toNat from rfl,
    Res.mapM'_ok (g := fun p => a.elems.getD (p.1 * c + p.2) 0), Res.bind_ok]
  · exact Arr.new_of_prod (by simp)
  · intro p hp
    obtain ⟨h1, h2⟩ := diagPairs_mem _ _ _ _ p hp
    exact Res.idx_eq_getD 0 (hlen ▸ mul_add_lt h1 h2)

/-- the start `[(-k)⁺, k⁺]` of the k-th diagonal: the two offsets differ by `k`, one is zero, together they are `|k|` -/
theorem diag_start (k : Int) :
    ((k.toNat : Nat) : Int) = ((-k).toNat : Nat) + k ∧ min (-k).toNat k.toNat = 0 ∧ k.natAbs = (-k).toNat + k.toNat := by
  refine ⟨Int.sub_eq_iff_eq_add'.1 (Int.toNat_sub_toNat_neg k), ?_,
    (Nat.add_comm _ _).symm ▸ (Int.toNat_add_toNat_neg_eq_natAbs k).symm⟩
  rcases Int.le_total k 0 with h | h
  · rw [Int.toNat_eq_zero.2 h, Nat.min_zero]
  · rw [Int.toNat_eq_zero.2 (Int.neg_nonpos_of_nonneg h), Nat.zero_min]

/-- the diagonal through `[s₁, s₂]` (one of them zero) of a square of side `len + s₁ + s₂` has `len` entries -/
theorem diag_len (len s₁ s₂ : Nat) (h : min s₁ s₂ = 0) : min (len + (s₁ + s₂) - s₁) (len + (s₁ + s₂) - s₂) = len := by
  rw [Nat.add_left_comm, Nat.add_sub_cancel_left, ← Nat.add_assoc, Nat.add_sub_cancel, Nat.add_comm s₁,
    Nat.add_min_add_left, Nat.min_comm, h]
  rfl

theorem diag_vector (a : Arr Int) (k : Option Int) (h : a.ndim = 1) : diag a k = diag1d a (k.getD 0) := by
  simp only [diag, h, true_or, not_true_eq_false, if_false, if_true]

theorem diag_matrix (a : Arr Int) (k : Option Int) (h : a.ndim = 2) : diag a k = diag2d a (k.getD 0) := by
  simp only [diag, h, or_true, not_true_eq_false, if_false, Nat.succ_ne_self]

/-! ### spaced sequences -/

/-- two neighbours of `(0..n).map(|i| if endpoint && i == n - 1 { last } else { f(i) })`: it suffices to relate `f i` with
`f (i + 1)`, and — for the last pair of a sequence with endpoint — `f i` with `last` -/
theorem spaced_pair {α} (n : Nat) (e : Bool) (last : α) (f : Nat → α) (R : α → α → Prop) (i : Nat) (hi : i + 1 < n)
    (hstep : R (f i) (f (i + 1))) (hlast : e = true → i + 1 = n - 1 → R (f i) last) :
    ∃ x y, ((List.range n).map fun i => if e = true ∧ i = n - 1 then last else f i)[i]? = some x ∧
      ((List.range n).map fun i => if e = true ∧ i = n - 1 then last else f i)[i + 1]? = some y ∧ R x y := by
  refine ⟨f i, if e = true ∧ i + 1 = n - 1 then last else f (i + 1), ?_, ?_, ?_⟩
  · rw [List.getElem?_map, List.getElem?_range (by omega), Option.map_some,
      if_neg fun h => (show i ≠ n - 1 by omega) h.2]
  · rw [List.getElem?_map, List.getElem?_range hi, Option.map_some]
  split
  · rename_i h
    exact hlast h.1 h.2
  · exact hstep

theorem natCast_succ_ne_zero (i : Nat) : (i : Rat) + 1 ≠ 0 := by
  have : (0 : Rat) ≤ (i : Rat) := Rat.natCast_nonneg
  grind

/-- neighbours of an arithmetic sequence differ by the step -/
theorem step_diff (a s b : Rat) : (a + 1) * s + b - (a * s + b) = s := by grind

/-- … and so does the stop value from the last computed point, `(a + 1) · step` being `stop − start` -/
theorem last_diff (a start stop : Rat) (h : a + 1 ≠ 0) :
    stop - (a * ((stop - start) / (a + 1)) + start) = (stop - start) / (a + 1) := by grind

/-- the exponent `logspace` reaches at step `i` is the `i`-th point of `linspace` -/
theorem exponent_eq (a d i : Rat) (start : Rat) : start + a * (1 / d * i) = i * (a / d) + start := by grind

/-! ### `arange`, `identity` -/

theorem arangeLoop_length (step : Rat) : ∀ (n : Nat) (v : Rat), (arangeLoop step n v).length = n
  | 0, _ => rfl
  | n + 1, v => by simp [arangeLoop, arangeLoop_length step n]

theorem arangeLoop_getElem? (step : Rat) : ∀ (n : Nat) (v : Rat) (i : Nat), i < n →
    (arangeLoop step n v)[i]? = some (v + (i : Rat) * step)
  | 0, _, _, h => nomatch h
  | n + 1, v, 0, _ => by simp [arangeLoop, Rat.zero_mul, Rat.add_zero]
  | n + 1, v, i + 1, h => by
    have hc : ((i + 1 : Nat) : Rat) = (i : Rat) + 1 := by simp
    rw [arangeLoop, List.getElem?_cons_succ, arangeLoop_getElem? step n (v + step) i (Nat.lt_of_succ_lt_succ h), hc,
      Rat.add_mul, Rat.one_mul, Rat.add_assoc, Rat.add_comm step]

theorem arange_bound (s t step : Rat) (hstep : 1 ≤ step) (i : Nat)
    (hi : i < ((t + 1 - s) / step).floor.toNat) : s + (i : Rat) * step ≤ t := by
  have hpos : (0 : Rat) < step := by grind
  -- `i + 1 ≤ ⌊(t + 1 - s) / step⌋`, multiplied by `step`
  have h1 : ((i + 1 : Nat) : Int) ≤ ((t + 1 - s) / step).floor := by omega
  have h2 := Rat.mul_le_mul_of_nonneg_right (Rat.le_floor_iff.1 h1) (Rat.le_of_lt hpos)
  rw [Rat.div_mul_cancel (Rat.ne_of_gt hpos), Rat.intCast_natCast] at h2
  have hc : ((i + 1 : Nat) : Rat) = (i : Rat) + 1 := by simp
  rw [hc, Rat.add_mul, Rat.one_mul] at h2
  grind

/-- on an `n × n` grid, flat position `r * n + c` is a multiple of `n + 1` exactly on the main diagonal -/
theorem diag_mod (n r c : Nat) (hr : r < n) (hc : c < n) : (r * n + c) % (n + 1) = 0 ↔ c = r := by
  rcases Nat.lt_or_ge c r with hcr | hcr
  · -- below the diagonal: `r = s + 1`, and the position is `s` multiples plus `n + c - s`, a number in `1..n`
    obtain ⟨s, rfl⟩ : ∃ s, r = s + 1 := ⟨r - 1, by omega⟩
    have e : (s + 1) * n + c = (n + c - s) + s * (n + 1) := by
      rw [Nat.add_mul, Nat.mul_add, Nat.one_mul, Nat.mul_one]; omega
    rw [e, Nat.add_mul_mod_self_right, Nat.mod_eq_of_lt (by omega)]
    clear e; omega
  · obtain ⟨d, rfl⟩ := Nat.exists_eq_add_of_le hcr
    have e : r * n + (r + d) = d + r * (n + 1) := by rw [Nat.mul_add, Nat.mul_one]; omega
    rw [e, Nat.add_mul_mod_self_right, Nat.mod_eq_of_lt (by omega)]
    clear e; omega

/-- `identity`'s test `i % (n+1) == 0` picks exactly the main diagonal -/
theorem identity_diag (n i : Nat) (h : i < n * n) : (i % (n + 1) = 0) ↔ (i % n = i / n) := by
  have hn : 0 < n := Nat.pos_of_ne_zero (by rintro rfl; simp at h)
  conv => lhs; rw [← Nat.div_add_mod' i n]
  exact diag_mod n (i / n) (i % n) (Nat.div_lt_of_lt_mul h) (Nat.mod_lt _ hn)

end ArrModel.C16
