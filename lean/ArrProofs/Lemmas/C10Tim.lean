import ArrProofs.Lemmas.C10Basic
/-!
# C10 lemmas, part 3 — `tim_sort`: `merge`, `insertion_sort`, the `step_by` loops, the doubling loop

The code modelled is that of /repo commit 9f63c83: `merge` copies what is left of each run with its real length, and
lanes of length `<= 1` return early.

The in-place routines are characterised on a decomposition `p ++ chunk ++ r` of the array, which keeps all index
arithmetic linear.
-/
namespace ArrModel.Sort
open ArrModel
variable {α : Type}

theorem idx_append_cons (u v : List α) (y : α) (i : Nat) (hi : i = u.length) :
    Res.idx (u ++ y :: v) i = .ok y := by
  subst hi; simp [Res.idx]

theorem setR_append_cons (u v : List α) (y x : α) (i : Nat) (hi : i = u.length) :
    setR (u ++ y :: v) i x = .ok (u ++ x :: v) := by
  subst hi; simp [setR]

theorem sliceFrom_of_le {a : List α} {i : Nat} (h : i ≤ a.length) : sliceFrom a i = .ok (a.drop i) := if_pos h

theorem cloneFromSlice_spec (p old r src : List α) (lo hi : Nat) (hlo : lo = p.length)
    (hhi : hi = lo + old.length) (hs : src.length = old.length) :
    cloneFromSlice (p ++ (old ++ r)) lo hi src = .ok (p ++ (src ++ r)) := by
  subst hlo hhi
  unfold cloneFromSlice
  rw [if_pos ⟨Nat.le_add_right _ _, by simp only [List.length_append]; omega, by omega⟩, List.take_left' rfl,
    ← List.append_assoc p old r, List.drop_left' (by rw [List.length_append]), List.append_assoc]

theorem cloneFromSlice_nil (a : List α) (k : Nat) (hk : k ≤ a.length) : cloneFromSlice a k k [] = .ok a := by
  unfold cloneFromSlice
  rw [if_pos ⟨Nat.le_refl _, hk, Nat.sub_self k⟩, List.append_nil, List.take_append_drop]

theorem sliceIncl_spec (p s r : List α) (lo hi : Nat) (hlo : lo = p.length) (hhi : hi + 1 = p.length + s.length) :
    sliceIncl (p ++ s ++ r) lo hi = .ok s := by
  subst hlo
  unfold sliceIncl
  rw [if_pos (by simp; omega)]
  congr 1
  rw [List.append_assoc, List.drop_left' rfl]
  exact List.take_left' (by omega)

/-- from the state `(i, j, k)` the `while` loop of `merge` and the two remainder copies overwrite the next part `mid` of
the array with the (stable, `<=`) merge of what is left of the two runs -/
theorem mergeWhile_spec (c : Cmp α) (L R r : List α) : ∀ (fuel : Nat) (p mid : List α) (i j : Nat),
    i ≤ L.length → j ≤ R.length → mid.length + i + j = L.length + R.length → mid.length + 1 ≤ fuel →
    mergeWhile c L R L.length R.length fuel (p ++ (mid ++ r)) i j p.length =
      .ok (p ++ (List.merge (L.drop i) (R.drop j) c.le ++ r)) := by
  intro fuel
  induction fuel with
  | zero => intro p mid i j _ _ _ hf; exact absurd hf (Nat.not_succ_le_zero _)
  | succ f ih =>
    intro p mid i j hi hj hm hf
    unfold mergeWhile
    by_cases hc : i < L.length ∧ j < R.length
    · -- named, so that the bounds of `L[i]`, `R[j]` below are found by assumption
      have hiL : i < L.length := hc.1
      have hjR : j < R.length := hc.2
      obtain ⟨m0, mid', rfl⟩ := List.exists_cons_of_length_pos (l := mid) (by omega)
      rw [List.length_cons] at hm hf
      rw [if_pos hc, Res.idx_of_lt hiL, Res.bind_ok, Res.idx_of_lt hjR, Res.bind_ok, List.drop_eq_getElem_cons hiL,
        List.drop_eq_getElem_cons hjR, List.cons_append]
      -- either way one element is written at `k` and the loop goes on behind it
      by_cases hle : c.le L[i] R[j] = true
      · rw [if_pos hle, setR_append_cons p (mid' ++ r) m0 L[i] _ rfl, Res.bind_ok, List.cons_merge_cons_pos _ _ _ hle,
          List.cons_append]
        have := ih (p ++ [L[i]]) mid' (i + 1) j hiL hj (by omega) (Nat.le_of_succ_le_succ hf)
        rw [List.length_append, List.length_singleton, List.drop_eq_getElem_cons hjR, ← List.append_cons,
          ← List.append_cons] at this
        exact this
      · rw [if_neg hle, setR_append_cons p (mid' ++ r) m0 R[j] _ rfl, Res.bind_ok, List.cons_merge_cons_neg _ _ _ hle,
          List.cons_append]
        have := ih (p ++ [R[j]]) mid' i (j + 1) hi hjR (by omega) (Nat.le_of_succ_le_succ hf)
        rw [List.length_append, List.length_singleton, List.drop_eq_getElem_cons hiL, ← List.append_cons,
          ← List.append_cons] at this
        exact this
    · rw [if_neg hc, sliceFrom_of_le hi, Res.bind_ok]
      by_cases hiL : i = L.length
      · -- the left run is used up: nothing is copied from it, the rest of the right run fills `mid`
        subst hiL
        rw [Nat.add_sub_cancel, List.drop_length,
          cloneFromSlice_nil _ _ (by rw [List.length_append]; exact Nat.le_add_right _ _), Res.bind_ok,
          sliceFrom_of_le hj, Res.bind_ok,
          cloneFromSlice_spec p mid r (R.drop j) _ _ rfl (by omega) (by rw [List.length_drop]; omega), List.nil_merge]
      · -- the right run is used up: the rest of the left run fills `mid`, nothing is copied behind it
        have hjR : j = R.length := by omega
        subst hjR
        rw [Nat.add_sub_cancel, cloneFromSlice_spec p mid r (L.drop i) _ _ rfl (by omega) (by rw [List.length_drop]; omega),
          Res.bind_ok, sliceFrom_of_le hj, Res.bind_ok, List.drop_length, List.merge_right,
          cloneFromSlice_nil _ _ (by rw [List.length_append, List.length_append, List.length_drop]; omega)]

/-- `merge(arr, left, mid, right)` replaces the two adjacent runs by their (stable, `<=`) merge -/
theorem mergeRuns_spec (c : Cmp α) (p L R r : List α) (left mid right : Nat) (hl : left = p.length)
    (hL : L ≠ []) (hm : mid + 1 = left + L.length) (hr : right = mid + R.length) :
    mergeRuns c (p ++ L ++ R ++ r) left mid right = .ok (p ++ List.merge L R c.le ++ r) := by
  have hLl : 0 < L.length := List.length_pos_iff.2 hL
  subst hl
  have e1 : sliceIncl (p ++ L ++ R ++ r) p.length mid = .ok L := by
    rw [List.append_assoc (p ++ L)]; exact sliceIncl_spec p L (R ++ r) _ _ rfl hm
  have e2 : sliceIncl (p ++ L ++ R ++ r) (mid + 1) right = .ok R :=
    sliceIncl_spec (p ++ L) R r _ _ (by rw [List.length_append]; omega) (by rw [List.length_append]; omega)
  have l1 : mid - p.length + 1 = L.length := by omega
  have l2 : right - mid = R.length := by omega
  unfold mergeRuns
  simp only [e1, e2, Res.bind_ok, l1, l2]
  have := mergeWhile_spec c L R r (L.length + R.length + 1) p (L ++ R) 0 0 (Nat.zero_le _) (Nat.zero_le _)
    (by rw [List.length_append]; rfl) (by rw [List.length_append]; exact Nat.le_refl _)
  simpa only [List.append_assoc, List.drop_zero] using this

theorem swapR_adjacent (u v : List α) (x y : α) (j : Nat) (hj : j = u.length) :
    swapR (u ++ y :: x :: v) (j + 1) j = .ok (u ++ x :: y :: v) := by
  subst hj
  simp [swapR]

theorem snoc_induction {motive : List α → Prop} (nil : motive [])
    (snoc : ∀ (l : List α) (a : α), motive l → motive (l ++ [a])) (l : List α) : motive l := by
  rw [← List.reverse_reverse l]
  induction l.reverse with
  | nil => exact nil
  | cons a t ih => rw [List.reverse_cons]; exact snoc _ _ ih

theorem insInner_of_le (c : Cmp α) (left j : Nat) (a : List α) (hj : j ≤ left) : insInner c left j a = .ok a := by
  cases j with
  | zero => rfl
  | succ j => unfold insInner; rw [if_neg (by omega)]

theorem sorted_append_singleton {c : Cmp α} {s : List α} {y : α} :
    Sorted c (s ++ [y]) ↔ Sorted c s ∧ ∀ a ∈ s, c.le a y = true := by
  unfold Sorted
  rw [List.pairwise_append]
  exact ⟨fun ⟨h1, _, h3⟩ => ⟨h1, fun a ha => h3 a ha y List.mem_cons_self⟩,
    fun ⟨h1, h3⟩ => ⟨h1, List.pairwise_singleton _ _, fun a ha b hb => List.mem_singleton.1 hb ▸ h3 a ha⟩⟩

/-- the inner `while` of `insertion_sort`: `x` (at position `j`) sinks into the run `s1` to its left -/
theorem insInner_spec {c : Cmp α} (h : c.Lawful) (p : List α) (x : α) (s1 s2 : List α) (j : Nat)
    (hj : j = p.length + s1.length) :
    ∃ t, insInner c p.length j (p ++ s1 ++ x :: s2) = .ok (p ++ t ++ s2) ∧ t.Perm (s1 ++ [x]) ∧
      (Sorted c s1 → Sorted c t) := by
  induction s1 using snoc_induction generalizing s2 j with
  | nil =>
    refine ⟨[x], ?_, .refl _, fun _ => List.pairwise_singleton _ _⟩
    rw [insInner_of_le c _ _ _ (by rw [hj]; exact Nat.le_refl _), List.append_nil, List.append_assoc]
    rfl
  | snoc s1' y ih =>
    rw [List.length_append, List.length_singleton] at hj
    obtain ⟨j', rfl⟩ : ∃ j', j = j' + 1 := ⟨p.length + s1'.length, by omega⟩
    have hj' : j' = (p ++ s1').length := by rw [List.length_append]; omega
    have harr : p ++ (s1' ++ [y]) ++ x :: s2 = (p ++ s1') ++ y :: x :: s2 := by
      simp only [List.append_assoc, List.singleton_append]
    rw [harr]
    unfold insInner
    have e1 : Res.idx (p ++ s1' ++ y :: x :: s2) (j' + 1) = .ok x := by
      rw [List.append_cons (p ++ s1') y]
      exact idx_append_cons _ s2 x _ (by rw [List.length_append, List.length_singleton, hj'])
    rw [if_pos (by omega), e1, Res.bind_ok, idx_append_cons (p ++ s1') (x :: s2) y j' hj', Res.bind_ok]
    by_cases hlt : c.lt x y = true
    · -- `x` passes `y` and sinks on into `s1'`
      rw [if_pos hlt, swapR_adjacent (p ++ s1') s2 x y j' hj', Res.bind_ok]
      obtain ⟨t', ht, hperm, hsort⟩ := ih (y :: s2) j' (by omega)
      refine ⟨t' ++ [y], ?_, ?_, fun hs1 => ?_⟩
      · rw [ht]; simp only [List.append_assoc, List.singleton_append]
      · refine (hperm.append_right [y]).trans ?_
        simp only [List.append_assoc]
        exact List.Perm.append_left s1' (List.Perm.swap y x [])
      · obtain ⟨hs, hy⟩ := sorted_append_singleton.1 hs1
        refine sorted_append_singleton.2 ⟨hsort hs, fun a ha => ?_⟩
        rcases List.mem_append.1 (hperm.mem_iff.1 ha) with ha | ha
        · exact hy a ha
        · rw [List.mem_singleton.1 ha]; exact h.le_of_lt hlt
    · -- `x` stays behind `y`
      rw [if_neg hlt]
      have hyx := h.le_of_not_lt (Bool.eq_false_iff.2 hlt)
      refine ⟨s1' ++ [y] ++ [x], by simp only [List.append_assoc, List.cons_append, List.nil_append], .refl _,
        fun hs1 => sorted_append_singleton.2 ⟨hs1, fun a ha => ?_⟩⟩
      rcases List.mem_append.1 ha with ha | ha
      · exact h.le_trans _ _ _ ((sorted_append_singleton.1 hs1).2 a ha) hyx
      · rw [List.mem_singleton.1 ha]; exact hyx

/-- the outer `for` of `insertion_sort` -/
theorem insOuter_spec {c : Cmp α} (h : c.Lawful) (p : List α) : ∀ (cnt : Nat) (s rest : List α) (i : Nat),
    i = p.length + s.length → cnt ≤ rest.length → Sorted c s →
    ∃ s', insOuter c p.length cnt i (p ++ s ++ rest) = .ok (p ++ s' ++ rest.drop cnt) ∧
      s'.Perm (s ++ rest.take cnt) ∧ Sorted c s' := by
  intro cnt
  induction cnt with
  | zero => intro s rest i _ _ hs; exact ⟨s, by simp [insOuter], by simp, hs⟩
  | succ cnt ih =>
    intro s rest i hi hcnt hs
    match rest, hcnt with
    | x :: rest', hcnt =>
      unfold insOuter
      obtain ⟨t, ht, hperm, hsort⟩ := insInner_spec h p x s rest' i hi
      rw [ht, Res.bind_ok]
      obtain ⟨s', hs', hperm', hsort'⟩ := ih t rest' (i + 1)
        (by have := hperm.length_eq; simp at this; omega) (by simp at hcnt; omega) (hsort hs)
      refine ⟨s', by simpa using hs', ?_, hsort'⟩
      refine hperm'.trans ?_
      simp only [List.take_succ_cons]
      refine (hperm.append_right _).trans ?_
      simp

theorem insertionSort_spec {c : Cmp α} (h : c.Lawful) (p ch r : List α) (left right : Nat) (hch : ch ≠ [])
    (hl : left = p.length) (hr : right + 1 = p.length + ch.length) :
    ∃ S, insertionSort c (p ++ ch ++ r) left right = .ok (p ++ S ++ r) ∧ S.Perm ch ∧ Sorted c S := by
  match ch, hch with
  | x0 :: ch', _ =>
    subst hl
    unfold insertionSort
    simp only [List.length_cons] at hr
    obtain ⟨s', hs', hperm, hsort⟩ := insOuter_spec h p (right - p.length) [x0] (ch' ++ r) (p.length + 1)
      (by simp) (by simp; omega) (List.pairwise_singleton _ _)
    have e1 : right - p.length = ch'.length := by omega
    rw [e1] at hs' hperm
    simp only [List.drop_left, List.take_left] at hs' hperm
    refine ⟨s', ?_, by simpa using hperm, hsort⟩
    rw [e1]
    simpa [List.append_assoc] using hs'

/-- `rest'` is obtained from `q` by replacing every chunk of `step` elements (the last one may be shorter) by a
`P`-related chunk -/
inductive ChunkRel (P : List α → List α → Prop) (step : Nat) : List α → List α → Prop
  | nil : ChunkRel P step [] []
  | cons {q M rest' : List α} : q ≠ [] → P (q.take step) M → ChunkRel P step (q.drop step) rest' →
      ChunkRel P step q (M ++ rest')

theorem ChunkRel.of_nil {P : List α → List α → Prop} {step : Nat} {rest' : List α}
    (h : ChunkRel P step [] rest') : rest' = [] := by
  cases h with
  | nil => rfl
  | cons hq _ _ => exact absurd rfl hq

/-- consecutive runs of `s` elements (the last one may be shorter) are each sorted -/
inductive Runs (c : Cmp α) (s : Nat) : List α → Prop
  | nil : Runs c s []
  | cons {q : List α} : q ≠ [] → Sorted c (q.take s) → Runs c s (q.drop s) → Runs c s q

theorem Runs.inv {c : Cmp α} {s : Nat} {q : List α} (h : Runs c s q) : Sorted c (q.take s) ∧ Runs c s (q.drop s) := by
  cases h with
  | nil => exact ⟨by simp [Sorted], by simpa using Runs.nil⟩
  | cons _ h1 h2 => exact ⟨h1, h2⟩

theorem Runs.sorted_of_length_le {c : Cmp α} {s : Nat} {q : List α} (h : Runs c s q) (hl : q.length ≤ s) : Sorted c q := by
  have := h.inv.1
  rwa [List.take_of_length_le hl] at this

/-- a `step_by` loop whose body, called at `cur`, rewrites the chunk that starts there and nothing else replaces the rest
`q` behind the finished part `p` chunk by chunk; `cur` grows by `step >= 1` per iteration until `cur >= n`, whence the
fuel bound `n + 1 <= fuel + cur` (`forStepBy` passes `n + 1` at `cur = 0`) -/
theorem stepLoop_chunks (body : List α → Nat → Res (List α)) (P : List α → List α → Prop) (n step : Nat)
    (hstep : 1 ≤ step) (hP : ∀ ch M, P ch M → M.length = ch.length)
    (hbody : ∀ (p ch r : List α) (cur : Nat), cur = p.length → (p ++ ch ++ r).length = n → ch ≠ [] →
      (ch.length = step ∨ (ch.length < step ∧ r = [])) →
      ∃ M, body (p ++ ch ++ r) cur = .ok (p ++ M ++ r) ∧ P ch M) :
    ∀ (fuel : Nat) (p q : List α) (cur : Nat), (p ++ q).length = n → p.length ≤ cur → (q ≠ [] → cur = p.length) →
      1 ≤ fuel → n + 1 ≤ fuel + cur →
      ∃ rest', stepLoop body n step fuel cur (p ++ q) = .ok (p ++ rest') ∧ ChunkRel P step q rest' := by
  intro fuel
  induction fuel with
  | zero => intro p q cur _ _ _ h1; omega
  | succ f ih =>
    intro p q cur hn hp hq hf1 hf
    unfold stepLoop
    by_cases hq0 : q = []
    · subst hq0
      rw [List.append_nil] at hn ⊢
      rw [if_neg (by omega)]
      exact ⟨[], by rw [List.append_nil], .nil⟩
    · have hcur := hq hq0
      have hqlen : 0 < q.length := List.length_pos_iff.2 hq0
      simp only [List.length_append] at hn
      rw [if_pos (by omega)]
      have hsplit : p ++ q = p ++ q.take step ++ q.drop step := by rw [List.append_assoc, List.take_append_drop]
      have hch : q.take step ≠ [] := List.ne_nil_of_length_pos (by rw [List.length_take]; omega)
      have hn' : (p ++ q.take step ++ q.drop step).length = n := by rw [← hsplit, List.length_append]; exact hn
      obtain ⟨M, hM, hPM⟩ := hbody p (q.take step) (q.drop step) cur hcur hn' hch (by
        rw [List.length_take]
        by_cases hle : step ≤ q.length
        · left; omega
        · right; exact ⟨by omega, List.drop_of_length_le (by omega)⟩)
      rw [hsplit, hM, Res.bind_ok]
      have hMl := hP _ _ hPM
      rw [List.length_take] at hMl
      obtain ⟨rest'', hr, hrel⟩ := ih (p ++ M) (q.drop step) (cur + step)
        (by rw [List.length_append, List.length_append, List.length_drop]; omega)
        (by rw [List.length_append]; omega)
        (fun hne => by
          -- something is left behind the chunk, so the chunk was a full one
          have : step < q.length := Nat.lt_of_not_le fun h => hne (List.drop_of_length_le h)
          rw [List.length_append]; omega)
        (by omega) (by omega)
      exact ⟨M ++ rest'', by rw [hr, List.append_assoc], .cons hq0 hPM hrel⟩

theorem forStepBy_chunks (body : List α → Nat → Res (List α)) (P : List α → List α → Prop) (n step : Nat)
    (hstep : 1 ≤ step) (hP : ∀ ch M, P ch M → M.length = ch.length)
    (hbody : ∀ (p ch r : List α) (cur : Nat), cur = p.length → (p ++ ch ++ r).length = n → ch ≠ [] →
      (ch.length = step ∨ (ch.length < step ∧ r = [])) →
      ∃ M, body (p ++ ch ++ r) cur = .ok (p ++ M ++ r) ∧ P ch M)
    (a : List α) (ha : a.length = n) :
    ∃ a', forStepBy body n step a = .ok a' ∧ ChunkRel P step a a' := by
  unfold forStepBy
  rw [if_neg (by omega)]
  exact stepLoop_chunks body P n step hstep hP hbody (n + 1) [] a 0 ha (Nat.le_refl _) (fun _ => rfl) (by omega) (by omega)

theorem ChunkRel.perm {P : List α → List α → Prop} {step : Nat} (hP : ∀ ch M, P ch M → M.Perm ch)
    {q rest' : List α} (h : ChunkRel P step q rest') : rest'.Perm q := by
  induction h with
  | nil => exact .refl _
  | cons _ hPM _ ih =>
    refine ((hP _ _ hPM).append ih).trans ?_
    rw [List.take_append_drop]

/-- chunks that come out sorted, each as long as the chunk it replaces, leave sorted runs of `step`; `I` is what the
chunks may assume of the part of the input still to come -/
theorem ChunkRel.runs {c : Cmp α} {P : List α → List α → Prop} {step : Nat} (hstep : 1 ≤ step) (I : List α → Prop)
    (hI : ∀ q, I q → I (q.drop step))
    (hP : ∀ q M, I q → P (q.take step) M → M.length = (q.take step).length ∧ Sorted c M)
    {q rest' : List α} (h : ChunkRel P step q rest') (hq : I q) : Runs c step rest' := by
  induction h with
  | nil => exact .nil
  | @cons q M rest' hne hPM hrel ih =>
    obtain ⟨hMl, hMs⟩ := hP q M hq hPM
    rw [List.length_take] at hMl
    have hql : 0 < q.length := List.length_pos_iff.2 hne
    -- `M` is the first run of `M ++ rest'`
    have htd : (M ++ rest').take step = M ∧ (M ++ rest').drop step = rest' := by
      by_cases hle : q.length ≤ step
      · rw [List.drop_of_length_le hle] at hrel
        rw [hrel.of_nil, List.append_nil]
        exact ⟨List.take_of_length_le (by omega), List.drop_of_length_le (by omega)⟩
      · exact ⟨List.take_left' (by omega), List.drop_left' (by omega)⟩
    refine .cons (fun h0 => ?_) (by rw [htd.1]; exact hMs) (by rw [htd.2]; exact ih (hI q hq))
    have := congrArg List.length h0
    rw [List.length_append, List.length_nil] at this
    omega

/-- one doubling pass turns sorted runs of `s` into sorted runs of `2 s` -/
theorem ChunkRel.runs_of_merge {c : Cmp α} (hc : c.Lawful) {s : Nat} (hs : 1 ≤ s) {q rest' : List α}
    (h : ChunkRel (fun ch M => M = List.merge (ch.take s) (ch.drop s) c.le) (2 * s) q rest') (hr : Runs c s q) :
    Runs c (2 * s) rest' := by
  refine h.runs (by omega) (Runs c s) (fun q hq => ?_) (fun q M hq hM => ?_) hr
  · have := hq.inv.2.inv.2
    rwa [List.drop_drop, ← Nat.two_mul] at this
  · have e1 : (q.take (2 * s)).take s = q.take s := by rw [List.take_take, Nat.min_eq_left (by omega)]
    have e2 : (q.take (2 * s)).drop s = (q.drop s).take s := by rw [List.drop_take]; congr 1; omega
    rw [e1, e2] at hM
    rw [hM]
    refine ⟨by rw [List.length_merge, ← List.length_append, ← List.take_add, ← Nat.two_mul], ?_⟩
    exact List.pairwise_merge (le := c.le) (fun a b d => hc.le_trans a b d)
      (fun a b => by rcases hc.le_total a b with h' | h' <;> simp [h']) _ _ hq.inv.1 hq.inv.2.inv.1

/-- index arithmetic of a `step_by` loop over `0..n`, for the chunk of `l` elements that starts at `P` (a full one, or
a shorter last one, with `r` elements behind it): the clamped last index -/
theorem chunk_last {n P l r step : Nat} (hn : P + l + r = n) (hlen : l = step ∨ (l < step ∧ r = 0)) :
    min (P + step - 1) (n - 1) = P + l - 1 := by
  subst hn
  rcases hlen with rfl | ⟨h1, rfl⟩
  · exact Nat.min_eq_left (Nat.sub_le_sub_right (Nat.le_add_right _ _) 1)
  · exact Nat.min_eq_right (Nat.sub_le_sub_right (Nat.add_le_add_left (Nat.le_of_lt h1) P) 1)

/-- … and `mid`, `right` of a merge pass over runs of `size`, `right` already in the form of `chunk_last`: a chunk of at
most one run is the last one, `mid` is clamped to `right` and nothing is merged … -/
theorem mergeStep_short {n P l size : Nat} (hn : P + l = n) (hl : l ≤ size) :
    n - 1 ≤ P + size - 1 ∧ ¬ n - 1 < P + l - 1 := by omega

/-- … and a longer chunk is cut after its first `size` elements -/
theorem mergeStep_long {n P l r size : Nat} (hs : 1 ≤ size) (hn : P + l + r = n) (hl : size < l) :
    P + size - 1 ≤ n - 1 ∧ P + size - 1 < P + l - 1 ∧ P + size - 1 + 1 = P + size ∧
      P + l - 1 = P + size - 1 + (l - size) := by omega

theorem insBody_spec {c : Cmp α} (h : c.Lawful) (n minRun : Nat)
    (p ch r : List α) (cur : Nat) (hcur : cur = p.length) (hn : (p ++ ch ++ r).length = n) (hch : ch ≠ [])
    (hlen : ch.length = minRun ∨ (ch.length < minRun ∧ r = [])) :
    ∃ M, insertionSort c (p ++ ch ++ r) cur (min (cur + minRun - 1) (n - 1)) = .ok (p ++ M ++ r) ∧
      (M.Perm ch ∧ Sorted c M) := by
  subst hcur
  rw [List.length_append, List.length_append] at hn
  have hcl : 0 < ch.length := List.length_pos_iff.2 hch
  rw [chunk_last hn (hlen.imp_right fun h => ⟨h.1, congrArg List.length h.2⟩)]
  exact insertionSort_spec h p ch r _ _ hch rfl (by omega)

theorem mergeBody_spec (c : Cmp α) (n size : Nat) (hs : 1 ≤ size)
    (p ch r : List α) (cur : Nat) (hcur : cur = p.length) (hn : (p ++ ch ++ r).length = n)
    (hlen : ch.length = 2 * size ∨ (ch.length < 2 * size ∧ r = [])) :
    ∃ M, (if min (n - 1) (cur + size - 1) < min (cur + 2 * size - 1) (n - 1)
          then mergeRuns c (p ++ ch ++ r) cur (min (n - 1) (cur + size - 1)) (min (cur + 2 * size - 1) (n - 1))
          else .ok (p ++ ch ++ r)) = .ok (p ++ M ++ r) ∧
      M = List.merge (ch.take size) (ch.drop size) c.le := by
  subst hcur
  rw [List.length_append, List.length_append] at hn
  refine ⟨_, ?_, rfl⟩
  rw [chunk_last hn (hlen.imp_right fun h => ⟨h.1, congrArg List.length h.2⟩)]
  by_cases hl : ch.length ≤ size
  · -- a single (possibly short) run, the last one: nothing to merge
    rw [(hlen.resolve_left (by omega)).2, List.length_nil, Nat.add_zero] at hn
    obtain ⟨h1, h2⟩ := mergeStep_short hn hl
    rw [Nat.min_eq_left h1, if_neg h2, List.take_of_length_le hl, List.drop_of_length_le hl, List.merge_right]
  · have hl' : size < ch.length := Nat.lt_of_not_le hl
    obtain ⟨h1, h2, h3, h4⟩ := mergeStep_long hs hn hl'
    have := mergeRuns_spec c p (ch.take size) (ch.drop size) r _ (p.length + size - 1) (p.length + ch.length - 1) rfl
      (List.ne_nil_of_length_pos (by rw [List.length_take, Nat.min_eq_left (Nat.le_of_lt hl')]; exact hs))
      (by rw [List.length_take, Nat.min_eq_left (Nat.le_of_lt hl')]; exact h3) (by rw [List.length_drop]; exact h4)
    rw [List.append_assoc p, List.take_append_drop] at this
    rw [Nat.min_eq_right h1, if_pos h2, this]

theorem calcMinRunLoop_spec : ∀ (fuel n r : Nat), n + 1 ≤ fuel →
    ∃ m, calcMinRunLoop fuel n r = .ok m ∧ (1 ≤ n → 1 ≤ m) := by
  intro fuel
  induction fuel with
  | zero => intro n r h; omega
  | succ f ih =>
    intro n r hf
    unfold calcMinRunLoop
    by_cases h32 : n ≥ 32
    · rw [if_pos h32]
      have hdiv : n >>> 1 = n / 2 := by simp [Nat.shiftRight_eq_div_pow]
      obtain ⟨m, hm, hm1⟩ := ih (n >>> 1) (r ||| (n &&& 1)) (by rw [hdiv]; omega)
      exact ⟨m, hm, fun _ => hm1 (by rw [hdiv]; omega)⟩
    · rw [if_neg h32]
      exact ⟨n + r, rfl, fun h => by omega⟩

theorem calcMinRun_spec (n : Nat) : ∃ m, calcMinRun n = .ok m ∧ (1 ≤ n → 1 ≤ m) :=
  calcMinRunLoop_spec (n + 1) n 0 (Nat.le_refl _)

theorem mergePass_spec {c : Cmp α} (h : c.Lawful) (n size : Nat) (hs : 1 ≤ size) (a : List α) (ha : a.length = n)
    (hr : Runs c size a) :
    ∃ a', mergePass c n size a = .ok a' ∧ a'.Perm a ∧ Runs c (2 * size) a' := by
  unfold mergePass
  obtain ⟨a', ha', hrel⟩ := forStepBy_chunks
    (fun a left =>
      if min (n - 1) (left + size - 1) < min (left + 2 * size - 1) (n - 1)
      then mergeRuns c a left (min (n - 1) (left + size - 1)) (min (left + 2 * size - 1) (n - 1)) else .ok a)
    (fun ch M => M = List.merge (ch.take size) (ch.drop size) c.le) n (2 * size) (by omega)
    (fun ch M hM => by rw [hM, List.length_merge, ← List.length_append, List.take_append_drop])
    (fun p ch r cur hcur hn _ hlen => mergeBody_spec c n size hs p ch r cur hcur hn hlen) a ha
  refine ⟨a', ha', ?_, hrel.runs_of_merge h hs hr⟩
  refine hrel.perm (fun ch M hM => ?_)
  rw [hM]
  refine (List.merge_perm_append (le := c.le)).trans ?_
  rw [List.take_append_drop]

theorem sizeLoop_spec {c : Cmp α} (h : c.Lawful) (n : Nat) : ∀ (fuel size : Nat) (a : List α),
    a.length = n → 1 ≤ size → Runs c size a → 1 ≤ fuel → n + 1 ≤ fuel + size →
    ∃ a', sizeLoop c n fuel size a = .ok a' ∧ a'.Perm a ∧ Sorted c a' := by
  intro fuel
  induction fuel with
  | zero => intro size a _ _ _ h1; omega
  | succ f ih =>
    intro size a ha hs hr hf1 hf
    unfold sizeLoop
    by_cases hlt : size < n
    · rw [if_pos hlt]
      obtain ⟨a1, hp, hperm, hr1⟩ := mergePass_spec h n size hs a ha hr
      rw [hp, Res.bind_ok]
      have e : size * 2 = 2 * size := Nat.mul_comm _ _
      rw [e]
      obtain ⟨a2, h2, hperm2, hs2⟩ := ih (2 * size) a1 (by rw [hperm.length_eq]; exact ha) (by omega) hr1 (by omega) (by omega)
      exact ⟨a2, h2, hperm2.trans hperm, hs2⟩
    · rw [if_neg hlt]
      exact ⟨a, rfl, .refl _, hr.sorted_of_length_le (by omega)⟩

theorem timSort_spec {c : Cmp α} (h : c.Lawful) (xs : List α) :
    ∃ s, timSort c xs = .ok s ∧ s.Perm xs ∧ Sorted c s := by
  unfold timSort
  by_cases h1 : xs.length ≤ 1
  · rw [if_pos h1]; exact ⟨xs, rfl, .refl _, sorted_of_length_le_one c h1⟩
  · rw [if_neg h1]
    obtain ⟨m, hm, hm1⟩ := calcMinRun_spec xs.length
    have hm1 := hm1 (by omega)
    simp only [hm, Res.bind_ok]
    obtain ⟨a1, ha1, hrel⟩ := forStepBy_chunks
      (fun a start => insertionSort c a start (min (start + m - 1) (xs.length - 1)))
      (fun ch M => M.Perm ch ∧ Sorted c M) xs.length m hm1 (fun ch M hM => hM.1.length_eq)
      (fun p ch r cur hcur hn hch hlen => insBody_spec h xs.length m p ch r cur hcur hn hch hlen) xs rfl
    rw [ha1, Res.bind_ok]
    have hperm1 : a1.Perm xs := hrel.perm (fun ch M hM => hM.1)
    obtain ⟨a2, ha2, hperm2, hs2⟩ := sizeLoop_spec h xs.length (xs.length + 1) m a1 hperm1.length_eq hm1
      (hrel.runs hm1 (fun _ => True) (fun _ _ => trivial) (fun _ _ _ hM => ⟨hM.1.length_eq, hM.2⟩) trivial) (by omega) (by omega)
    exact ⟨a2, ha2, hperm2.trans hperm1, hs2⟩

end ArrModel.Sort
