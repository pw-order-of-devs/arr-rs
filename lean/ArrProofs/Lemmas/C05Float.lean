import ArrModel.C05Float
/-!
# Lemmas for C05 — the `frexp` / `ldexp` loops over exact rationals

Powers of two in `Rat`, fuel monotonicity of the `frexp` loops and their termination on finite values under the fuel bound,
the `ldexp` loops along any trajectory of the value, the `for_each` of `frexp`.  Core Lean only.
-/
namespace ArrModel.Flt
open Dbl

/-! ## powers of two in `Rat` -/

theorem two_pow_num (n : Nat) : ((2 : Rat) ^ n).num = 2 ^ n := by simp
theorem two_pow_den (n : Nat) : ((2 : Rat) ^ n).den = 1 := by simp

theorem two_zpow_pos (e : Int) : (0 : Rat) < (2 : Rat) ^ e := Rat.zpow_pos (by decide)

theorem two_zpow_succ (e : Int) : (2 : Rat) ^ (e + 1) = (2 : Rat) ^ e * 2 := Rat.zpow_add_one (by decide) e
theorem two_zpow_pred (e : Int) : (2 : Rat) ^ (e - 1) = (2 : Rat) ^ e / 2 := by
  rw [Rat.zpow_sub_one (by decide) e, Rat.div_def]

/-- every rational is below `2 ^ (|num| + den)` -/
theorem up_bound (q : Rat) (N : Nat) (h : q.num.natAbs + q.den ≤ N) : q < (2 : Rat) ^ N := by
  rw [Rat.lt_iff]; simp only [two_pow_num, two_pow_den]
  have h1 : q.num.natAbs < 2 ^ q.num.natAbs := Nat.lt_two_pow_self
  have h2 : 2 ^ q.num.natAbs ≤ 2 ^ N := Nat.pow_le_pow_right (by decide) (by omega)
  have h3 : 0 < q.den := q.den_pos
  have h4 : (2 : Int) ^ N = ((2 ^ N : Nat) : Int) := by simp
  rw [h4]
  have : q.num ≤ (q.num.natAbs : Int) := Int.le_natAbs
  have h5 : ((2 ^ N : Nat) : Int) * 1 ≤ ((2 ^ N : Nat) : Int) * (q.den : Int) := by
    apply Int.mul_le_mul_of_nonneg_left <;> omega
  omega

theorem num_pos_of_pos {q : Rat} (hq : 0 < q) : 0 < q.num := by
  have h1 : 0 ≤ q.num := Rat.num_nonneg.2 (Rat.le_of_lt hq)
  have h2 : q.num ≠ 0 := fun h => by
    have := Rat.num_eq_zero.1 h
    rw [this] at hq; exact absurd hq (by decide)
  omega

/-- a positive rational times `2 ^ (|num| + den)` is at least one -/
theorem down_bound (q : Rat) (hq : 0 < q) (N : Nat) (h : q.num.natAbs + q.den ≤ N) : 1 ≤ q * (2 : Rat) ^ N := by
  have hnum : 0 < q.num := num_pos_of_pos hq
  have hden : 0 < q.den := q.den_pos
  have hdenQ : (0 : Rat) < (q.den : Rat) := Rat.natCast_pos.2 hden
  have h1 : q.den < 2 ^ q.den := Nat.lt_two_pow_self
  have h2 : 2 ^ q.den ≤ 2 ^ N := Nat.pow_le_pow_right (by decide) (by omega)
  have h3 : ((q.den : Nat) : Rat) ≤ ((2 ^ N : Nat) : Rat) := Rat.natCast_le_natCast.2 (by omega)
  have h4 : ((2 ^ N : Nat) : Rat) = (2 : Rat) ^ N := by simp
  rw [h4] at h3
  have h5 : q * (q.den : Rat) ≤ q * (2 : Rat) ^ N := Rat.mul_le_mul_of_nonneg_left h3 (Rat.le_of_lt hq)
  have h6 : q * (q.den : Rat) = (q.num : Rat) := by
    have := Rat.mkRat_eq_div q.num q.den
    rw [Rat.mkRat_self] at this
    grind
  have h7 : (1 : Rat) ≤ (q.num : Rat) := by
    have : ((1 : Int) : Rat) ≤ (q.num : Rat) := Rat.intCast_le_intCast.2 (by omega)
    simpa using this
  grind

/-! ## fuel monotonicity -/

theorem loopUp_mono (n k : Nat) (x : Dbl) (e : Int) (r : Dbl × Int) (h : loopUp n x e = some r) :
    loopUp (n + k) x e = some r := by
  induction n generalizing x e with
  | zero => simp [loopUp] at h
  | succ n ih =>
    rw [Nat.add_right_comm]
    simp only [loopUp] at h ⊢
    split
    · rename_i hc; rw [if_pos hc] at h; exact ih _ _ h
    · rename_i hc; rw [if_neg hc] at h; exact h

theorem loopDown_mono (n k : Nat) (x : Dbl) (e : Int) (r : Dbl × Int) (h : loopDown n x e = some r) :
    loopDown (n + k) x e = some r := by
  induction n generalizing x e with
  | zero => simp [loopDown] at h
  | succ n ih =>
    rw [Nat.add_right_comm]
    simp only [loopDown] at h ⊢
    split
    · rename_i hc; rw [if_pos hc] at h; exact ih _ _ h
    · rename_i hc; rw [if_neg hc] at h; exact h

theorem frexp1_mono (g : Bool) (n k : Nat) (x : Dbl) (r : Dbl × Int) (h : frexp1 g n x = some r) :
    frexp1 g (n + k) x = some r := by
  unfold frexp1 at h ⊢
  simp only at h ⊢
  split
  · rename_i hz; rw [if_pos hz] at h; exact h
  · rename_i hz; rw [if_neg hz] at h
    split
    · rename_i hg; rw [if_pos hg] at h; exact h
    · rename_i hg; rw [if_neg hg] at h
      cases hu : loopUp n x.abs 0 with
      | none => rw [hu] at h; simp at h
      | some r1 =>
        rw [hu] at h; rw [loopUp_mono n k _ _ _ hu]
        simp only at h ⊢
        cases hd : loopDown n r1.1 r1.2 with
        | none => rw [hd] at h; simp at h
        | some r2 =>
          rw [hd] at h; rw [loopDown_mono n k _ _ _ hd]
          exact h

/-! ## the loops on positive finite values -/

theorem loopUp_step {q : Rat} (h : 1 ≤ q) (n : Nat) (e : Int) :
    loopUp (n + 1) (fin q) e = loopUp n (fin (q / 2)) (e + 1) := if_pos (decide_eq_true h)

theorem loopUp_stop {q : Rat} (h : q < 1) (n : Nat) (e : Int) : loopUp (n + 1) (fin q) e = some (fin q, e) :=
  if_neg (mt of_decide_eq_true (Rat.not_le.2 h))

theorem loopDown_step {q : Rat} (h : q < 1 / 2) (n : Nat) (e : Int) :
    loopDown (n + 1) (fin q) e = loopDown n (fin (q * 2)) (e - 1) := if_pos (decide_eq_true h)

theorem loopDown_stop {q : Rat} (h : 1 / 2 ≤ q) (n : Nat) (e : Int) : loopDown (n + 1) (fin q) e = some (fin q, e) :=
  if_neg (mt of_decide_eq_true (Rat.not_lt.2 h))

/-- first loop: halving while `≥ 1`.  `n` halvings suffice when `q < 2^n`. -/
theorem loopUp_fin : ∀ (n : Nat) (q : Rat) (e : Int), 0 < q → q < (2 : Rat) ^ n →
    ∃ q' e', loopUp (n + 1) (fin q) e = some (fin q', e') ∧ 0 < q' ∧ q' < 1 ∧ (1 / 2 ≤ q → 1 / 2 ≤ q') ∧
      (q < 1 → q' = q) ∧ q' * (2 : Rat) ^ e' = q * (2 : Rat) ^ e
  | n, q, e, hq, hn => by
    by_cases h1 : 1 ≤ q
    · match n, hn with
      | 0, hn => exact absurd hn (by rw [Rat.pow_zero]; grind)
      | n + 1, hn =>
        obtain ⟨q', e', hl, hpos, hlt, hge, _, hval⟩ :=
          loopUp_fin n (q / 2) (e + 1) (by grind) (by rw [Rat.pow_succ] at hn; grind)
        exact ⟨q', e', (loopUp_step h1 _ e).trans hl, hpos, hlt, fun _ => hge (by grind), fun h => absurd h (by grind),
          by rw [hval, two_zpow_succ]; grind⟩
    · exact ⟨q, e, loopUp_stop (by grind) n e, hq, by grind, id, fun _ => rfl, rfl⟩

/-- second loop: doubling while `< ½`.  `n` doublings suffice when `½ ≤ q·2^n`. -/
theorem loopDown_fin : ∀ (n : Nat) (q : Rat) (e : Int), 0 < q → q < 1 → 1 / 2 ≤ q * (2 : Rat) ^ n →
    ∃ q' e', loopDown (n + 1) (fin q) e = some (fin q', e') ∧ 1 / 2 ≤ q' ∧ q' < 1 ∧
      q' * (2 : Rat) ^ e' = q * (2 : Rat) ^ e
  | n, q, e, hq, hq1, hn => by
    by_cases h1 : q < 1 / 2
    · match n, hn with
      | 0, hn => exact absurd hn (by rw [Rat.pow_zero]; grind)
      | n + 1, hn =>
        obtain ⟨q', e', hl, hge, hlt, hval⟩ :=
          loopDown_fin n (q * 2) (e - 1) (by grind) (by grind) (by rw [Rat.pow_succ] at hn; grind)
        exact ⟨q', e', (loopDown_step h1 _ e).trans hl, hge, hlt, by rw [hval, two_zpow_pred]; grind⟩
    · exact ⟨q, e, loopDown_stop (by grind) n e, by grind, hq1, rfl⟩

theorem one_le_two_pow (n : Nat) : (1 : Rat) ≤ (2 : Rat) ^ n := by
  have h : ((1 : Nat) : Rat) ≤ ((2 ^ n : Nat) : Rat) := Rat.natCast_le_natCast.2 Nat.one_le_two_pow
  simpa using h

/-- both loops in sequence on a positive finite value, with one fuel for both -/
theorem loops_fin (n : Nat) (q : Rat) (hq : 0 < q) (hup : q < (2 : Rat) ^ n) (hdown : 1 / 2 ≤ q * (2 : Rat) ^ n) :
    ∃ q1 e1 q2 e2, loopUp (n + 1) (fin q) 0 = some (fin q1, e1) ∧ loopDown (n + 1) (fin q1) e1 = some (fin q2, e2) ∧
      1 / 2 ≤ q2 ∧ q2 < 1 ∧ q2 * (2 : Rat) ^ e2 = q := by
  obtain ⟨q1, e1, hl1, hpos1, hlt1, hge1, hsame1, hval1⟩ := loopUp_fin n q 0 hq hup
  have hn : 1 / 2 ≤ q1 * (2 : Rat) ^ n := by
    by_cases h1 : 1 / 2 ≤ q
    · -- the first loop leaves a value in [½, 1), which the second does not touch
      have := Rat.mul_le_mul_of_nonneg_left (one_le_two_pow n) (Rat.le_of_lt hpos1)
      have := hge1 h1
      grind
    · -- `q < ½`: the first loop does nothing
      rw [hsame1 (by grind)]; exact hdown
  obtain ⟨q2, e2, hl2, hge2, hlt2, hval2⟩ := loopDown_fin n q1 e1 hpos1 hlt1 hn
  exact ⟨q1, e1, q2, e2, hl1, hl2, hge2, hlt2, by rw [hval2, hval1]; simp⟩

/-- `_frexp` on a finite non-zero value: both loops run on `|q|`, then the sign is put back -/
theorem frexp_fin {q q1 q2 : Rat} {e1 e2 : Int} (hq : q ≠ 0)
    (h1 : loopUp (fuelFor (fin q)) (fin q.abs) 0 = some (fin q1, e1))
    (h2 : loopDown (fuelFor (fin q)) (fin q1) e1 = some (fin q2, e2)) :
    frexp (fin q) = some (fin (q2 * if q < 0 then -1 else 1), e2) := by
  have hz : ¬ q.abs = 0 := fun h => hq (Rat.abs_eq_zero_iff.1 h)
  unfold frexp frexp1
  simp only [Dbl.abs, isZero, isFinite, signum, hz, decide_false, Bool.not_true, Bool.and_false, Bool.false_eq_true,
    if_false, h1, h2]
  split <;> rfl

/-! ## `ldexp` loops

Their control flow depends on the exponent alone, so each is described once, for any trajectory `φ` of the value
(`φ j` = the value after `j` rounds). -/

theorem ldUp_traj (φ : Nat → Dbl) (hφ : ∀ j, (φ j).twice = φ (j + 1)) (n : Nat) (e : Int) (he : e.toNat ≤ n) :
    ldUp (n + 1) (φ 0) e = some (φ e.toNat, min e 0) := by
  induction n generalizing φ e with
  | zero => rw [ldUp, if_neg (by omega), show e.toNat = 0 by omega, show min e 0 = e by omega]
  | succ n ih =>
    rw [ldUp]
    split
    · rw [hφ, ih (fun j => φ (j + 1)) (fun j => hφ (j + 1)) (e - 1) (by omega), show (e - 1).toNat + 1 = e.toNat by omega,
        show min (e - 1) 0 = min e 0 by omega]
    · rw [show e.toNat = 0 by omega, show min e 0 = e by omega]

theorem ldDown_traj (φ : Nat → Dbl) (hφ : ∀ j, (φ j).half = φ (j + 1)) (n : Nat) (e : Int) (he : (-e).toNat ≤ n) :
    ldDown (n + 1) (φ 0) e = some (φ (-e).toNat, max e 0) := by
  induction n generalizing φ e with
  | zero => rw [ldDown, if_neg (by omega), show (-e).toNat = 0 by omega, show max e 0 = e by omega]
  | succ n ih =>
    rw [ldDown]
    split
    · rw [hφ, ih (fun j => φ (j + 1)) (fun j => hφ (j + 1)) (e + 1) (by omega),
        show (-(e + 1)).toNat + 1 = (-e).toNat by omega, show max (e + 1) 0 = max e 0 by omega]
    · rw [show (-e).toNat = 0 by omega, show max e 0 = e by omega]

theorem ldUp_fin (n : Nat) (m : Rat) (e : Int) (he : e.toNat ≤ n) :
    ldUp (n + 1) (fin m) e = some (fin (m * (2 : Rat) ^ e.toNat), min e 0) := by
  have h := ldUp_traj (fun j => fin (m * (2 : Rat) ^ j)) (fun j => by simp only [twice, Rat.pow_succ, Rat.mul_assoc]) n e he
  rwa [Rat.pow_zero, Rat.mul_one] at h

theorem ldDown_fin (n : Nat) (m : Rat) (e : Int) (he : (-e).toNat ≤ n) :
    ldDown (n + 1) (fin m) e = some (fin (m / (2 : Rat) ^ (-e).toNat), max e 0) := by
  have h := ldDown_traj (fun j => fin (m / (2 : Rat) ^ j))
    (fun j => by simp only [half, Rat.pow_succ, Rat.div_def, Rat.inv_mul_rev, Rat.mul_assoc, Rat.mul_comm (2 : Rat)⁻¹])
    n e he
  rwa [Rat.pow_zero, show m / 1 = m by grind] at h

theorem two_zpow_of_nonneg (e : Int) (h : 0 ≤ e) : (2 : Rat) ^ e = (2 : Rat) ^ e.toNat := by
  obtain ⟨n, rfl⟩ : ∃ n : Nat, e = (n : Int) := ⟨e.toNat, by omega⟩
  rw [Rat.zpow_natCast]; simp

theorem two_zpow_of_neg (e : Int) (h : e < 0) : (2 : Rat) ^ e = ((2 : Rat) ^ (-e).toNat)⁻¹ := by
  obtain ⟨n, rfl⟩ : ∃ n : Nat, e = -(n : Int) := ⟨(-e).toNat, by omega⟩
  rw [Rat.zpow_neg, Rat.zpow_natCast]; simp

/-- non-finite and zero values pass through the `ldexp` loops unchanged -/
theorem ldUp_nonfin (n : Nat) (x : Dbl) (hx : x.isFinite = false) (e : Int) (he : e.toNat ≤ n) :
    ldUp (n + 1) x e = some (x, min e 0) :=
  ldUp_traj (fun _ => x) (fun _ => by cases x <;> simp_all [twice, isFinite]) n e he

theorem ldDown_nonfin (n : Nat) (x : Dbl) (hx : x.isFinite = false) (e : Int) (he : (-e).toNat ≤ n) :
    ∃ e', ldDown (n + 1) x e = some (x, e') :=
  ⟨_, ldDown_traj (fun _ => x) (fun _ => by cases x <;> simp_all [half, isFinite]) n e he⟩

/-! ## the `for_each` of `frexp` in `StateT _ Option` -/

/-- given that `_frexp` returns on every element, the pushes append mantissas and exponents in element order -/
theorem forEach_frexpPush (htot : ∀ x : Dbl, ∃ r, frexp x = some r) (i : Nat) (xs : List Dbl) (s : List Dbl × List Int) :
    ∃ ms es, (Iter.forEachIdxM (fun _ => frexpPush) i xs).run s = some ((), (s.1 ++ ms, s.2 ++ es)) ∧
      ms.length = xs.length ∧ es.length = xs.length ∧
      ∀ (p : Nat) (h : p < xs.length) (h1 : p < ms.length) (h2 : p < es.length), frexp xs[p] = some (ms[p], es[p]) := by
  induction xs generalizing i s with
  | nil => exact ⟨[], [], by simp [Iter.forEachIdxM], rfl, rfl, fun p h => absurd h (by simp)⟩
  | cons x xs ih =>
    obtain ⟨r, hr⟩ := htot x
    obtain ⟨ms, es, hrun, hm, he, hget⟩ := ih (i + 1) (s.1 ++ [r.1], s.2 ++ [r.2])
    refine ⟨r.1 :: ms, r.2 :: es, ?_, by simp [hm], by simp [he], ?_⟩
    · have hstep : (frexpPush x).run s = some ((), (s.1 ++ [r.1], s.2 ++ [r.2])) := by
        simp [frexpPush, StateT.run, hr]
      show ((frexpPush x).run s >>= fun p => (Iter.forEachIdxM (fun _ => frexpPush) (i + 1) xs).run p.2) = _
      rw [hstep]; simp only [Option.bind_eq_bind, Option.bind_some]
      rw [hrun]; simp
    · intro p h h1 h2
      cases p with
      | zero => simpa using hr
      | succ p => simpa using hget p (by simpa using h) (by simpa using h1) (by simpa using h2)

end ArrModel.Flt
