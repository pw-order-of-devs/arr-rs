import ArrProofs.Lemmas.Axis
import ArrProofs.Lemmas.Res
import ArrProofs.Lemmas.C12Chunks
/-!
# C12: the common skeleton of `flipAxis` and `rollAxis`

Both are "apply a list permutation `p` along one axis" with the same three arms.  `permAxis p` is that skeleton,
`flipAxis = permAxis reverse`, `rollAxis s = permAxis (rotate by s)`; `permAxis_at` is the coordinate theorem, proved
once by induction on the axis number following the three arms.
-/
namespace ArrModel
variable {α : Type}

theorem inRange_cons_inv (d : Nat) (ds c : List Nat) (h : inRange (d :: ds) c = true) :
    ∃ c0 cs, c = c0 :: cs ∧ c0 < d ∧ inRange ds cs = true := by
  cases c with
  | nil => exact nomatch h
  | cons c0 cs =>
    rw [inRange, Bool.and_eq_true, decide_eq_true_eq] at h
    exact ⟨c0, cs, rfl, h.1, h.2⟩

theorem inRange_snoc_inv (s : List Nat) (n : Nat) (c : List Nat) (h : inRange (s ++ [n]) c = true) :
    ∃ c' j, c = c' ++ [j] ∧ c'.length = s.length ∧ inRange s c' = true ∧ j < n := by
  have hl := inRange_length _ _ h
  rw [List.length_append, List.length_singleton] at hl
  have hne : c ≠ [] := fun e => by rw [e] at hl; exact nomatch hl
  have e : c = c.dropLast ++ [c.getLast hne] := (List.dropLast_concat_getLast hne).symm
  have hl' : c.dropLast.length = s.length := by rw [List.length_dropLast, hl]; rfl
  rw [e, inRange_append_singleton _ _ _ _ hl'.symm, Bool.and_eq_true, decide_eq_true_eq] at h
  exact ⟨_, _, e, hl', h.1, h.2⟩

theorem getD_set_ne (c : List Nat) (k v m : Nat) (h : m ≠ k) : (c.set k v).getD m 0 = c.getD m 0 := by
  rw [List.getD_eq_getElem?_getD, List.getD_eq_getElem?_getD, List.getElem?_set_ne (Ne.symm h)]

theorem getD_set (c : List Nat) (k v m : Nat) (hk : k < c.length) :
    (c.set k v).getD m 0 = if m = k then v else c.getD m 0 := by
  split
  · next e => rw [e, getD_set_self c k v hk]
  · next e => exact getD_set_ne c k v m e

theorem inRange_set (s c : List Nat) (h : inRange s c = true) (k v : Nat) (hv : v < s.getD k 0) :
    inRange s (c.set k v) = true := by
  rw [inRange_iff] at h ⊢
  refine ⟨List.length_set.trans h.1, fun i hi => ?_⟩
  by_cases e : i = k
  · rw [e, getD_set_self c k v (h.1 ▸ e ▸ hi)]; exact hv
  · rw [getD_set_ne c k v i e]; exact h.2 i hi

/-- a polymorphic list permutation described by an index map `σ len i` -/
structure PermSpec (p : ∀ β : Type, List β → List β) (σ : Nat → Nat → Nat) : Prop where
  length : ∀ (β : Type) (l : List β), (p β l).length = l.length
  get : ∀ (β : Type) (l : List β) (i : Nat), i < l.length → (p β l)[i]? = l[σ l.length i]?
  lt : ∀ n i, i < n → σ n i < n

theorem PermSpec.mem {p σ} (hp : PermSpec p σ) {β : Type} (l : List β) (b : β) (h : b ∈ p β l) : b ∈ l := by
  obtain ⟨i, hi, rfl⟩ := List.getElem_of_mem h
  have := hp.get β l i (hp.length β l ▸ hi)
  rw [List.getElem?_eq_getElem hi] at this
  exact List.mem_of_getElem? this.symm

/-- the three arms of `flip_axis` / `roll_axis` with the list permutation abstracted -/
def permAxis (p : ∀ β : Type, List β → List β) : Nat → List Nat → List α → Res (List α)
  | 0, shape, elems =>
    (Res.idx shape 0) >>= fun d0 => splitFlat d0 elems >>= fun blocks => .ok (p _ blocks).flatten
  | ax + 1, shape, elems =>
    if ax + 1 = shape.length - 1 then
      splitFlat ((shape.take (ax + 1)).prod) elems >>= fun rows => .ok (rows.map (p _)).flatten
    else
      (Res.idx shape 0) >>= fun d0 => splitFlat d0 elems >>= fun blocks =>
      Res.mapM' (fun b => if (shape.drop 1).prod = b.length then permAxis p ax (shape.drop 1) b else .err .ShapeMustMatchValuesLength) blocks >>= fun bs =>
      .ok bs.flatten

theorem flipAxis_eq_permAxis (ax : Nat) (shape : List Nat) (elems : List α) :
    flipAxis ax shape elems = permAxis (fun _ => List.reverse) ax shape elems := by
  induction ax generalizing shape elems with
  | zero => rfl
  | succ ax ih => simp only [flipAxis, permAxis, ih]

/-- the list permutation of `roll`: `rotate_right(shift mod len)` -/
def rollPerm (sh : Int) (β : Type) (l : List β) : List β := rotateRight l (sh % (l.length : Int)).toNat

theorem rollAxis_eq_permAxis (sh : Int) (ax : Nat) (shape : List Nat) (elems : List α) :
    rollAxis ax shape sh elems = permAxis (rollPerm sh) ax shape elems := by
  induction ax generalizing shape elems with
  | zero => rfl
  | succ ax ih => simp only [rollAxis, permAxis, ih]; rfl

theorem permAxis_first (p : ∀ β : Type, List β → List β) (d : Nat) (ds : List Nat) (elems : List α) :
    permAxis p 0 (d :: ds) elems = splitFlat d elems >>= fun blocks => .ok (p _ blocks).flatten := rfl

theorem permAxis_last (p : ∀ β : Type, List β → List β) (ax : Nat) (shape : List Nat) (elems : List α)
    (h : ax + 1 = shape.length - 1) :
    permAxis p (ax + 1) shape elems =
      splitFlat ((shape.take (ax + 1)).prod) elems >>= fun rows => .ok (rows.map (p _)).flatten := by
  rw [permAxis, if_pos h]

theorem permAxis_inner (p : ∀ β : Type, List β → List β) (ax d : Nat) (ds : List Nat) (elems : List α)
    (h : ¬ ax + 1 = (d :: ds).length - 1) :
    permAxis p (ax + 1) (d :: ds) elems =
      splitFlat d elems >>= fun blocks =>
      Res.mapM' (fun b => if ds.prod = b.length then permAxis p ax ds b else .err .ShapeMustMatchValuesLength) blocks >>= fun bs =>
      .ok bs.flatten := by
  rw [permAxis, if_neg h]; rfl

/-- **coordinate theorem of the skeleton**: along axis `ax` the index is sent through `σ`, all other coordinates stay -/
theorem permAxis_at (p : ∀ β : Type, List β → List β) (σ : Nat → Nat → Nat) (hp : PermSpec p σ) :
    ∀ (ax : Nat) (shape : List Nat) (elems : List α),
      (∀ d ∈ shape, 0 < d) → elems.length = shape.prod → ax < shape.length →
      ∃ es, permAxis p ax shape elems = .ok es ∧ es.length = elems.length ∧
        ∀ c, inRange shape c = true →
          es[ravel shape c]? = elems[ravel shape (c.set ax (σ (shape.getD ax 0) (c.getD ax 0)))]? := by
  intro ax
  induction ax with
  | zero =>
    -- first axis: the blocks of the first axis permuted
    intro shape elems hpos hlen hax
    match shape, hax with
    | d :: ds, _ =>
      have hd : 0 < d := hpos d List.mem_cons_self
      have hP : 0 < ds.prod := prod_pos_of ds (fun x hx => hpos x (List.mem_cons_of_mem _ hx))
      rw [List.prod_cons] at hlen
      have hbl := chunksOf_length ds.prod elems d hP hlen
      have hun : ∀ b ∈ p _ (chunksOf ds.prod elems), b.length = ds.prod :=
        fun b hb => chunksOf_mem_length ds.prod elems d hP hlen b (hp.mem _ b hb)
      rw [permAxis_first, splitFlat_ok d ds.prod elems hd hP hlen]
      refine ⟨_, rfl, ?_, fun c hc => ?_⟩
      · rw [flatten_length_uniform _ _ hun, hp.length, hbl, hlen]
      · obtain ⟨c0, cs, rfl, hc0, hcs⟩ := inRange_cons_inv d ds c hc
        have hj := ravel_lt ds cs hcs
        show (p _ (chunksOf ds.prod elems)).flatten[c0 * ds.prod + ravel ds cs]? = elems[σ d c0 * ds.prod + ravel ds cs]?
        rw [flatten_get_uniform _ _ hun c0 _ hj, hp.get _ _ c0 (hbl.symm ▸ hc0), hbl]
        exact chunksOf_get ds.prod elems d hP hlen _ _ (hp.lt d c0 hc0) hj
  | succ ax ih =>
    intro shape elems hpos hlen hax
    by_cases hlast : ax + 1 = shape.length - 1
    · -- last axis: every row permuted
      have hne : shape ≠ [] := fun e => by rw [e] at hax; exact nomatch hax
      obtain ⟨s, n, rfl⟩ : ∃ s n, shape = s ++ [n] := ⟨_, _, (List.dropLast_concat_getLast hne).symm⟩
      have hsl : s.length = ax + 1 := by
        rw [List.length_append, List.length_singleton, Nat.add_sub_cancel] at hlast; exact hlast.symm
      have hn : 0 < n := hpos n (List.mem_append_right _ List.mem_cons_self)
      have hS : 0 < s.prod := prod_pos_of s (fun x hx => hpos x (List.mem_append_left _ hx))
      rw [List.prod_append, List.prod_singleton] at hlen
      have hbl := chunksOf_length n elems s.prod hn hlen
      have hun : ∀ b ∈ (chunksOf n elems).map (p _), b.length = n := by
        intro b hb
        obtain ⟨r, hr, rfl⟩ := List.mem_map.1 hb
        rw [hp.length]; exact chunksOf_mem_length n elems s.prod hn hlen r hr
      rw [permAxis_last p ax _ elems hlast, ← hsl, List.take_left' rfl, splitFlat_ok s.prod n elems hS hn hlen]
      refine ⟨_, rfl, ?_, fun c hc => ?_⟩
      · rw [flatten_length_uniform _ _ hun, List.length_map, hbl, hlen]
      · obtain ⟨c', j, rfl, hcl, hc', hj⟩ := inRange_snoc_inv s n c hc
        have hk := ravel_lt s c' hc'
        have hrow := length_take_drop_mul n elems s.prod _ hlen hk
        rw [getD_concat s n _ rfl, getD_concat c' j _ hcl, set_concat c' j _ _ hcl, ravel_append_singleton s c' n j hcl.symm,
          ravel_append_singleton s c' n _ hcl.symm, flatten_get_uniform _ _ hun _ _ hj, List.getElem?_map,
          chunksOf_getElem? n elems s.prod hn hlen _ hk, Option.map_some, Option.bind_some,
          hp.get _ _ j (hrow.symm ▸ hj), hrow, List.getElem?_take, if_pos (hp.lt n j hj), List.getElem?_drop]
    · -- inner axis: recursion on the blocks of the first axis
      match shape, hax with
      | d :: ds, hax =>
        have hd : 0 < d := hpos d List.mem_cons_self
        have hds : ∀ x ∈ ds, 0 < x := fun x hx => hpos x (List.mem_cons_of_mem _ hx)
        have hP : 0 < ds.prod := prod_pos_of ds hds
        have hax' : ax < ds.length := Nat.lt_of_succ_lt_succ hax
        rw [List.prod_cons] at hlen
        have hbl := chunksOf_length ds.prod elems d hP hlen
        have hml := chunksOf_mem_length ds.prod elems d hP hlen
        obtain ⟨bs, hbs1, hbs2, hbs3⟩ := mapM'_ok
          (fun b : List α => if ds.prod = b.length then permAxis p ax ds b else .err .ShapeMustMatchValuesLength)
          (fun b r => r.length = b.length ∧ ∀ c, inRange ds c = true →
            r[ravel ds c]? = b[ravel ds (c.set ax (σ (ds.getD ax 0) (c.getD ax 0)))]?)
          (chunksOf ds.prod elems)
          (fun b hb => by rw [if_pos (hml b hb).symm]; exact ih ds b hds (hml b hb) hax')
        have hun : ∀ r ∈ bs, r.length = ds.prod := by
          intro r hr
          obtain ⟨k, hk, rfl⟩ := List.getElem_of_mem hr
          obtain ⟨r', hr', hP', _⟩ := hbs3 k _ (List.getElem?_eq_getElem (hbs2 ▸ hk))
          rw [List.getElem?_eq_getElem hk] at hr'
          rw [Option.some.inj hr', hP']; exact hml _ (List.getElem_mem _)
        rw [permAxis_inner p ax d ds elems hlast, splitFlat_ok d ds.prod elems hd hP hlen, Res.bind_ok, hbs1]
        refine ⟨_, rfl, ?_, fun c hc => ?_⟩
        · rw [flatten_length_uniform _ _ hun, hbs2, hbl, hlen]
        · obtain ⟨c0, cs, rfl, hc0, hcs⟩ := inRange_cons_inv d ds c hc
          have hj := ravel_lt ds cs hcs
          have hv : σ (ds.getD ax 0) (cs.getD ax 0) < ds.getD ax 0 := hp.lt _ _ (inRange_getD_lt ds cs ax hcs hax')
          have hj' := ravel_lt ds _ (inRange_set ds cs hcs ax _ hv)
          have hblk := chunksOf_getElem? ds.prod elems d hP hlen c0 hc0
          obtain ⟨r, hr, _, hPr⟩ := hbs3 c0 _ hblk
          show bs.flatten[c0 * ds.prod + ravel ds cs]? =
            elems[c0 * ds.prod + ravel ds (cs.set ax (σ (ds.getD ax 0) (cs.getD ax 0)))]?
          rw [flatten_get_uniform _ _ hun c0 _ hj, hr, Option.bind_some, hPr cs hcs,
            ← chunksOf_get ds.prod elems d hP hlen c0 _ hc0 hj', hblk, Option.bind_some]

end ArrModel
