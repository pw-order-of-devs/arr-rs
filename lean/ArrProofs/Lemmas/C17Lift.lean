import ArrModel.C17Lift
import ArrProofs.Lemmas.Res
/-! helper lemmas for C17: the lifting combinators -/
namespace ArrModel.C17
open ArrModel

variable {α β γ δ : Type}

/-! ### `zipWith3` is two `zipWith`s -/

theorem zipWith3_eq_zipWith (f : α → β → γ → δ) : ∀ (as : List α) (bs : List β) (cs : List γ),
    zipWith3 f as bs cs = List.zipWith (fun g c => g c) (List.zipWith f as bs) cs
  | [], _, _ => by rw [List.zipWith_nil_left, List.zipWith_nil_left]; rfl
  | _ :: _, [], _ => by rw [List.zipWith_nil_right, List.zipWith_nil_left]; rfl
  | _ :: _, _ :: _, [] => by rw [List.zipWith_nil_right]; rfl
  | a :: as, b :: bs, c :: cs => by
    rw [zipWith3, zipWith3_eq_zipWith f as bs cs, List.zipWith_cons_cons, List.zipWith_cons_cons]

theorem zipWith3_length (f : α → β → γ → δ) (as : List α) (bs : List β) (cs : List γ)
    (hb : bs.length = as.length) (hc : cs.length = as.length) : (zipWith3 f as bs cs).length = as.length := by
  rw [zipWith3_eq_zipWith, List.length_zipWith, List.length_zipWith, hb, hc, Nat.min_self, Nat.min_self]

theorem zipWith3_getElem? (f : α → β → γ → δ) (as : List α) (bs : List β) (cs : List γ)
    (hb : bs.length = as.length) (hc : cs.length = as.length) (p : Nat) (h : p < as.length) :
    (zipWith3 f as bs cs)[p]? = some (f as[p] (bs[p]'(hb ▸ h)) (cs[p]'(hc ▸ h))) := by
  rw [zipWith3_eq_zipWith, List.getElem?_zipWith, List.getElem?_zipWith, List.getElem?_eq_getElem h,
    List.getElem?_eq_getElem (hb ▸ h), List.getElem?_eq_getElem (hc ▸ h)]

/-! ### `mapM'` -/

theorem mapM'_ok (g : α → Res β) (h : α → β) : ∀ (l : List α), (∀ x ∈ l, g x = .ok (h x)) →
    Res.mapM' g l = .ok (l.map h) :=
  fun _ hl => Res.mapM'_ok hl

/-- filling positions `0 .. n-1` one by one produces the list that holds these values -/
theorem mapM'_range_eq_ok {F : Nat → Res β} {R : List β} (h : ∀ i (hi : i < R.length), F i = .ok R[i]) :
    Res.mapM' F (List.range R.length) = .ok R := by
  have hmap : (List.range R.length).map F = R.map Res.ok := by
    apply List.ext_getElem
    · rw [List.length_map, List.length_map, List.length_range]
    · intro i h1 h2
      rw [List.getElem_map, List.getElem_map, List.getElem_range]
      exact h i _
  rw [Res.mapM', hmap, Res.sequence_map_ok]

/-! ### the combinators that walk positions -/

theorem lift3_ok (B : Bcast) (f : α → α → α → β) (a b c a' b' c' : Arr α)
    (hh : B.arrays [a, b, c] = .ok [a', b', c']) (hwf : a'.WF)
    (hb : b'.elems.length = a'.elems.length) (hc : c'.elems.length = a'.elems.length) :
    ∃ r, lift3 B f a b c = .ok r ∧ r.shape = a'.shape ∧ r.WF ∧
      ∀ p (h : p < a'.elems.length),
        r.elems[p]? = some (f a'.elems[p] (b'.elems[p]'(hb ▸ h)) (c'.elems[p]'(hc ▸ h))) := by
  have hl := zipWith3_length f a'.elems b'.elems c'.elems hb hc
  -- the position-by-position loop of `lift3` computes `zipWith3`
  have hm : Res.mapM' (fun i => Res.idx a'.elems i >>= fun x => Res.idx b'.elems i >>= fun y =>
      Res.idx c'.elems i >>= fun z => Res.ok (f x y z)) (List.range a'.elems.length) =
      .ok (zipWith3 f a'.elems b'.elems c'.elems) := by
    rw [← hl]
    refine mapM'_range_eq_ok fun i hi => ?_
    have hi' : i < a'.elems.length := hl ▸ hi
    rw [Res.idx_of_lt hi', Res.idx_of_lt (hb ▸ hi'), Res.idx_of_lt (hc ▸ hi')]
    have := zipWith3_getElem? f a'.elems b'.elems c'.elems hb hc i hi'
    rw [List.getElem?_eq_getElem hi] at this
    exact congrArg Res.ok (Option.some.inj this).symm
  refine ⟨⟨zipWith3 f a'.elems b'.elems c'.elems, a'.shape⟩, ?_, rfl, hl.trans hwf, ?_⟩
  · rw [lift3, hh]
    show (Res.mapM' _ (List.range a'.elems.length) >>= fun es => Arr.new es a'.shape) = _
    rw [hm]
    exact Arr.new_of_prod (hwf.symm.trans hl.symm)
  · exact zipWith3_getElem? f a'.elems b'.elems c'.elems hb hc

/-- the loop of `liftSplit` once the pairing `t` and the stretched limits `ms` are there -/
theorem liftSplit_loop (f : α → α → Option Nat → β) (t : Arr (α × α)) (hwf : t.WF) (ms : Option (Arr Nat))
    (hl : ∀ m, ms = some m → m.elems.length = t.elems.length) :
    ∃ r, (Res.mapM' (fun (ip : Nat × (α × α)) =>
          match ms with
          | some m => Res.idx m.elems ip.1 >>= fun n => .ok (f ip.2.1 ip.2.2 (some n))
          | none => .ok (f ip.2.1 ip.2.2 none)) ((List.range t.elems.length).zip t.elems) >>= fun es =>
        Arr.new es t.shape) = .ok r ∧ r.shape = t.shape ∧ r.WF ∧
      ∀ p (h : p < t.elems.length),
        r.elems[p]? = some (f t.elems[p].1 t.elems[p].2 (ms.bind fun m => m.elems[p]?)) := by
  let g : Nat × (α × α) → β := fun ip => f ip.2.1 ip.2.2 (ms.bind fun m => m.elems[ip.1]?)
  have hlen : (((List.range t.elems.length).zip t.elems).map g).length = t.shape.prod := by
    rw [List.length_map, List.length_zip, List.length_range, Nat.min_self]
    exact hwf
  refine ⟨⟨((List.range t.elems.length).zip t.elems).map g, t.shape⟩, ?_, rfl, hlen, ?_⟩
  · rw [Res.mapM'_ok (g := g), Res.bind_ok]
    · exact Arr.new_of_prod hlen.symm
    · rintro ⟨i, x⟩ hx
      cases ms with
      | none => rfl
      | some m =>
        have hi : i < m.elems.length := by rw [hl m rfl]; exact List.mem_range.1 (List.of_mem_zip hx).1
        show (Res.idx m.elems i >>= fun n => Res.ok (f x.1 x.2 (some n))) = .ok (f x.1 x.2 m.elems[i]?)
        rw [Res.idx_of_lt hi, List.getElem?_eq_getElem hi]
        rfl
  · intro p h
    have hz : ((List.range t.elems.length).zip t.elems)[p]? = some (p, t.elems[p]) :=
      List.getElem?_zip_eq_some.2 ⟨List.getElem?_range h, List.getElem?_eq_getElem h⟩
    rw [List.getElem?_map, hz]
    rfl

theorem liftSplit_none_ok (B : Bcast) (f : α → α → Option Nat → β) (a sep : Arr α) (t : Arr (α × α))
    (ht : B.pair a sep = .ok t) (hwf : t.WF) :
    ∃ r, liftSplit B f a sep none = .ok r ∧ r.shape = t.shape ∧ r.WF ∧
      ∀ p (h : p < t.elems.length), r.elems[p]? = some (f t.elems[p].1 t.elems[p].2 none) := by
  rw [liftSplit, ht]
  exact liftSplit_loop f t hwf none nofun

theorem liftSplit_some_ok (B : Bcast) (f : α → α → Option Nat → β) (a sep : Arr α) (t : Arr (α × α))
    (ht : B.pair a sep = .ok t) (hwf : t.WF) (m m' : Arr Nat) (hm' : B.to m t.shape = .ok m')
    (hl : m'.elems.length = t.elems.length) :
    ∃ r, liftSplit B f a sep (some m) = .ok r ∧ r.shape = t.shape ∧ r.WF ∧
      ∀ p (h : p < t.elems.length), r.elems[p]? = some (f t.elems[p].1 t.elems[p].2 m'.elems[p]?) := by
  rw [liftSplit, ht]
  simp only [Res.bind_ok, hm']
  exact liftSplit_loop f t hwf (some m') (fun _ h => Option.some.inj h ▸ hl)

/-! ### `lift2` on operands of one shape -/

theorem zip_self_any (g : Nat × Nat → Bool) : ∀ (l : List Nat), (l.zip l).any g = l.any (fun d => g (d, d))
  | [] => rfl
  | d :: ds => by simp [List.zip_cons_cons, zip_self_any g ds]

theorem isBroadcastable_self (s : List Nat) (hpos : ∀ d ∈ s, d ≠ 0) : isBroadcastable s s = true := by
  unfold isBroadcastable
  rw [zip_self_any]
  simp only [Bool.not_eq_true', List.any_eq_false, List.mem_reverse]
  intro d hd
  simp [dimClash, hpos d hd]

theorem lift2_std_same_shape (f : α → β → γ) (a : Arr α) (b : Arr β) (ha : a.WF) (hb : b.WF)
    (hs : a.shape = b.shape) (hpos : ∀ d ∈ a.shape, d ≠ 0) :
    lift2 Bcast.std f a b = .ok ⟨List.zipWith f a.elems b.elems, a.shape⟩ := by
  have hlen : b.elems.length = a.elems.length := by rw [ha, hb, hs]
  unfold lift2 Bcast.std
  simp only [Arr.broadcast]
  rw [← hs, isBroadcastable_self a.shape hpos]
  simp only [Bool.not_true, Bool.false_eq_true, if_false, if_true, Arr.reshape, Arr.flat]
  rw [Arr.new_of_prod (by simp [List.length_zip, hlen]; exact ha.symm)]
  simp only [Res.bind_ok]
  rw [Arr.new_of_prod (by simp [List.length_zip, hlen]; exact ha.symm)]
  simp [List.zip_eq_zipWith, List.map_zipWith]

end ArrModel.C17
