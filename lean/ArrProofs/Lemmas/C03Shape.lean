import ArrModel.Broadcast
import ArrProofs.Lemmas.Res
/-!
shape-level lemmas for C03 (broadcasting): the specification predicates, `Res.sequence` over a mapped list, and
`isBroadcastable`, `stretchable`, `broadcastShape`, `commonBroadcastShape` read axis by axis from the trailing axis
(`fromEnd`). Read this way, a fact relating two or three shapes is a pointwise statement about `fromEnd · k` that
`omega` closes.
-/
namespace ArrModel

/-! ### specification predicates -/

/-- axis-by-axis stretch rule on two shapes of the same rank: the source axis equals the target
axis or is one; zero lengths are refused (as the code refuses them) -/
def stretchEq : List Nat → List Nat → Bool
  | [], [] => true
  | d :: s, e :: u => (d == e || d == 1) && d != 0 && e != 0 && stretchEq s u
  | _, _ => false

/-- `s` can be stretched to `t`: trailing alignment; the added leading axes of `t` are unconstrained -/
def stretchable (s t : List Nat) : Bool :=
  decide (s.length ≤ t.length) && stretchEq s (t.drop (t.length - s.length))

/-- the `k`-th axis length counted from the trailing axis; missing leading axes read as 1 -/
def fromEnd (s : List Nat) (k : Nat) : Nat := s.reverse.getD k 1

/-- the largest rank in a list of shapes -/
def maxLen (shapes : List (List Nat)) : Nat := (shapes.map List.length).foldl max 0

/-- the largest `k`-th-from-the-end axis length in a list of shapes -/
def cmax (shapes : List (List Nat)) (k : Nat) : Nat := (shapes.map (fun s => fromEnd s k)).foldl max 0

/-! ### `Res.sequence` over a map -/

theorem sequence_map_ok_iff {α β : Type} (f : β → Res α) (l : List β) (ys : List α) :
    Res.sequence (l.map f) = .ok ys ↔
      ys.length = l.length ∧ ∀ (i : Nat) x, l[i]? = some x → ∃ y, ys[i]? = some y ∧ f x = .ok y := by
  constructor
  · intro h
    have hm : l.map f = ys.map Res.ok := Res.sequence_eq_ok h
    refine ⟨by simpa using (congrArg List.length hm).symm, fun i x hx => ?_⟩
    have hi := congrArg (·[i]?) hm
    simp only [List.getElem?_map, hx, Option.map_some] at hi
    cases hy : ys[i]? with
    | none => rw [hy] at hi; cases hi
    | some y => rw [hy] at hi; exact ⟨y, rfl, Option.some.inj hi⟩
  · rintro ⟨hl, h⟩
    have hm : l.map f = ys.map Res.ok := by
      apply List.ext_getElem?
      intro i
      rw [List.getElem?_map, List.getElem?_map]
      cases hx : l[i]? with
      | none => rw [List.getElem?_eq_none (by rw [hl]; exact List.getElem?_eq_none_iff.1 hx)]; rfl
      | some x =>
        obtain ⟨y, hy1, hy2⟩ := h i x hx
        rw [hy1, Option.map_some, Option.map_some, hy2]
    rw [hm, Res.sequence_map_ok]

theorem sequence_map_ok {α β : Type} (f : β → Res α) (l : List β) (h : ∀ x ∈ l, ∃ y, f x = .ok y) :
    ∃ ys, Res.sequence (l.map f) = .ok ys := by
  induction l with
  | nil => exact ⟨[], rfl⟩
  | cons b l ih =>
    obtain ⟨y, hy⟩ := h b List.mem_cons_self
    obtain ⟨ys, hys⟩ := ih (fun x hx => h x (List.mem_cons_of_mem _ hx))
    exact ⟨y :: ys, by rw [List.map_cons, Res.sequence_cons, hy, hys]; rfl⟩

theorem sequence_map_ok_or_err {α β : Type} (f : β → Res α) (l : List β) (e : Err)
    (h : ∀ x ∈ l, (∃ y, f x = .ok y) ∨ f x = .err e) :
    (∃ ys, Res.sequence (l.map f) = .ok ys) ∨ Res.sequence (l.map f) = .err e := by
  induction l with
  | nil => exact .inl ⟨[], rfl⟩
  | cons b l ih =>
    rw [List.map_cons, Res.sequence_cons]
    rcases h b List.mem_cons_self with ⟨y, hy⟩ | hy
    · rw [hy]
      rcases ih (fun x hx => h x (List.mem_cons_of_mem _ hx)) with ⟨ys, hys⟩ | hys
      · rw [hys]; exact .inl ⟨y :: ys, rfl⟩
      · rw [hys]; exact .inr rfl
    · rw [hy]; exact .inr rfl

/-! ### `fromEnd` -/

theorem reverse_getElem?_eq_some (s : List Nat) (k x : Nat) :
    s.reverse[k]? = some x ↔ k < s.length ∧ fromEnd s k = x := by
  unfold fromEnd
  rw [List.getD_eq_getElem?_getD]
  constructor
  · intro h
    rw [h]
    exact ⟨by simpa using (List.getElem?_eq_some_iff.1 h).1, rfl⟩
  · rintro ⟨h, rfl⟩
    rw [List.getElem?_eq_getElem (by simpa using h)]; rfl

theorem fromEnd_of_le (r : List Nat) (k : Nat) (h : r.length ≤ k) : fromEnd r k = 1 := by
  unfold fromEnd
  rw [List.getD_eq_getElem?_getD, List.getElem?_eq_none (by simpa using h)]; rfl

theorem lt_length_of_fromEnd_ne_one (s : List Nat) (k : Nat) (h : fromEnd s k ≠ 1) : k < s.length :=
  Nat.lt_of_not_le fun hle => h (fromEnd_of_le s k hle)

theorem eq_of_fromEnd_eq (r s : List Nat) (hl : r.length = s.length)
    (h : ∀ k, k < r.length → fromEnd r k = fromEnd s k) : r = s := by
  apply List.reverse_inj.1
  apply List.ext_getElem?
  intro k
  by_cases hk : k < r.length
  · rw [(reverse_getElem?_eq_some r k _).2 ⟨hk, rfl⟩, (reverse_getElem?_eq_some s k _).2 ⟨hl ▸ hk, rfl⟩, h k hk]
  · rw [List.getElem?_eq_none (by simp; omega), List.getElem?_eq_none (by simp; omega)]

theorem zero_mem_iff_fromEnd (r : List Nat) : 0 ∈ r ↔ ∃ k, fromEnd r k = 0 := by
  rw [← List.mem_reverse, List.mem_iff_getElem?]
  refine exists_congr fun k => ?_
  unfold fromEnd
  rw [List.getD_eq_getElem?_getD]
  cases r.reverse[k]? <;> simp

theorem zero_not_mem_iff_fromEnd (r : List Nat) : 0 ∉ r ↔ ∀ k, fromEnd r k ≠ 0 := by
  rw [zero_mem_iff_fromEnd, not_exists]

theorem zip_reverse_aligned {β : Type} (s : List β) (t : List β) (h : s.length ≤ t.length) :
    s.reverse.zip t.reverse = (s.zip (t.drop (t.length - s.length))).reverse := by
  have hl : s.length = (t.drop (t.length - s.length)).length := by simp; omega
  conv => lhs; rw [← List.take_append_drop (t.length - s.length) t, List.reverse_append]
  rw [List.zip_eq_zipWith, List.zip_eq_zipWith, List.reverse_zipWith hl]
  rw [← List.zip_eq_zipWith, ← List.zip_eq_zipWith]
  have := @List.zip_append _ _ s.reverse [] (t.drop (t.length - s.length)).reverse
    (t.take (t.length - s.length)).reverse (by simpa using hl)
  simpa using this

/-- a statement about all pairs of the reversed zip (the form `is_broadcastable` has) is a statement about the
aligned axes -/
theorem forall_zip_reverse_iff (s t : List Nat) (P : Nat × Nat → Prop) :
    (∀ p ∈ s.reverse.zip t.reverse, P p) ↔ ∀ k, k < s.length → k < t.length → P (fromEnd s k, fromEnd t k) := by
  constructor
  · intro h k hs ht
    apply h
    rw [List.mem_iff_getElem?]
    exact ⟨k, List.getElem?_zip_eq_some.2
      ⟨(reverse_getElem?_eq_some s k _).2 ⟨hs, rfl⟩, (reverse_getElem?_eq_some t k _).2 ⟨ht, rfl⟩⟩⟩
  · intro h p hp
    obtain ⟨k, hk⟩ := List.mem_iff_getElem?.1 hp
    obtain ⟨h1, h2⟩ := List.getElem?_zip_eq_some.1 hk
    obtain ⟨hs, e1⟩ := (reverse_getElem?_eq_some s k _).1 h1
    obtain ⟨ht, e2⟩ := (reverse_getElem?_eq_some t k _).1 h2
    have := h k hs ht
    rwa [e1, e2] at this

/-- … and so is a statement about all pairs of the zip with the trailing part of the longer shape (the form
`stretchable` and the direction test of `broadcast_to` have) -/
theorem forall_zip_aligned_iff (s t : List Nat) (h : s.length ≤ t.length) (P : Nat × Nat → Prop) :
    (∀ p ∈ s.zip (t.drop (t.length - s.length)), P p) ↔ ∀ k, k < s.length → P (fromEnd s k, fromEnd t k) := by
  have := forall_zip_reverse_iff s t P
  rw [zip_reverse_aligned s t h] at this
  simp only [List.mem_reverse] at this
  rw [this]
  exact ⟨fun h' k hk => h' k hk (by omega), fun h' k hk _ => h' k hk⟩

/-! ### `isBroadcastable` -/

theorem dimClash_eq_false_iff (a b : Nat) : dimClash a b = false ↔ a ≠ 0 ∧ b ≠ 0 ∧ (a = b ∨ a = 1 ∨ b = 1) := by
  simp only [dimClash, Bool.or_eq_false_iff, Bool.and_eq_false_iff, bne_eq_false_iff_eq, beq_eq_false_iff_ne]
  omega

theorem isBroadcastable_iff_compat (s t : List Nat) :
    isBroadcastable s t = true ↔ ∀ k, k < s.length → k < t.length →
      fromEnd s k ≠ 0 ∧ fromEnd t k ≠ 0 ∧
      (fromEnd s k = fromEnd t k ∨ fromEnd s k = 1 ∨ fromEnd t k = 1) := by
  unfold isBroadcastable
  rw [Bool.not_eq_true', List.any_eq_false, forall_zip_reverse_iff s t (fun p => ¬ dimClash p.1 p.2 = true)]
  simp only [Bool.not_eq_true, dimClash_eq_false_iff]

theorem isBroadcastable_false_of_zero (s t : List Nat) (k : Nat) (hk1 : k < s.length) (hk2 : k < t.length)
    (h : fromEnd s k = 0 ∨ fromEnd t k = 0) : isBroadcastable s t = false := by
  apply Bool.eq_false_iff.2
  intro hi
  have := (isBroadcastable_iff_compat s t).1 hi k hk1 hk2
  omega

/-! ### `stretchable` -/

theorem stretchEq_cons (d e : Nat) (s u : List Nat) :
    stretchEq (d :: s) (e :: u) = true ↔ (d = e ∨ d = 1) ∧ d ≠ 0 ∧ e ≠ 0 ∧ stretchEq s u = true := by
  simp [stretchEq, and_assoc]

theorem stretchEq_iff_forall (s u : List Nat) :
    stretchEq s u = true ↔
      s.length = u.length ∧ ∀ p ∈ s.zip u, (p.1 = p.2 ∨ p.1 = 1) ∧ p.1 ≠ 0 ∧ p.2 ≠ 0 := by
  induction s generalizing u with
  | nil => cases u <;> simp [stretchEq]
  | cons d s ih =>
    cases u with
    | nil => simp [stretchEq]
    | cons e u =>
      rw [stretchEq_cons, ih u]
      simp only [List.zip_cons_cons, List.forall_mem_cons, List.length_cons]
      constructor
      · rintro ⟨h1, h2, h3, h4, h5⟩; exact ⟨by omega, ⟨h1, h2, h3⟩, h5⟩
      · rintro ⟨h1, ⟨h2, h3, h4⟩, h5⟩; exact ⟨h2, h3, h4, by omega, h5⟩

theorem stretchable_iff (s t : List Nat) :
    stretchable s t = true ↔ s.length ≤ t.length ∧ stretchEq s (t.drop (t.length - s.length)) = true := by
  simp only [stretchable, Bool.and_eq_true, decide_eq_true_eq]

theorem stretchable_iff_fromEnd (s t : List Nat) :
    stretchable s t = true ↔
      s.length ≤ t.length ∧ ∀ k, k < s.length →
        (fromEnd s k = fromEnd t k ∨ fromEnd s k = 1) ∧ fromEnd s k ≠ 0 ∧ fromEnd t k ≠ 0 := by
  rw [stretchable_iff, stretchEq_iff_forall]
  refine and_congr_right fun hle => ?_
  rw [forall_zip_aligned_iff s t hle, List.length_drop]
  exact and_iff_right (by omega)

theorem stretchable_self (s : List Nat) (hz : 0 ∉ s) : stretchable s s = true := by
  rw [zero_not_mem_iff_fromEnd] at hz
  exact (stretchable_iff_fromEnd s s).2 ⟨Nat.le_refl _, fun k _ => ⟨.inl rfl, hz k, hz k⟩⟩

theorem isBroadcastable_of_stretchable (s t : List Nat) (h : stretchable s t = true) : isBroadcastable s t = true := by
  obtain ⟨_, hk⟩ := (stretchable_iff_fromEnd s t).1 h
  refine (isBroadcastable_iff_compat s t).2 fun k hs _ => ?_
  have := hk k hs
  omega

/-- for a pair that passes `is_broadcastable`, the rank test and the direction test of `broadcast_to` together
are the stretch rule -/
theorem stretchable_iff_checks (s t : List Nat) (hb : isBroadcastable s t = true) :
    stretchable s t = true ↔ ¬ t.length < s.length ∧
      (s.zip (t.drop (t.length - s.length))).any (fun p => p.1 != p.2 && p.1 != 1) = false := by
  rw [stretchable_iff_fromEnd, Nat.not_lt]
  refine and_congr_right fun hle => ?_
  rw [List.any_eq_false, forall_zip_aligned_iff s t hle (fun p => ¬ (p.1 != p.2 && p.1 != 1) = true)]
  refine forall_congr' fun k => forall_congr' fun hk => ?_
  have := (isBroadcastable_iff_compat s t).1 hb k hk (by omega)
  simp only [Bool.and_eq_true, bne_iff_ne, ne_eq]
  omega

theorem single_stretchable (s : List Nat) (hne : s ≠ []) (hz : 0 ∉ s) : stretchable [1] s = true := by
  rw [zero_not_mem_iff_fromEnd] at hz
  refine (stretchable_iff_fromEnd [1] s).2 ⟨List.length_pos_iff.2 hne, fun k hk => ?_⟩
  have hk0 : k = 0 := by simpa using hk
  subst hk0
  exact ⟨.inr rfl, Nat.one_ne_zero, hz 0⟩

theorem stretchEq_prod (s u : List Nat) (h : stretchEq s u = true) :
    0 < s.prod ∧ s.prod ≤ u.prod ∧ (s.prod = u.prod → s = u) := by
  induction s generalizing u with
  | nil => cases u <;> simp_all [stretchEq]
  | cons d s ih =>
    cases u with
    | nil => simp [stretchEq] at h
    | cons e u =>
      rw [stretchEq_cons] at h
      obtain ⟨h1, h2, h3⟩ := ih u h.2.2.2
      simp only [List.prod_cons]
      rcases h.1 with rfl | rfl
      · refine ⟨Nat.mul_pos (by omega) h1, Nat.mul_le_mul_left _ h2, fun hp => ?_⟩
        rw [h3 (Nat.eq_of_mul_eq_mul_left (by omega) hp)]
      · have hle : 1 * s.prod ≤ e * u.prod := Nat.mul_le_mul (by omega) h2
        refine ⟨by omega, hle, fun hp => ?_⟩
        have he : e ≤ 1 := Nat.le_of_mul_le_mul_right (by omega : e * u.prod ≤ 1 * u.prod) (by omega)
        have he1 : e = 1 := by omega
        subst he1
        rw [h3 (by omega)]

/-! ### `padRev`, `bdim`, `broadcastShape` -/

theorem padRev_length (s : List Nat) (n : Nat) : (padRev s n).length = n := by
  simp [padRev]

theorem padRev_getElem? (s : List Nat) (n k : Nat) :
    (padRev s n)[k]? = if k < n then some (fromEnd s k) else none := by
  unfold padRev fromEnd
  rw [List.getElem?_take, List.getD_eq_getElem?_getD, List.getElem?_append]
  split
  · split
    · rename_i h2
      rw [List.getElem?_eq_getElem h2]; rfl
    · rename_i h2
      rw [List.getElem?_eq_none (Nat.le_of_not_lt h2), List.getElem?_replicate, if_pos (by omega)]; rfl
  · rfl

theorem padRev_getD (s : List Nat) (n k : Nat) (h : k < n) : (padRev s n).getD k 1 = fromEnd s k := by
  rw [List.getD_eq_getElem?_getD, padRev_getElem?, if_pos h]; rfl

theorem zip_padRev_getElem? (s t : List Nat) (n k : Nat) (p : Nat × Nat) :
    ((padRev s n).zip (padRev t n))[k]? = some p ↔ k < n ∧ p = (fromEnd s k, fromEnd t k) := by
  rw [List.getElem?_zip_eq_some, padRev_getElem?, padRev_getElem?]
  by_cases h : k < n
  · rw [if_pos h, if_pos h]
    simp only [Option.some.injEq, h, true_and]
    constructor
    · rintro ⟨h1, h2⟩; exact Prod.ext h1.symm h2.symm
    · rintro rfl; exact ⟨rfl, rfl⟩
  · simp [h]

theorem bdim_ok_iff (d1 d2 x : Nat) :
    bdim d1 d2 = .ok x ↔ (d1 = d2 ∨ d1 = 1 ∨ d2 = 1) ∧ x = if d1 = 1 then d2 else d1 := by
  unfold bdim
  by_cases h1 : d1 = 1
  · simp [h1, eq_comm]
  · by_cases h2 : d2 = 1 ∨ d1 = d2
    · rw [if_neg h1, if_pos h2, if_neg h1, Res.ok.injEq]
      exact ⟨fun h => ⟨by omega, h.symm⟩, fun h => h.2.symm⟩
    · rw [if_neg h1, if_neg h2]
      exact ⟨nofun, fun h => by omega⟩

theorem bdim_err (d1 d2 : Nat) (h : d1 ≠ d2 ∧ d1 ≠ 1 ∧ d2 ≠ 1) : bdim d1 d2 = .err .BroadcastShapeMismatch := by
  unfold bdim
  rw [if_neg h.2.1, if_neg (by omega)]

theorem bdim_ok_or_err (d1 d2 : Nat) : (∃ y, bdim d1 d2 = .ok y) ∨ bdim d1 d2 = .err .BroadcastShapeMismatch := by
  by_cases h : d1 = d2 ∨ d1 = 1 ∨ d2 = 1
  · exact .inl ⟨_, (bdim_ok_iff d1 d2 _).2 ⟨h, rfl⟩⟩
  · exact .inr (bdim_err d1 d2 (by omega))

theorem broadcastShape_ok_iff (s t r : List Nat) :
    broadcastShape s t = .ok r ↔
      r.length = max s.length t.length ∧
      ∀ k, k < r.length →
        (fromEnd s k = fromEnd t k ∨ fromEnd s k = 1 ∨ fromEnd t k = 1) ∧
        fromEnd r k = if fromEnd s k = 1 then fromEnd t k else fromEnd s k := by
  have hrev : ∀ x : Res (List Nat), x.map List.reverse = .ok r ↔ x = .ok r.reverse := fun x =>
    ⟨fun h => by obtain ⟨a, rfl, rfl⟩ := Res.map_eq_ok h; rw [List.reverse_reverse],
      fun h => by rw [h]; exact congrArg Res.ok (List.reverse_reverse r)⟩
  unfold broadcastShape
  simp only
  rw [hrev, sequence_map_ok_iff]
  simp only [List.length_reverse, List.length_zip, padRev_length, Nat.min_self]
  refine and_congr_right fun hl => ?_
  constructor
  · intro h k hk
    obtain ⟨y, hy1, hy2⟩ := h k (fromEnd s k, fromEnd t k) ((zip_padRev_getElem? _ _ _ _ _).2 ⟨by omega, rfl⟩)
    rw [(reverse_getElem?_eq_some r k _).2 ⟨hk, rfl⟩] at hy1
    cases hy1
    exact (bdim_ok_iff _ _ _).1 hy2
  · intro h i x hx
    obtain ⟨hi, rfl⟩ := (zip_padRev_getElem? _ _ _ _ _).1 hx
    exact ⟨fromEnd r i, (reverse_getElem?_eq_some r i _).2 ⟨by omega, rfl⟩, (bdim_ok_iff _ _ _).2 (h i (by omega))⟩

theorem broadcastShape_ok_or_err (s t : List Nat) :
    (∃ r, broadcastShape s t = .ok r) ∨ broadcastShape s t = .err .BroadcastShapeMismatch := by
  unfold broadcastShape
  simp only
  rcases sequence_map_ok_or_err (fun p : Nat × Nat => bdim p.1 p.2)
      ((padRev s (max s.length t.length)).zip (padRev t (max s.length t.length))) .BroadcastShapeMismatch
      (fun x _ => bdim_ok_or_err x.1 x.2) with ⟨ys, h⟩ | h
  · rw [h]; exact .inl ⟨ys.reverse, rfl⟩
  · rw [h]; exact .inr rfl

/-- one aligned axis of an accepted `broadcast_shape`, for every `k` (beyond the ranks all three lengths read 1):
the result axis is the non-unit length of the pair -/
theorem broadcastShape_axis (s t r : List Nat) (h : broadcastShape s t = .ok r) (k : Nat) :
    (fromEnd s k = 1 ∧ fromEnd r k = fromEnd t k) ∨
    (fromEnd s k ≠ 1 ∧ fromEnd r k = fromEnd s k ∧ (fromEnd t k = fromEnd s k ∨ fromEnd t k = 1)) := by
  obtain ⟨hl, hk⟩ := (broadcastShape_ok_iff s t r).1 h
  by_cases hkr : k < r.length
  · obtain ⟨h1, h2⟩ := hk k hkr
    split at h2 <;> omega
  · rw [fromEnd_of_le s k (by omega), fromEnd_of_le t k (by omega), fromEnd_of_le r k (by omega)]
    exact .inl ⟨rfl, rfl⟩

theorem zero_not_mem_broadcastShape_iff (s t fs : List Nat) (h : broadcastShape s t = .ok fs) :
    0 ∉ fs ↔ 0 ∉ s ∧ 0 ∉ t := by
  simp only [zero_not_mem_iff_fromEnd, ← forall_and]
  refine forall_congr' fun k => ?_
  have := broadcastShape_axis s t fs h k
  omega

theorem stretchable_of_broadcastShape (s t fs : List Nat) (h : broadcastShape s t = .ok fs) (hz : 0 ∉ fs) :
    stretchable s fs = true ∧ stretchable t fs = true ∧ isBroadcastable s t = true := by
  have hl := ((broadcastShape_ok_iff s t fs).1 h).1
  rw [zero_not_mem_iff_fromEnd] at hz
  refine ⟨(stretchable_iff_fromEnd s fs).2 ⟨by omega, fun k _ => ?_⟩,
    (stretchable_iff_fromEnd t fs).2 ⟨by omega, fun k _ => ?_⟩,
    (isBroadcastable_iff_compat s t).2 fun k _ _ => ?_⟩
  · have := broadcastShape_axis s t fs h k
    have := hz k
    omega
  · have := broadcastShape_axis s t fs h k
    have := hz k
    omega
  · have := broadcastShape_axis s t fs h k
    have := hz k
    omega

theorem broadcastShape_self (s : List Nat) : broadcastShape s s = .ok s :=
  (broadcastShape_ok_iff s s s).2 ⟨(Nat.max_self _).symm, fun k _ => ⟨.inl rfl, by split <;> simp_all⟩⟩

/-- a zero-length axis of the result comes from an operand that fails `is_broadcastable` against the result -/
theorem not_isBroadcastable_of_zero_mem (s t fs : List Nat) (h : broadcastShape s t = .ok fs) (hz : 0 ∈ fs) :
    isBroadcastable s fs = false ∨ isBroadcastable t fs = false := by
  obtain ⟨k, hk0⟩ := (zero_mem_iff_fromEnd fs).1 hz
  have hkf : k < fs.length := lt_length_of_fromEnd_ne_one fs k (by omega)
  rcases broadcastShape_axis s t fs h k with ⟨_, h2⟩ | ⟨_, h2, _⟩
  · exact .inr (isBroadcastable_false_of_zero t fs k (lt_length_of_fromEnd_ne_one t k (by omega)) hkf (.inr hk0))
  · exact .inl (isBroadcastable_false_of_zero s fs k (lt_length_of_fromEnd_ne_one s k (by omega)) hkf (.inr hk0))

/-! ### `commonBroadcastShape` -/

theorem foldl_max_le_iff (l : List Nat) (a b : Nat) : l.foldl max a ≤ b ↔ a ≤ b ∧ ∀ x ∈ l, x ≤ b := by
  induction l generalizing a with
  | nil => simp
  | cons y l ih => simp only [List.foldl_cons, ih, List.forall_mem_cons, Nat.max_le, and_assoc]

theorem le_foldl_max (l : List Nat) (a x : Nat) (h : x ∈ l) : x ≤ l.foldl max a :=
  ((foldl_max_le_iff l a _).1 (Nat.le_refl _)).2 x h

theorem foldl_max_mem (l : List Nat) (a : Nat) : l.foldl max a = a ∨ l.foldl max a ∈ l := by
  induction l generalizing a with
  | nil => exact .inl rfl
  | cons y l ih =>
    rw [List.foldl_cons, List.mem_cons]
    rcases ih (max a y) with h | h
    · rw [h]
      rcases Nat.le_total a y with h1 | h1
      · rw [Nat.max_eq_right h1]; exact .inr (.inl rfl)
      · rw [Nat.max_eq_left h1]; exact .inl rfl
    · exact .inr (.inr h)

theorem length_le_maxLen (shapes : List (List Nat)) (s : List Nat) (h : s ∈ shapes) : s.length ≤ maxLen shapes :=
  le_foldl_max _ _ _ (List.mem_map.2 ⟨s, h, rfl⟩)

theorem fromEnd_le_cmax (shapes : List (List Nat)) (s : List Nat) (h : s ∈ shapes) (k : Nat) :
    fromEnd s k ≤ cmax shapes k :=
  le_foldl_max _ _ _ (List.mem_map.2 ⟨s, h, rfl⟩)

theorem range_map_getD (f : Nat → Nat) (n k : Nat) (h : k < n) : ((List.range n).map f).getD k 1 = f k := by
  simp [List.getD_eq_getElem?_getD, List.getElem?_map, List.getElem?_range h]

theorem reverse_range_map_eq_iff (f : Nat → Nat) (n : Nat) (cs : List Nat) :
    ((List.range n).map f).reverse = cs ↔ cs.length = n ∧ ∀ k, k < n → fromEnd cs k = f k := by
  have hself : ∀ k, k < n → fromEnd ((List.range n).map f).reverse k = f k := fun k hk => by
    unfold fromEnd
    rw [List.reverse_reverse]
    exact range_map_getD f n k hk
  constructor
  · rintro rfl
    exact ⟨by simp, hself⟩
  · rintro ⟨h1, h2⟩
    exact eq_of_fromEnd_eq _ _ (by simp [h1]) fun k hk => by
      have hk' : k < n := by simpa using hk
      rw [hself k hk', h2 k hk']

/-- `common_broadcast_shape` with its padded copies read through `fromEnd`, `maxLen`, `cmax` -/
theorem commonBroadcastShape_eq (shapes : List (List Nat)) :
    commonBroadcastShape shapes =
      if ∀ s ∈ shapes, ∀ k, k < maxLen shapes → (fromEnd s k = cmax shapes k ∨ fromEnd s k = 1 ∨ cmax shapes k = 1)
      then .ok ((List.range (maxLen shapes)).map (cmax shapes)).reverse else .err .BroadcastShapeMismatch := by
  have hcommon : ∀ k, k < maxLen shapes →
      ((shapes.map (fun s => padRev s (maxLen shapes))).map (fun s => s.getD k 1)).foldl max 0 = cmax shapes k := by
    intro k hk
    unfold cmax
    rw [List.map_map]
    exact congrArg (List.foldl max 0) (List.map_congr_left fun s _ => padRev_getD s _ k hk)
  unfold commonBroadcastShape
  simp only
  rw [show (shapes.map List.length).foldl max 0 = maxLen shapes from rfl,
    List.map_congr_left (fun k hk => hcommon k (List.mem_range.1 hk))]
  refine ite_congr (propext ?_) (fun _ => rfl) (fun _ => rfl)
  rw [List.all_map, List.all_eq_true]
  refine forall_congr' fun s => forall_congr' fun _ => ?_
  simp only [Function.comp, List.all_eq_true, List.mem_range]
  refine forall_congr' fun k => forall_congr' fun hk => ?_
  rw [padRev_getD s _ k hk, range_map_getD (cmax shapes) (maxLen shapes) k hk]
  simp only [Bool.or_eq_true, beq_iff_eq, or_assoc]

theorem commonBroadcastShape_ok_iff (shapes : List (List Nat)) (cs : List Nat) :
    commonBroadcastShape shapes = .ok cs ↔
      (cs.length = maxLen shapes ∧ ∀ k, k < maxLen shapes → fromEnd cs k = cmax shapes k) ∧
      ∀ s ∈ shapes, ∀ k, k < maxLen shapes →
        (fromEnd s k = cmax shapes k ∨ fromEnd s k = 1 ∨ cmax shapes k = 1) := by
  rw [commonBroadcastShape_eq, ← reverse_range_map_eq_iff]
  split
  · rename_i h
    rw [Res.ok.injEq]
    exact (and_iff_left h).symm
  · rename_i h
    exact ⟨nofun, fun h' => absurd h'.2 h⟩

theorem commonBroadcastShape_ok_or_err (shapes : List (List Nat)) :
    (∃ cs, commonBroadcastShape shapes = .ok cs) ∨ commonBroadcastShape shapes = .err .BroadcastShapeMismatch := by
  rw [commonBroadcastShape_eq]
  split
  · exact .inl ⟨_, rfl⟩
  · exact .inr rfl

theorem stretchable_of_common (shapes : List (List Nat)) (cs : List Nat)
    (h : commonBroadcastShape shapes = .ok cs) (s : List Nat) (hs : s ∈ shapes) (hz : 0 ∉ s) :
    stretchable s cs = true := by
  obtain ⟨⟨hlen, hcs⟩, hcompat⟩ := (commonBroadcastShape_ok_iff shapes cs).1 h
  have hle := length_le_maxLen shapes s hs
  rw [zero_not_mem_iff_fromEnd] at hz
  refine (stretchable_iff_fromEnd s cs).2 ⟨by omega, fun k hk => ?_⟩
  rw [hcs k (by omega)]
  have := hcompat s hs k (by omega)
  have := fromEnd_le_cmax shapes s hs k
  have := hz k
  omega

end ArrModel
