import ArrModel.Reorder
import ArrProofs.Lemmas.Index
/-!
# chunk lemmas: `chunksOf`, `splitFlat`, flatten of equally long blocks, `Res.mapM'`

The `i`-th chunk of size `k`, element `j`, is `l[i*k + j]`; the flatten of equally long blocks is read the same way;
`splitFlat` succeeds on exact multiples.

Trap: the C12 lemma files cannot be imported together with `Lemmas/C08List.lean` or `Lemmas/C08AlongAxis.lean` (hence with
no C11 or C13 lemma file).  `mapM'_ok` (here), `inRange_set` (`C12Axis`) and
`sequence_map_ok` (`C12Roll`) are declared there too, in the same `namespace ArrModel`, with other statements.
-/
namespace ArrModel
variable {α β : Type}

/-- on an exact multiple the chunks are the `n` consecutive slices of length `k` -/
theorem chunksOf_eq (k : Nat) (l : List α) (n : Nat) (hk : 0 < k) (h : l.length = n * k) :
    chunksOf k l = (List.range n).map (fun i => (l.drop (i * k)).take k) := by
  have hn : (l.length + k - 1) / k = n := by
    rw [h, Nat.add_sub_assoc hk, Nat.add_comm, Nat.add_mul_div_right _ _ hk, Nat.div_eq_of_lt (Nat.sub_lt hk Nat.one_pos),
      Nat.zero_add]
  unfold chunksOf
  rw [if_neg (Nat.ne_of_gt hk), hn]

theorem length_take_drop_mul (k : Nat) (l : List α) (n i : Nat) (h : l.length = n * k) (hi : i < n) :
    ((l.drop (i * k)).take k).length = k := by
  have : (i + 1) * k ≤ n * k := Nat.mul_le_mul_right _ hi
  rw [List.length_take, List.length_drop, h, Nat.min_eq_left]
  rw [Nat.add_mul, Nat.one_mul] at this
  omega

theorem chunksOf_length (k : Nat) (l : List α) (n : Nat) (hk : 0 < k) (h : l.length = n * k) :
    (chunksOf k l).length = n := by
  rw [chunksOf_eq k l n hk h, List.length_map, List.length_range]

theorem chunksOf_getElem? (k : Nat) (l : List α) (n : Nat) (hk : 0 < k) (h : l.length = n * k) (i : Nat) (hi : i < n) :
    (chunksOf k l)[i]? = some ((l.drop (i * k)).take k) := by
  rw [chunksOf_eq k l n hk h, List.getElem?_map, List.getElem?_range hi, Option.map_some]

theorem chunksOf_mem_length (k : Nat) (l : List α) (n : Nat) (hk : 0 < k) (h : l.length = n * k) :
    ∀ b ∈ chunksOf k l, b.length = k := by
  intro b hb
  rw [chunksOf_eq k l n hk h] at hb
  obtain ⟨i, hi, rfl⟩ := List.mem_map.1 hb
  exact length_take_drop_mul k l n i h (List.mem_range.1 hi)

/-- element `j` of chunk `i` is element `i*k + j` of the list -/
theorem chunksOf_get (k : Nat) (l : List α) (n : Nat) (hk : 0 < k) (h : l.length = n * k) (i j : Nat) (hi : i < n) (hj : j < k) :
    ((chunksOf k l)[i]?).bind (·[j]?) = l[i * k + j]? := by
  rw [chunksOf_getElem? k l n hk h i hi, Option.bind_some, List.getElem?_take, if_pos hj, List.getElem?_drop]

theorem flatten_length_uniform (bs : List (List α)) (k : Nat) (h : ∀ b ∈ bs, b.length = k) :
    bs.flatten.length = bs.length * k :=
  List.flatMap_id ▸ length_flatMap_uniform id k _ h

/-- reading the flatten of equally long blocks: position `i*k + j` is element `j` of block `i` -/
theorem flatten_get_uniform (bs : List (List α)) (k : Nat) (h : ∀ b ∈ bs, b.length = k) (i j : Nat) (hj : j < k) :
    bs.flatten[i * k + j]? = (bs[i]?).bind (·[j]?) := by
  by_cases hi : i < bs.length
  · rw [← List.flatMap_id, getElem?_flatMap_uniform id k bs i j hi h hj, List.getElem?_eq_getElem hi]
    rfl
  · rw [List.getElem?_eq_none (Nat.le_of_not_lt hi), List.getElem?_eq_none]
    · rfl
    · rw [flatten_length_uniform bs k h]
      exact Nat.le_trans (Nat.mul_le_mul_right k (Nat.le_of_not_lt hi)) (Nat.le_add_right _ _)

/-- the flatten of the chunks is the list -/
theorem chunksOf_flatten (k : Nat) (l : List α) (n : Nat) (hk : 0 < k) (h : l.length = n * k) :
    (chunksOf k l).flatten = l := by
  have hm := chunksOf_mem_length k l n hk h
  apply List.ext_getElem?
  intro p
  have e : p = p / k * k + p % k := (Nat.div_add_mod' p k).symm
  rw [e, flatten_get_uniform _ k hm _ _ (Nat.mod_lt _ hk)]
  by_cases hp : p / k < n
  · exact chunksOf_get k l n hk h _ _ hp (Nat.mod_lt _ hk)
  · have h1 : n * k ≤ p / k * k := Nat.mul_le_mul_right _ (Nat.le_of_not_lt hp)
    rw [List.getElem?_eq_none (by rw [chunksOf_length k l n hk h]; omega), List.getElem?_eq_none (by omega)]
    rfl

/-- `splitFlat` on an exact multiple: the chunks -/
theorem splitFlat_ok (parts size : Nat) (l : List α) (hp : 0 < parts) (hs : 0 < size) (h : l.length = parts * size) :
    splitFlat parts l = .ok (chunksOf size l) := by
  have hne : l.isEmpty = false := by
    cases l with
    | nil => exact absurd h (Nat.ne_of_lt (Nat.mul_pos hp hs))
    | cons _ _ => rfl
  unfold splitFlat
  rw [if_neg (Nat.ne_of_gt hp), hne, if_neg Bool.false_ne_true, h, Nat.mul_mod_right, if_neg (fun h => h rfl),
    Nat.mul_div_cancel_left _ hp]

/-- `mapM'` succeeds when every element does, and relates the results position by position -/
theorem mapM'_ok (f : α → Res β) (P : α → β → Prop) (l : List α) (h : ∀ a ∈ l, ∃ r, f a = .ok r ∧ P a r) :
    ∃ rs, Res.mapM' f l = .ok rs ∧ rs.length = l.length ∧
      ∀ (k : Nat) (a : α), l[k]? = some a → ∃ r, rs[k]? = some r ∧ P a r := by
  induction l with
  | nil => exact ⟨[], rfl, rfl, nofun⟩
  | cons x xs ih =>
    obtain ⟨r, hr, hP⟩ := h x List.mem_cons_self
    obtain ⟨rs, h1, h2, h3⟩ := ih (fun a ha => h a (List.mem_cons_of_mem _ ha))
    refine ⟨r :: rs, ?_, congrArg (· + 1) h2, ?_⟩
    · show (f x >>= fun a => Res.mapM' f xs >>= fun as => Res.ok (a :: as)) = _
      rw [hr, h1]; rfl
    · intro k a hk
      cases k with
      | zero => exact ⟨r, rfl, Option.some.inj hk ▸ hP⟩
      | succ k => exact h3 k a hk

theorem mapM'_congr (f g : α → Res β) (l : List α) (h : ∀ a ∈ l, f a = g a) : Res.mapM' f l = Res.mapM' g l := by
  unfold Res.mapM'
  rw [List.map_congr_left h]

end ArrModel
