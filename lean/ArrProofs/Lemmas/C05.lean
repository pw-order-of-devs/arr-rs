import ArrModel.C05
import ArrProofs.Lemmas.Res
/-!
# Lemmas for C05 — element pipelines in `StateM` and in `Id`

Specification vocabulary (`imapFrom`, `enumFrom`, `select`, `somes`, `stateAfter`, and the recorders `logged`, `loggedPlain`,
`loggedAcc`) and the facts the property theorems are assembled from.  Core Lean only.
-/
namespace ArrModel.Iter

variable {α β γ σ : Type}

/-! ## specification vocabulary -/

/-- `[f i x₀, f (i+1) x₁, …]` -/
def imapFrom (f : Nat → α → β) : Nat → List α → List β
  | _, [] => []
  | i, x :: xs => f i x :: imapFrom f (i + 1) xs

/-- `[(i, x₀), (i+1, x₁), …]` -/
def enumFrom (i : Nat) (xs : List α) : List (Nat × α) := imapFrom (fun j x => (j, x)) i xs

/-- keep the elements whose flag is `true` -/
def select : List α → List Bool → List α
  | x :: xs, b :: bs => if b then x :: select xs bs else select xs bs
  | _, _ => []

/-- keep the `some` answers -/
def somes : List (Option β) → List β
  | [] => []
  | some y :: ys => y :: somes ys
  | none :: ys => somes ys

/-- state of a stateful closure after it has been called on `xs` (positions `i, i+1, …`) in that order -/
def stateAfter (f : Nat → α → StateM σ β) : Nat → σ → List α → σ
  | _, s, [] => s
  | i, s, x :: xs => stateAfter f (i + 1) ((f i x).run s).2 xs

/-- wrap an arbitrary stateful closure with a recorder of the `(position, element)` pairs it is called with -/
def logged (f : Nat → α → StateM σ β) : Nat → α → StateM (σ × List (Nat × α)) β :=
  fun i x s => (((f i x).run s.1).1, (((f i x).run s.1).2, s.2 ++ [(i, x)]))

/-- the same for a closure that is not handed a position: records the elements it is called with -/
def loggedPlain (f : α → StateM σ β) : α → StateM (σ × List α) β :=
  fun x s => (((f x).run s.1).1, (((f x).run s.1).2, s.2 ++ [x]))

/-- wrap an arbitrary stateful folding closure with a recorder of the elements it is called with -/
def loggedAcc (f : γ → α → StateM σ γ) : γ → α → StateM (σ × List α) γ :=
  fun acc x s => (((f acc x).run s.1).1, (((f acc x).run s.1).2, s.2 ++ [x]))

/-! ## `imapFrom` / `enumFrom` -/

@[simp] theorem length_imapFrom (f : Nat → α → β) (i : Nat) (xs : List α) : (imapFrom f i xs).length = xs.length := by
  induction xs generalizing i with
  | nil => rfl
  | cons x xs ih => simp [imapFrom, ih]

theorem getElem_imapFrom (f : Nat → α → β) (i : Nat) (xs : List α) (p : Nat) (h : p < xs.length) :
    (imapFrom f i xs)[p]'(by simpa using h) = f (i + p) xs[p] := by
  induction xs generalizing i p with
  | nil => simp at h
  | cons x xs ih =>
    cases p with
    | zero => simp [imapFrom]
    | succ p =>
      simp only [imapFrom, List.getElem_cons_succ]
      rw [ih (i + 1) p (by simpa using h)]
      congr 1; omega

theorem imapFrom_const (f : α → β) (i : Nat) (xs : List α) : imapFrom (fun _ x => f x) i xs = xs.map f := by
  induction xs generalizing i with
  | nil => rfl
  | cons x xs ih => simp [imapFrom, ih]

theorem imapFrom_eq_mapIdx (f : Nat → α → β) (xs : List α) : imapFrom f 0 xs = xs.mapIdx f := by
  apply List.ext_getElem
  · simp
  · intro p h1 h2
    rw [getElem_imapFrom f 0 xs p (by simpa using h1)]
    simp

theorem imapFrom_append (f : Nat → α → β) (i : Nat) (xs ys : List α) :
    imapFrom f i (xs ++ ys) = imapFrom f i xs ++ imapFrom f (i + xs.length) ys := by
  induction xs generalizing i with
  | nil => simp [imapFrom]
  | cons x xs ih => simp [imapFrom, ih, Nat.add_assoc, Nat.add_comm 1]

@[simp] theorem length_enumFrom (i : Nat) (xs : List α) : (enumFrom i xs).length = xs.length := by
  simp [enumFrom]

theorem getElem_enumFrom (i : Nat) (xs : List α) (p : Nat) (h : p < xs.length) :
    (enumFrom i xs)[p]'(by simpa using h) = (i + p, xs[p]) := getElem_imapFrom _ i xs p h

theorem enumFrom_map_snd (i : Nat) (xs : List α) : (enumFrom i xs).map (·.2) = xs := by
  induction xs generalizing i with
  | nil => rfl
  | cons x xs ih => simp only [enumFrom, imapFrom, List.map_cons]; rw [← enumFrom, ih]

theorem enumFrom_map_fst (i : Nat) (xs : List α) : (enumFrom i xs).map (·.1) = List.range' i xs.length := by
  induction xs generalizing i with
  | nil => rfl
  | cons x xs ih =>
    simp only [enumFrom, imapFrom, List.map_cons, List.length_cons, List.range'_succ]
    rw [← enumFrom, ih]

/-- the positions are `0 … n-1`, each exactly once, in increasing order, paired with the element stored there -/
theorem enumFrom_zero_eq_zip (xs : List α) : enumFrom 0 xs = (List.range xs.length).zip xs := by
  apply List.ext_getElem
  · simp
  · intro p h1 h2
    rw [getElem_enumFrom 0 xs p (by simpa using h1)]
    simp

/-- the position-dependent image is the plain image of the enumeration -/
theorem imapFrom_eq_map (f : Nat → α → β) (i : Nat) (xs : List α) :
    imapFrom f i xs = (enumFrom i xs).map (fun e => f e.1 e.2) := by
  induction xs generalizing i with
  | nil => rfl
  | cons x xs ih => exact congrArg (f i x :: ·) (ih (i + 1))

/-! ## `select` / `somes` -/

theorem select_map (g : γ → α) (p : γ → Bool) (l : List γ) : select (l.map g) (l.map p) = (l.filter p).map g := by
  induction l with
  | nil => rfl
  | cons x xs ih => cases h : p x <;> simp [select, List.filter, h, ih]

theorem select_pure (p : α → Bool) (xs : List α) : select xs (xs.map p) = xs.filter p := by
  simpa using select_map id p xs

theorem select_sublist (xs : List α) (bs : List Bool) : (select xs bs).Sublist xs := by
  induction xs generalizing bs with
  | nil => cases bs <;> simp [select]
  | cons x xs ih =>
    cases bs with
    | nil => simp [select]
    | cons b bs =>
      cases b
      · simpa [select] using (ih bs).cons x
      · simpa [select] using (ih bs).cons_cons x

theorem select_imapFrom (p : Nat → α → Bool) (i : Nat) (xs : List α) :
    select xs (imapFrom p i xs) = ((enumFrom i xs).filter (fun e => p e.1 e.2)).map (·.2) := by
  rw [imapFrom_eq_map, ← select_map, enumFrom_map_snd]

theorem select_mapIdx (p : Nat → α → Bool) (xs : List α) :
    select xs (xs.mapIdx p) = (((List.range xs.length).zip xs).filter (fun e => p e.1 e.2)).map (·.2) := by
  rw [← imapFrom_eq_mapIdx, select_imapFrom, enumFrom_zero_eq_zip]

theorem somes_pure (f : α → Option β) (xs : List α) : somes (xs.map f) = xs.filterMap f := by
  induction xs with
  | nil => rfl
  | cons x xs ih => cases h : f x <;> simp [somes, h, ih]

theorem somes_imapFrom (f : Nat → α → Option β) (i : Nat) (xs : List α) :
    somes (imapFrom f i xs) = (enumFrom i xs).filterMap (fun e => f e.1 e.2) := by
  rw [imapFrom_eq_map, somes_pure]

theorem somes_mapIdx (f : Nat → α → Option β) (xs : List α) :
    somes (xs.mapIdx f) = ((List.range xs.length).zip xs).filterMap (fun e => f e.1 e.2) := by
  rw [← imapFrom_eq_mapIdx, somes_imapFrom, enumFrom_zero_eq_zip]

/-! ## the pipelines are `traverseIdx` followed by a selection

They make the same closure calls in the same order, in any lawful monad; so everything about call order and closure state is
proved for `traverseIdx` only. -/

section lawful
variable {m : Type → Type} [Monad m] [LawfulMonad m]

theorem filterIdxM_eq_traverse (f : Nat → α → m Bool) (i : Nat) (xs : List α) :
    filterIdxM f i xs = select xs <$> traverseIdx f i xs := by
  induction xs generalizing i with
  | nil => simp only [filterIdxM, traverseIdx, map_pure, select]
  | cons x xs ih => simp only [filterIdxM, traverseIdx, ih, map_bind, bind_map_left, map_pure, select]

theorem filterMapIdxM_eq_traverse (f : Nat → α → m (Option β)) (i : Nat) (xs : List α) :
    filterMapIdxM f i xs = somes <$> traverseIdx f i xs := by
  induction xs generalizing i with
  | nil => simp only [filterMapIdxM, traverseIdx, map_pure, somes]
  | cons x xs ih =>
    simp only [filterMapIdxM, traverseIdx, ih, map_bind, bind_map_left, map_pure]
    exact bind_congr fun r => by cases r <;> rfl

theorem forEachIdxM_eq_traverse (f : Nat → α → m Unit) (i : Nat) (xs : List α) :
    forEachIdxM f i xs = (fun _ => ()) <$> traverseIdx f i xs := by
  induction xs generalizing i with
  | nil => simp only [forEachIdxM, traverseIdx, map_pure]
  | cons x xs ih => simp only [forEachIdxM, traverseIdx, ih, map_eq_pure_bind, bind_assoc, pure_bind]

end lawful

/-! ## `traverseIdx` with an arbitrary stateful closure -/

theorem traverseIdx_cons_run (f : Nat → α → StateM σ β) (i : Nat) (x : α) (xs : List α) (s : σ) :
    (traverseIdx f i (x :: xs)).run s =
      (((f i x).run s).1 :: ((traverseIdx f (i + 1) xs).run ((f i x).run s).2).1,
       ((traverseIdx f (i + 1) xs).run ((f i x).run s).2).2) := rfl

theorem foldIdxM_cons_run (f : Nat → γ → α → StateM σ γ) (i : Nat) (acc : γ) (x : α) (xs : List α) (s : σ) :
    (foldIdxM f i acc (x :: xs)).run s =
      (foldIdxM f (i + 1) ((f i acc x).run s).1 xs).run ((f i acc x).run s).2 := rfl

theorem traverseIdx_state (f : Nat → α → StateM σ β) (i : Nat) (xs : List α) (s : σ) :
    ((traverseIdx f i xs).run s).2 = stateAfter f i s xs := by
  induction xs generalizing i s with
  | nil => rfl
  | cons x xs ih => rw [traverseIdx_cons_run]; simp only [stateAfter]; exact ih _ _

theorem traverseIdx_length (f : Nat → α → StateM σ β) (i : Nat) (xs : List α) (s : σ) :
    ((traverseIdx f i xs).run s).1.length = xs.length := by
  induction xs generalizing i s with
  | nil => rfl
  | cons x xs ih => rw [traverseIdx_cons_run]; simp [ih]

/-- position `p` of the result is the closure's answer on element `p`, evaluated in the state left by the calls on
elements `0 … p-1` in that order -/
theorem traverseIdx_getElem (f : Nat → α → StateM σ β) (i : Nat) (xs : List α) (s : σ) (p : Nat) (h : p < xs.length) :
    ((traverseIdx f i xs).run s).1[p]'(by rw [traverseIdx_length]; exact h) =
      ((f (i + p) xs[p]).run (stateAfter f i s (xs.take p))).1 := by
  induction xs generalizing i s p with
  | nil => simp at h
  | cons x xs ih =>
    cases p with
    | zero => simp [traverseIdx_cons_run, stateAfter]
    | succ p =>
      simp only [traverseIdx_cons_run, List.getElem_cons_succ, List.take_succ_cons, stateAfter]
      rw [ih (i + 1) _ p (by simpa using h)]
      congr 3; omega

/-- a recorder around a closure is transparent, and its record is what `rec` makes of the positions and elements of the
calls, in call order, each once -/
theorem traverseIdx_record {ρ : Type} (f : Nat → α → StateM σ β) (rec : Nat → α → ρ) (i : Nat) (xs : List α) (s : σ)
    (l : List ρ) :
    (traverseIdx (m := StateM (σ × List ρ)) (fun j x t => (((f j x).run t.1).1, (((f j x).run t.1).2, t.2 ++ [rec j x])))
        i xs).run (s, l) =
      (((traverseIdx f i xs).run s).1, (((traverseIdx f i xs).run s).2, l ++ imapFrom rec i xs)) := by
  induction xs generalizing i s l with
  | nil => exact congrArg (fun k => ([], (s, k))) (List.append_nil l).symm
  | cons x xs ih =>
    rw [traverseIdx_cons_run, traverseIdx_cons_run, ih]
    simp only [StateT.run, imapFrom, List.append_assoc, List.cons_append, List.nil_append]

theorem traverseIdx_logged (f : Nat → α → StateM σ β) (xs : List α) (s : σ) :
    (traverseIdx (logged f) 0 xs).run (s, []) =
      (((traverseIdx f 0 xs).run s).1, (((traverseIdx f 0 xs).run s).2, (List.range xs.length).zip xs)) := by
  rw [← enumFrom_zero_eq_zip]; exact traverseIdx_record f (fun j x => (j, x)) 0 xs s []

theorem traverseIdx_loggedPlain (f : α → StateM σ β) (xs : List α) (s : σ) :
    (traverseIdx (fun _ => loggedPlain f) 0 xs).run (s, []) =
      (((traverseIdx (fun _ => f) 0 xs).run s).1, (((traverseIdx (fun _ => f) 0 xs).run s).2, xs)) := by
  have h := traverseIdx_record (fun _ => f) (fun _ x => x) 0 xs s []
  rwa [imapFrom_const, List.map_id', List.nil_append] at h

theorem foldIdxM_loggedAcc (f : γ → α → StateM σ γ) (i : Nat) (acc : γ) (xs : List α) (s : σ) (l : List α) :
    (foldIdxM (fun _ => loggedAcc f) i acc xs).run (s, l) =
      (((foldIdxM (fun _ => f) i acc xs).run s).1, (((foldIdxM (fun _ => f) i acc xs).run s).2, l ++ xs)) := by
  induction xs generalizing i acc s l with
  | nil => exact congrArg (fun k => (acc, (s, k))) (List.append_nil l).symm
  | cons x xs ih =>
    rw [foldIdxM_cons_run, foldIdxM_cons_run]
    have hl : (loggedAcc f acc x).run (s, l) = (((f acc x).run s).1, (((f acc x).run s).2, l ++ [x])) := rfl
    rw [hl, ih, List.append_assoc]; rfl

/-- a stateful fold is `List.foldl` on (accumulator, closure state) pairs: strictly left to right -/
theorem foldIdxM_eq_foldl (f : γ → α → StateM σ γ) (i : Nat) (acc : γ) (xs : List α) (s : σ) :
    (foldIdxM (fun _ => f) i acc xs).run s = xs.foldl (fun (p : γ × σ) x => (f p.1 x).run p.2) (acc, s) := by
  induction xs generalizing i acc s with
  | nil => rfl
  | cons x xs ih => rw [foldIdxM_cons_run, ih]; rfl

/-! ## pure readings -/

theorem traverseIdx_pure (f : Nat → α → β) (i : Nat) (xs : List α) :
    traverseIdx (m := Id) (fun j x => pure (f j x)) i xs = pure (imapFrom f i xs) := by
  induction xs generalizing i with
  | nil => rfl
  | cons x xs ih => simp only [traverseIdx, imapFrom, ih, pure_bind]

theorem foldIdxM_pure (f : γ → α → γ) (i : Nat) (acc : γ) (xs : List α) :
    foldIdxM (m := Id) (fun _ a x => pure (f a x)) i acc xs = pure (xs.foldl f acc) := by
  induction xs generalizing i acc with
  | nil => rfl
  | cons x xs ih => simp only [foldIdxM, List.foldl_cons, ih, pure_bind]

/-! ## the funnels -/

theorem collect_ok (ys : List β) : collect ys = .ok ⟨ys, [ys.length]⟩ := by
  rw [collect, flat, Arr.new_of_prod List.prod_singleton]

theorem collect_reshape (ys : List β) (shape : List Nat) (h : shape.prod = ys.length) :
    (collect ys >>= fun c => reshape c shape) = .ok ⟨ys, shape⟩ := by
  rw [collect_ok, Res.bind_ok, reshape, if_pos h, Arr.new_of_prod h]

theorem collect_reshape_err (ys : List β) (shape : List Nat) (h : shape.prod ≠ ys.length) :
    (collect ys >>= fun c => reshape c shape) = .err .ShapeMustMatchValuesLength := by
  rw [collect_ok, Res.bind_ok, reshape, if_neg h]

theorem collect_ravel (ys : List β) : (collect ys >>= ravel) = .ok ⟨ys, [ys.length]⟩ := by
  rw [collect_ok, Res.bind_ok, ravel, flat, Arr.new_of_prod List.prod_singleton]

/-! ## the counter-stamping closures of the tie -/

/-- `tag` says what position, if any, the variant hands to the closure (`some` for the enumerating ones, `fun _ => none`
for the plain ones); started with the counter at the first position, call number and position agree throughout -/
theorem traverse_stamp (g : Nat → Option Nat → α → β) (tag : Nat → Option Nat) (i : Nat) (xs : List α) (l : List (Entry α)) :
    (traverseIdx (fun j => stamp g (tag j)) i xs).run (i, l) =
      (imapFrom (fun j x => g j (tag j) x) i xs,
       (i + xs.length, l ++ imapFrom (fun j x => ((j, tag j, x) : Entry α)) i xs)) := by
  induction xs generalizing i l with
  | nil => exact congrArg (fun k => ([], (i, k))) (List.append_nil l).symm
  | cons x xs ih =>
    rw [traverseIdx_cons_run]
    have hs : (stamp g (tag i) x).run (i, l) = (g i (tag i) x, (i + 1, l ++ [(i, tag i, x)])) := rfl
    rw [hs, ih]
    simp only [imapFrom, List.length_cons, List.append_assoc, List.cons_append, List.nil_append, Nat.add_assoc,
      Nat.add_comm 1]

theorem traverse_stamp_zero (g : Nat → Option Nat → α → β) (tag : Nat → Option Nat) (xs : List α) :
    (traverseIdx (fun j => stamp g (tag j)) 0 xs).run (0, []) =
      (xs.mapIdx (fun k x => g k (tag k) x), (xs.length, xs.mapIdx (fun k x => ((k, tag k, x) : Entry α)))) := by
  rw [traverse_stamp, imapFrom_eq_mapIdx, imapFrom_eq_mapIdx, Nat.zero_add, List.nil_append]

theorem fold_stamp (g : Nat → γ → α → γ) (i : Nat) (acc : γ) (xs : List α) (l : List (Entry α)) :
    (foldIdxM (fun _ => stampFold g) i acc xs).run (i, l) =
      ((enumFrom i xs).foldl (fun a e => g e.1 a e.2) acc,
       (i + xs.length, l ++ imapFrom (fun j x => ((j, none, x) : Entry α)) i xs)) := by
  induction xs generalizing i acc l with
  | nil => exact congrArg (fun k => (acc, (i, k))) (List.append_nil l).symm
  | cons x xs ih =>
    rw [foldIdxM_cons_run]
    have hs : (stampFold g acc x).run (i, l) = (g i acc x, (i + 1, l ++ [(i, none, x)])) := rfl
    rw [hs, ih]
    simp only [imapFrom, enumFrom, List.foldl_cons, List.length_cons, List.append_assoc, List.cons_append,
      List.nil_append, Nat.add_assoc, Nat.add_comm 1]

/-! ## running the array-level operations in `StateM` / `Id` -/

section plain
variable {m : Type → Type} [Monad m] (a : Arr α)

theorem mapM_eq_mapEM (f : α → m β) : mapM a f = mapEM a (fun _ => f) := rfl
theorem filterM_eq_filterEM (f : α → m Bool) : filterM a f = filterEM a (fun _ => f) := rfl
theorem filterMapM_eq_filterMapEM (f : α → m (Option β)) : filterMapM a f = filterMapEM a (fun _ => f) := rfl
theorem forEachM_eq_forEachEM (f : α → m Unit) : forEachM a f = forEachEM a (fun _ => f) := rfl

end plain

/-- the plain variants are, by definition, the enumerating variants with a closure that ignores the position -/
theorem plain_eq_enumerating {m : Type → Type} [Monad m] (a : Arr α) :
    (∀ f : α → m β, mapM a f = mapEM a (fun _ => f)) ∧
    (∀ f : α → m Bool, filterM a f = filterEM a (fun _ => f)) ∧
    (∀ f : α → m (Option β), filterMapM a f = filterMapEM a (fun _ => f)) ∧
    (∀ f : α → m Unit, forEachM a f = forEachEM a (fun _ => f)) :=
  ⟨mapM_eq_mapEM a, filterM_eq_filterEM a, filterMapM_eq_filterMapEM a, forEachM_eq_forEachEM a⟩

theorem mapEM_run (a : Arr α) (f : Nat → α → StateM σ β) (s : σ) :
    (mapEM a f).run s =
      ((collect ((traverseIdx f 0 a.elems).run s).1 >>= fun c => reshape c a.shape), ((traverseIdx f 0 a.elems).run s).2) := rfl

theorem filterEM_run (a : Arr α) (f : Nat → α → StateM σ Bool) (s : σ) :
    (filterEM a f).run s =
      ((collect (select a.elems ((traverseIdx f 0 a.elems).run s).1) >>= Iter.ravel), ((traverseIdx f 0 a.elems).run s).2) := by
  rw [filterEM, filterIdxM_eq_traverse]; rfl

theorem filterMapEM_run (a : Arr α) (f : Nat → α → StateM σ (Option β)) (s : σ) :
    (filterMapEM a f).run s =
      ((collect (somes ((traverseIdx f 0 a.elems).run s).1) >>= Iter.ravel), ((traverseIdx f 0 a.elems).run s).2) := by
  rw [filterMapEM, filterMapIdxM_eq_traverse]; rfl

theorem forEachEM_run (a : Arr α) (f : Nat → α → StateM σ Unit) (s : σ) :
    (forEachEM a f).run s = (.ok (), ((traverseIdx f 0 a.elems).run s).2) := by
  rw [forEachEM, forEachIdxM_eq_traverse]; rfl

theorem foldM_run (a : Arr α) (init : γ) (f : γ → α → StateM σ γ) (s : σ) :
    (foldM a init f).run s =
      (.ok ((foldIdxM (fun _ acc x => f acc x) 0 init a.elems).run s).1,
       ((foldIdxM (fun _ acc x => f acc x) 0 init a.elems).run s).2) := rfl

theorem mapE_unfold (a : Arr α) (f : Nat → α → β) :
    mapE a f = (collect (imapFrom f 0 a.elems) >>= fun c => reshape c a.shape) := by
  rw [mapE, mapEM, traverseIdx_pure]; rfl

theorem map_unfold (a : Arr α) (f : α → β) :
    map a f = (collect (a.elems.map f) >>= fun c => reshape c a.shape) := by
  rw [← imapFrom_const f 0]; exact mapE_unfold a (fun _ x => f x)

theorem map_ok (a : Arr α) (hwf : a.WF) (f : α → β) : map a f = .ok ⟨a.elems.map f, a.shape⟩ := by
  rw [map_unfold, collect_reshape _ _ (by rw [List.length_map]; exact hwf.symm)]

theorem filterE_unfold (a : Arr α) (p : Nat → α → Bool) :
    filterE a p = (collect (select a.elems (imapFrom p 0 a.elems)) >>= Iter.ravel) := by
  rw [filterE, filterEM, filterIdxM_eq_traverse, traverseIdx_pure]; rfl

theorem filterMapE_unfold (a : Arr α) (f : Nat → α → Option β) :
    filterMapE a f = (collect (somes (imapFrom f 0 a.elems)) >>= Iter.ravel) := by
  rw [filterMapE, filterMapEM, filterMapIdxM_eq_traverse, traverseIdx_pure]; rfl
end ArrModel.Iter
