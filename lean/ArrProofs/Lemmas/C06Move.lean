import Mathlib.Data.List.InsertIdx
import ArrProofs.Lemmas.AxisInv
/-! the axis order built by `moveaxis` (sorted insertion) is a permutation that puts `s[k]` at position `d[k]`
and leaves the other axes in ascending order; what `permute` by the orders of `rollaxis` and `swapaxes` does to a
coordinate vector; moving a single axis is rolling it -/
namespace ArrModel
variable {α : Type}

/-- the `for_each(|(d, s)| order.insert(d.min(order.len()), s))` loop -/
def insAll (o : List Nat) (L : List (Nat × Nat)) : List Nat :=
  L.foldl (fun o p => o.insertIdx (min p.1 o.length) p.2) o

theorem moveaxisOrder_eq (nd : Nat) (s d : List Nat) :
    Arr.moveaxisOrder nd s d = insAll ((List.range nd).filter (fun f => !s.contains f)) ((d.zip s).mergeSort pairLe) := rfl

theorem insAll_cons (o : List Nat) (p : Nat × Nat) (L : List (Nat × Nat)) :
    insAll o (p :: L) = insAll (o.insertIdx (min p.1 o.length) p.2) L := rfl

theorem insAll_length (L : List (Nat × Nat)) : ∀ o, (insAll o L).length = o.length + L.length := by
  induction L with
  | nil => intro o; rfl
  | cons p L ih =>
    intro o
    rw [insAll_cons, ih, List.length_insertIdx_of_le_length (Nat.min_le_right _ _), List.length_cons, Nat.add_right_comm,
      Nat.add_assoc]

/-- every pair's axis is inserted exactly once, whatever the positions -/
theorem insAll_perm (L : List (Nat × Nat)) : ∀ o, (insAll o L).Perm (L.map (·.2) ++ o) := by
  induction L with
  | nil => intro o; exact List.Perm.refl _
  | cons p L ih =>
    intro o
    rw [insAll_cons]
    refine (ih _).trans ?_
    have h := List.perm_insertIdx p.2 o (i := min p.1 o.length) (Nat.min_le_right _ _)
    simp only [List.map_cons, List.cons_append]
    exact (List.Perm.append_left _ h).trans List.perm_middle

/-- later insertions at larger positions do not move what sits below them -/
theorem insAll_getElem?_lt (L : List (Nat × Nat)) : ∀ (o : List Nat) (k : Nat), (∀ q ∈ L, k < q.1) → k < o.length →
    (insAll o L)[k]? = o[k]? := by
  induction L with
  | nil => intro o k _ _; rfl
  | cons p L ih =>
    intro o k hq hk
    rw [insAll_cons, ih _ k (fun q hq' => hq q (List.mem_cons_of_mem _ hq'))
      (by rw [List.length_insertIdx_of_le_length (Nat.min_le_right _ _)]; omega)]
    have := hq p List.mem_cons_self
    exact List.getElem?_insertIdx_of_lt (by omega)

/-- pairs inserted in strictly ascending destination order, none clamped: each axis sits at its destination -/
theorem insAll_at (L : List (Nat × Nat)) : ∀ (o : List Nat), L.Pairwise (fun p q => p.1 < q.1) →
    (∀ j (h : j < L.length), L[j].1 ≤ o.length + j) → ∀ p ∈ L, (insAll o L)[p.1]? = some p.2 := by
  induction L with
  | nil => intro o _ _ p hp; cases hp
  | cons q L ih =>
    intro o hs hb p hp
    have hq0 : q.1 ≤ o.length := hb 0 (Nat.zero_lt_succ _)
    have hl : (o.insertIdx q.1 q.2).length = o.length + 1 := List.length_insertIdx_of_le_length hq0 _
    rw [insAll_cons, Nat.min_eq_left hq0]
    rw [List.pairwise_cons] at hs
    rcases List.mem_cons.1 hp with rfl | hp'
    · rw [insAll_getElem?_lt L _ p.1 (fun r hr => hs.1 r hr) (by omega), List.getElem?_insertIdx_self, if_pos hq0]
    · refine ih _ hs.2 ?_ p hp'
      intro j hj
      have := hb (j + 1) (Nat.succ_lt_succ hj)
      rw [List.getElem_cons_succ] at this
      omega

/-- the inserted axes are invisible to a filter that rejects them -/
theorem filter_insertIdx_of_false (p : Nat → Bool) (a : Nat) (h : p a = false) : ∀ (i : Nat) (l : List Nat),
    (l.insertIdx i a).filter p = l.filter p
  | 0, l => by simp [h]
  | _ + 1, [] => by simp
  | i + 1, x :: l => by
    simp only [List.insertIdx_succ_cons, List.filter_cons, filter_insertIdx_of_false p a h i l]

theorem insAll_filter (p : Nat → Bool) (L : List (Nat × Nat)) : ∀ (o : List Nat), (∀ q ∈ L, p q.2 = false) →
    (insAll o L).filter p = o.filter p := by
  induction L with
  | nil => intro o _; rfl
  | cons q L ih =>
    intro o h
    rw [insAll_cons, ih _ (fun r hr => h r (List.mem_cons_of_mem _ hr)),
      filter_insertIdx_of_false p q.2 (h q List.mem_cons_self)]

/-! ### the sorted pair list -/

theorem pairLe_trans (a b c : Nat × Nat) : pairLe a b = true → pairLe b c = true → pairLe a c = true := by
  simp only [pairLe, Bool.or_eq_true, Bool.and_eq_true, decide_eq_true_eq, beq_iff_eq]
  omega

theorem pairLe_total (a b : Nat × Nat) : (pairLe a b || pairLe b a) = true := by
  simp only [pairLe, Bool.or_eq_true, Bool.and_eq_true, decide_eq_true_eq, beq_iff_eq]
  omega

/-- `sorted()` on the `(destination, source)` pairs: strictly ascending destinations when they are distinct -/
theorem sortedPairs_pairwise (s d : List Nat) (hd : d.Nodup) (hl : d.length ≤ s.length) :
    ((d.zip s).mergeSort pairLe).Pairwise (fun p q => p.1 < q.1) := by
  have h1 : ((d.zip s).mergeSort pairLe).Pairwise (fun p q => pairLe p q = true) :=
    List.pairwise_mergeSort pairLe_trans pairLe_total _
  have hfst : (((d.zip s).mergeSort pairLe).map (·.1)).Perm d := by
    have := (List.mergeSort_perm (d.zip s) pairLe).map (·.1)
    rwa [List.map_fst_zip hl] at this
  have h2 : (((d.zip s).mergeSort pairLe).map (·.1)).Nodup := hfst.symm.nodup hd
  rw [List.Nodup, List.pairwise_map] at h2
  refine (h1.and h2).imp ?_
  intro p q ⟨hle, hne⟩
  simp only [pairLe, Bool.or_eq_true, Bool.and_eq_true, decide_eq_true_eq, beq_iff_eq] at hle
  omega

/-- the sorted `(destination, source)` pairs still list every source once -/
theorem sortedPairs_snd_perm (s d : List Nat) (hl : s.length = d.length) :
    (((d.zip s).mergeSort pairLe).map (·.2)).Perm s := by
  have := (List.mergeSort_perm (d.zip s) pairLe).map (·.2)
  rwa [List.map_snd_zip (Nat.le_of_eq hl)] at this

/-- a strictly ascending list of naturals grows by at least one per step -/
theorem ascending_gap (l : List Nat) (h : l.Pairwise (· < ·)) (j : Nat) : ∀ (i : Nat) (hi : j + i < l.length),
    l[j]'(by omega) + i ≤ l[j + i]
  | 0, _ => Nat.le_refl _
  | i + 1, hi =>
    have h1 := ascending_gap l h j i (Nat.lt_of_succ_lt hi)
    have h2 := List.pairwise_iff_getElem.1 h (j + i) (j + i + 1) (Nat.lt_of_succ_lt hi) hi (Nat.lt_succ_self _)
    Nat.succ_le_of_lt (Nat.lt_of_le_of_lt h1 h2)

/-- the j-th smallest of m distinct destinations below `nd` is at most `(nd - m) + j`: the code's `min` never clamps -/
theorem ascending_bound (l : List Nat) (h : l.Pairwise (· < ·)) (N : Nat) (hN : ∀ x ∈ l, x < N) (j : Nat) (hj : j < l.length) :
    l[j] + (l.length - j) ≤ N := by
  have h1 := ascending_gap l h j (l.length - 1 - j) (by omega)
  have h2 := hN _ (List.getElem_mem (show j + (l.length - 1 - j) < l.length by omega))
  omega

/-- pairs with distinct destinations below `o.length + L.length`, inserted in ascending order: the `j`-th smallest
destination leaves room for the larger ones, so no insertion is clamped and each axis sits at its destination -/
theorem insAll_at_of_bounded (o : List Nat) (L : List (Nat × Nat)) (hs : L.Pairwise (fun p q => p.1 < q.1))
    (hb : ∀ p ∈ L, p.1 < o.length + L.length) : ∀ p ∈ L, (insAll o L)[p.1]? = some p.2 := by
  refine insAll_at L o hs fun j hj => ?_
  have := ascending_bound (L.map (·.1)) (List.pairwise_map.2 hs) (o.length + L.length)
    (fun x hx => have ⟨p, hp, e⟩ := List.mem_map.1 hx; e ▸ hb p hp) j (by rwa [List.length_map])
  simp only [List.getElem_map, List.length_map] at this
  omega

/-! ### unmoved axes -/

/-- the moved axes followed by the unmoved ones are all the axes -/
theorem source_append_rest_perm (nd : Nat) (s : List Nat) (hs : s.Nodup) (hb : ∀ x ∈ s, x < nd) :
    (s ++ (List.range nd).filter (fun f => !s.contains f)).Perm (List.range nd) := by
  have h1 : ((List.range nd).filter (fun f => s.contains f)).Perm s := by
    rw [List.perm_ext_iff_of_nodup (List.nodup_range.filter _) hs]
    intro a
    simp only [List.mem_filter, List.mem_range, List.contains_iff_mem]
    exact ⟨fun h => h.2, fun h => ⟨hb a h, h⟩⟩
  exact (List.Perm.append_right _ h1.symm).trans (List.filter_append_perm _ _)

/-! ### coordinate forms -/

/-- reading a permuted vector through a second axis list is reading through the composed list -/
theorem permute_permute (p o c : List Nat) (hp : ∀ x ∈ p, x < o.length) :
    permute p (permute o c) = permute (permute p o) c := by
  unfold permute
  rw [List.map_map]
  exact List.map_congr_left fun x hx =>
    (getD_permute o c x (hp x hx)).trans (congrArg (c.getD · 0) (getD_eq_getElem 0 (hp x hx)).symm)

theorem permute_range (c : List Nat) : permute (List.range c.length) c = c := map_getD_range c

/-- "remove coordinate `i`, re-insert it at position `j`" -/
theorem permute_rollaxisOrder (nd i j : Nat) (c : List Nat) (hc : c.length = nd) :
    permute (Arr.rollaxisOrder nd i j) c = (c.eraseIdx i).insertIdx j (c.getD i 0) := by
  subst hc
  unfold Arr.rollaxisOrder permute
  rw [List.map_insertIdx, ← List.eraseIdx_map, map_getD_range]

/-- exchanging coordinates `i` and `j` -/
theorem permute_swapOrder (nd i j : Nat) (c : List Nat) (hc : c.length = nd) (hi : i < nd) (hj : j < nd) :
    permute (Arr.swapOrder nd i j) c = (c.set i (c.getD j 0)).set j (c.getD i 0) := by
  subst hc
  apply List.ext_getElem
  · simp [permute, Arr.swapOrder]
  · intro k h1 h2
    have hk : k < c.length := by simpa [permute, Arr.swapOrder] using h1
    simp only [permute, Arr.swapOrder, List.getElem_map, List.getElem_range, List.getElem_set,
      List.getD_eq_getElem?_getD]
    by_cases e1 : k = i
    · subst e1
      by_cases e2 : j = k
      · subst e2; simp [hk]
      · simp [e2, hj]
    · by_cases e2 : k = j
      · subst e2; simp [hi, e1]
      · have e3 : ¬ j = k := fun h => e2 h.symm
        have e4 : ¬ i = k := fun h => e1 h.symm
        simp [e1, e2, e3, e4, hk]

/-- exchanging `i` and `j` twice changes nothing -/
theorem swap_involutive (i j : Nat) : Function.Involutive fun k => if k = i then j else if k = j then i else k := by
  intro k
  by_cases h1 : k = i
  · by_cases h2 : j = i <;> simp [h1, h2]
  · by_cases h2 : k = j
    · simp [h2]
    · simp [h1, h2]

/-- a coordinate statement about `permute o` reads the same with any `F` that agrees with `permute o` on the vectors
of length `a.ndim` -/
theorem permute_spec_congr {x : Res (Arr α)} {a : Arr α} {o : List Nat} (F : List Nat → List Nat)
    (hF : ∀ c, c.length = a.ndim → permute o c = F c)
    (h : ∃ r, x = .ok r ∧ r.shape = permute o a.shape ∧ r.WF ∧
      ∀ c, inRange a.shape c = true → r.get? (permute o c) = a.get? c) :
    ∃ r, x = .ok r ∧ r.shape = F a.shape ∧ r.WF ∧ ∀ c, inRange a.shape c = true → r.get? (F c) = a.get? c :=
  have ⟨r, g1, g2, g3, g4⟩ := h
  ⟨r, g1, g2.trans (hF _ rfl), g3, fun c hc => hF c (inRange_length _ _ hc) ▸ g4 c hc⟩

/-! ### reading an order at a set of positions (for `C06.moveaxisOrder_rest`, `C06.moveaxisOrder_inverse`) -/

/-- reading `o` at the positions selected by `p`, in ascending order, is filtering `o` by `q`, when `p` at a position
says what `q` says of the entry there -/
theorem permute_filter_range (o : List Nat) (p q : Nat → Bool) (h : ∀ i (hi : i < o.length), p i = q o[i]) :
    permute ((List.range o.length).filter p) o = o.filter q := by
  conv => rhs; rw [← map_getD_range o, List.filter_map]
  unfold permute
  congr 1
  apply List.filter_congr
  intro i hi
  have hi' : i < o.length := List.mem_range.1 hi
  rw [h i hi', Function.comp, getD_eq_getElem 0 hi']

/-- if `o₁` read at the positions `B` gives `A` and `o₂` read at the positions `A` gives `B`, then `o₁` undoes `o₂` on `A` -/
theorem getElem?_of_permute_cross {o₁ o₂ A B : List Nat} (hB : ∀ x ∈ B, x < o₁.length)
    (h1 : permute B o₁ = A) (h2 : permute A o₂ = B) {i : Nat} (hi : i ∈ A) : o₁[o₂.getD i 0]? = some i := by
  obtain ⟨t, ht, rfl⟩ := List.getElem_of_mem hi
  have ht' : t < B.length := by rw [← h2, permute_length]; exact ht
  have e2 : o₂.getD A[t] 0 = B[t] := by
    rw [← getD_permute A o₂ t ht, ← getD_eq_getElem 0 ht']; exact congrArg (·.getD t 0) h2
  have e1 : o₁.getD B[t] 0 = A[t] := by
    rw [← getD_permute B o₁ t ht', ← getD_eq_getElem 0 ht]; exact congrArg (·.getD t 0) h1
  rw [e2, List.getElem?_eq_getElem (hB _ (List.getElem_mem ht')), ← getD_eq_getElem 0, e1]

/-- a duplicate-free `o` that holds `s[k]` at position `d[k]` holds a member of `s` exactly at the members of `d` -/
theorem mem_iff_of_at (o s d : List Nat) (hn : o.Nodup) (hl : s.length = d.length)
    (hat : ∀ k (hk : k < s.length), o[d[k]'(hl ▸ hk)]? = some s[k]) (i : Nat) (hi : i < o.length) : o[i] ∈ s ↔ i ∈ d := by
  constructor
  · intro h
    obtain ⟨k, hk, e⟩ := List.getElem_of_mem h
    obtain ⟨_, e'⟩ := List.getElem?_eq_some_iff.1 (hat k hk)
    rw [← (List.Nodup.getElem_inj_iff hn).1 (e'.trans e)]
    exact List.getElem_mem _
  · intro h
    obtain ⟨k, hk, rfl⟩ := List.getElem_of_mem h
    rw [(List.getElem?_eq_some_iff.1 (hat k (hl ▸ hk))).2]
    exact List.getElem_mem _

/-! ### a single axis -/

theorem eraseIdx_range (nd i : Nat) (hi : i < nd) : (List.range nd).eraseIdx i = (List.range nd).erase i := by
  have h1 := List.nodup_range.idxOf_getElem i (Nat.lt_of_lt_of_eq hi List.length_range.symm)
  rw [List.getElem_range] at h1
  exact (List.erase_eq_eraseIdx_of_idxOf h1).symm

theorem filter_not_contains_singleton (nd i : Nat) (hi : i < nd) :
    (List.range nd).filter (fun f => ![i].contains f) = (List.range nd).eraseIdx i := by
  rw [eraseIdx_range nd i hi, List.nodup_range.erase_eq_filter]
  apply List.filter_congr
  intro x _
  by_cases h : x = i <;> simp [bne, h]

/-- moving one axis: the same order as `rollaxis`, a destination past the end meaning "last" -/
theorem moveaxisOrder_one (nd i j : Nat) (hi : i < nd) :
    Arr.moveaxisOrder nd [i] [j] = Arr.rollaxisOrder nd i (min j (nd - 1)) := by
  unfold Arr.moveaxisOrder Arr.rollaxisOrder
  simp only [List.zip_cons_cons, List.zip_nil_right, List.mergeSort_singleton, List.foldl_cons, List.foldl_nil]
  rw [filter_not_contains_singleton nd i hi, List.length_eraseIdx]
  simp [hi]

end ArrModel
