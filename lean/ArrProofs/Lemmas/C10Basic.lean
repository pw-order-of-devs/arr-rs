import ArrModel.C10
import ArrProofs.Lemmas.Res
/-!
# C10 lemmas, part 1 — order laws, sorted permutations are unique, `merge_sort`, `quick_sort`
-/
namespace ArrModel.Sort
open ArrModel

variable {α : Type}

/-- the comparison operators describe one linear order (what `i64`'s `PartialOrd`/`PartialEq` provide) -/
structure Cmp.Lawful (c : Cmp α) : Prop where
  le_total : ∀ a b, c.le a b = true ∨ c.le b a = true
  le_trans : ∀ a b d, c.le a b = true → c.le b d = true → c.le a d = true
  le_antisymm : ∀ a b, c.le a b = true → c.le b a = true → a = b
  lt_iff : ∀ a b, c.lt a b = !c.le b a
  beq_iff : ∀ a b, c.beq a b = true ↔ a = b
  not_nan : ∀ a, c.isNan a = false

theorem Cmp.int_lawful : Cmp.int.Lawful where
  le_total a b := by simp only [Cmp.int, decide_eq_true_eq]; omega
  le_trans a b d := by simp only [Cmp.int, decide_eq_true_eq]; omega
  le_antisymm a b := by simp only [Cmp.int, decide_eq_true_eq]; omega
  lt_iff a b := by
    simp only [Cmp.int]
    by_cases h : a < b
    · simp [h, Int.not_le.mpr h]
    · simp [h, Int.not_lt.mp h]
  beq_iff a b := by simp [Cmp.int]
  not_nan _ := rfl

/-- non-decreasing -/
abbrev Sorted (c : Cmp α) (l : List α) : Prop := l.Pairwise (fun a b => c.le a b = true)

namespace Cmp.Lawful
variable {c : Cmp α} (h : c.Lawful)
include h

theorem le_refl (a : α) : c.le a a = true := by
  rcases h.le_total a a with h | h <;> exact h

theorem le_of_lt {a b : α} (hl : c.lt a b = true) : c.le a b = true := by
  rw [h.lt_iff] at hl
  rcases h.le_total a b with h' | h'
  · exact h'
  · simp [h'] at hl

theorem le_of_not_lt {a b : α} (hl : c.lt a b = false) : c.le b a = true := by
  rw [h.lt_iff] at hl; simpa using hl

theorem not_le_of_lt {a b : α} (hl : c.lt a b = true) : c.le b a = false := by
  rw [h.lt_iff] at hl; simpa using hl

theorem lt_of_not_le {a b : α} (hl : c.le b a = false) : c.lt a b = true := by
  rw [h.lt_iff]; simp [hl]

theorem lt_trans {a b d : α} (h1 : c.lt a b = true) (h2 : c.lt b d = true) : c.lt a d = true := by
  apply h.lt_of_not_le
  cases hle : c.le d a
  · rfl
  · have := h.le_trans _ _ _ hle (h.le_of_lt h1)
    rw [h.not_le_of_lt h2] at this; cases this

theorem lt_of_le_of_ne {a b : α} (h1 : c.le a b = true) (h2 : a ≠ b) : c.lt a b = true := by
  apply h.lt_of_not_le
  cases hle : c.le b a
  · rfl
  · exact absurd (h.le_antisymm _ _ h1 hle) h2

theorem beq_refl (a : α) : c.beq a a = true := (h.beq_iff a a).2 rfl

theorem sorted_perm_unique {l₁ l₂ : List α} (h₁ : Sorted c l₁) (h₂ : Sorted c l₂) (p : l₁.Perm l₂) : l₁ = l₂ :=
  List.Perm.eq_of_pairwise (le := fun a b => c.le a b = true) (fun a b _ _ hab hba => h.le_antisymm a b hab hba) h₁ h₂ p

theorem sorted_mergeSort (l : List α) : Sorted c (l.mergeSort c.le) :=
  List.pairwise_mergeSort (le := c.le) (fun a b d => h.le_trans a b d)
    (fun a b => by rcases h.le_total a b with h' | h' <;> simp [h']) l

/-- the specification: THE sorted rearrangement of a lane -/
theorem eq_mergeSort_of_sorted_perm {l s : List α} (hs : Sorted c s) (p : s.Perm l) : s = l.mergeSort c.le :=
  h.sorted_perm_unique hs (h.sorted_mergeSort l) (p.trans (List.mergeSort_perm l c.le).symm)

end Cmp.Lawful

@[simp] theorem mergeLoop_nil_left (c : Cmp α) (r : List α) : mergeLoop c [] r = r := rfl

@[simp] theorem mergeLoop_nil_right (c : Cmp α) (l : List α) : mergeLoop c l [] = l := by
  induction l with
  | nil => rfl
  | cons a l ih => simp [mergeLoop, mergeAux, ih]

theorem mergeLoop_cons_cons (c : Cmp α) (a b : α) (l r : List α) :
    mergeLoop c (a :: l) (b :: r) =
      if c.lt a b then a :: mergeLoop c l (b :: r) else b :: mergeLoop c (a :: l) r := by
  simp only [mergeLoop, mergeAux]

theorem mergeLoop_perm (c : Cmp α) : ∀ (l r : List α), (mergeLoop c l r).Perm (l ++ r) := by
  intro l
  induction l with
  | nil => intro r; simp
  | cons a l ihl =>
    intro r
    induction r with
    | nil => simp
    | cons b r ihr =>
      rw [mergeLoop_cons_cons]
      split
      · exact (ihl (b :: r)).cons a
      · refine (ihr.cons b).trans ?_
        exact (List.perm_middle (a := b) (l₁ := a :: l) (l₂ := r)).symm

theorem mem_mergeLoop {c : Cmp α} {l r : List α} {x : α} : x ∈ mergeLoop c l r ↔ x ∈ l ∨ x ∈ r := by
  rw [(mergeLoop_perm c l r).mem_iff, List.mem_append]

theorem mergeLoop_sorted {c : Cmp α} (h : c.Lawful) : ∀ (l r : List α), Sorted c l → Sorted c r →
    Sorted c (mergeLoop c l r) := by
  intro l
  induction l with
  | nil => intro r _ hr; simpa using hr
  | cons a l ihl =>
    intro r
    induction r with
    | nil => intro hl _; simpa using hl
    | cons b r ihr =>
      intro hl hr
      rw [mergeLoop_cons_cons]
      have hl' := List.pairwise_cons.1 hl
      have hr' := List.pairwise_cons.1 hr
      cases hlt : c.lt a b
      · -- b first
        have hba := h.le_of_not_lt hlt
        simp only [Bool.false_eq_true, ↓reduceIte]
        refine List.pairwise_cons.2 ⟨?_, ihr hl hr'.2⟩
        intro x hx
        rcases mem_mergeLoop.1 hx with hx | hx
        · rcases List.mem_cons.1 hx with rfl | hx
          · exact hba
          · exact h.le_trans _ _ _ hba (hl'.1 x hx)
        · exact hr'.1 x hx
      · have hab := h.le_of_lt hlt
        simp only [↓reduceIte]
        refine List.pairwise_cons.2 ⟨?_, ihl (b :: r) hl'.2 hr⟩
        intro x hx
        rcases mem_mergeLoop.1 hx with hx | hx
        · exact hl'.1 x hx
        · rcases List.mem_cons.1 hx with rfl | hx
          · exact hab
          · exact h.le_trans _ _ _ hab (hr'.1 x hx)

theorem mergeSortF_perm (c : Cmp α) : ∀ (f : Nat) (xs : List α), (mergeSortF c f xs).Perm xs := by
  intro f
  induction f with
  | zero => intro xs; exact .refl _
  | succ f ih =>
    intro xs
    simp only [mergeSortF]
    split
    · exact .refl _
    · refine (mergeLoop_perm c _ _).trans ?_
      refine ((ih _).append (ih _)).trans ?_
      rw [List.take_append_drop]

theorem sorted_of_length_le_one (c : Cmp α) {xs : List α} (hx : xs.length ≤ 1) : Sorted c xs := by
  match xs, hx with
  | [], _ => exact List.Pairwise.nil
  | [x], _ => exact List.pairwise_singleton _ _

theorem mergeSortF_sorted {c : Cmp α} (h : c.Lawful) : ∀ (f : Nat) (xs : List α), xs.length ≤ f + 1 →
    Sorted c (mergeSortF c f xs) := by
  intro f
  induction f with
  | zero => intro xs hx; exact sorted_of_length_le_one c hx
  | succ f ih =>
    intro xs hx
    simp only [mergeSortF]
    split
    · next h1 => exact sorted_of_length_le_one c h1
    · next h1 =>
      apply mergeLoop_sorted h
      · apply ih; rw [List.length_take]; omega
      · apply ih; rw [List.length_drop]; omega

theorem mergeSort_perm (c : Cmp α) (xs : List α) : (mergeSort c xs).Perm xs := mergeSortF_perm c _ xs

theorem mergeSort_sorted {c : Cmp α} (h : c.Lawful) (xs : List α) : Sorted c (mergeSort c xs) :=
  mergeSortF_sorted h _ xs (Nat.le_succ _)

theorem quickSortF_perm (c : Cmp α) : ∀ (f : Nat) (xs : List α), (quickSortF c f xs).Perm xs := by
  intro f
  induction f with
  | zero => intro xs; exact .refl _
  | succ f ih =>
    intro xs
    simp only [quickSortF]
    split
    · exact .refl _
    · match xs with
      | [] => exact .refl _
      | pivot :: rest =>
        simp only
        refine ((ih _).append ((ih _).cons pivot)).trans ?_
        refine List.perm_middle.trans (List.Perm.cons _ ?_)
        exact List.filter_append_perm (fun it => c.lt it pivot) rest

theorem quickSortF_sorted {c : Cmp α} (h : c.Lawful) : ∀ (f : Nat) (xs : List α), xs.length ≤ f + 1 →
    Sorted c (quickSortF c f xs) := by
  intro f
  induction f with
  | zero => intro xs hx; exact sorted_of_length_le_one c hx
  | succ f ih =>
    intro xs hx
    simp only [quickSortF]
    split
    · next h1 => exact sorted_of_length_le_one c h1
    · match xs, hx with
      | [], _ => exact List.Pairwise.nil
      | pivot :: rest, hx =>
        simp only
        have hlen1 : (rest.filter (fun it => c.lt it pivot)).length ≤ f + 1 := by
          have := List.length_filter_le (fun it => c.lt it pivot) rest
          simp only [List.length_cons] at hx; omega
        have hlen2 : (rest.filter (fun it => !c.lt it pivot)).length ≤ f + 1 := by
          have := List.length_filter_le (fun it => !c.lt it pivot) rest
          simp only [List.length_cons] at hx; omega
        unfold Sorted
        rw [List.pairwise_append]
        refine ⟨ih _ hlen1, List.pairwise_cons.2 ⟨?_, ih _ hlen2⟩, ?_⟩
        · intro x hx'
          have hx'' := ((quickSortF_perm c f _).mem_iff).1 hx'
          have := (List.mem_filter.1 hx'').2
          exact h.le_of_not_lt (by simpa using this)
        · intro x hx' y hy
          have hx'' := (List.mem_filter.1 (((quickSortF_perm c f _).mem_iff).1 hx')).2
          have hxp : c.le x pivot = true := h.le_of_lt (by simpa using hx'')
          rcases List.mem_cons.1 hy with rfl | hy
          · exact hxp
          · have hy' := (List.mem_filter.1 (((quickSortF_perm c f _).mem_iff).1 hy)).2
            exact h.le_trans _ _ _ hxp (h.le_of_not_lt (by simpa using hy'))

theorem quickSort_perm (c : Cmp α) (xs : List α) : (quickSort c xs).Perm xs := quickSortF_perm c _ xs

theorem quickSort_sorted {c : Cmp α} (h : c.Lawful) (xs : List α) : Sorted c (quickSort c xs) :=
  quickSortF_sorted h _ xs (Nat.le_succ _)

end ArrModel.Sort
