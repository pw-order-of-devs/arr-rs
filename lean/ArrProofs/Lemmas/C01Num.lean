import ArrProofs.Lemmas.C01Core
import ArrProofs.Lemmas.C14
import ArrModel.C16
import ArrModel.C19Pipe
import ArrModel.C20
/-!
# Lemmas.C01Num — well-formedness of the results of the numeric layer
(operator overloads C20, structured constructors C16, products C14, bit packing C19).

Every `ok` exit either passes `Array::new` / `reshape` / `flat`, or builds the record literally; the literal
exits (`bitop`, `bitScalar`, `assignop`, `assignScalar`, `multiplyScalar`) are the ones where the
well-formedness of the operands is really used — `c20_assignScalar_needs_wf` and the `bypass_*_needs_wf` theorems of
`Props/C01` show that it cannot be dropped.
-/
namespace ArrModel.C01
open ArrModel Res

variable {α β : Type}

/-! ## C20 — operator overloads -/

theorem c20_newUnwrap_wf (elems : List α) (shape : List Nat) : All Arr.WF (C20.newUnwrap elems shape) := by
  unfold C20.newUnwrap
  split
  · exact All.ok (Arr.new_wf ‹_›)
  · exact All.panic

/-- `binop` goes through `Array::new`: no hypothesis at all -/
theorem c20_binop_wf (f : α → α → α) (a b : Arr α) : All Arr.WF (C20.binop f a b) :=
  All.ite' All.panic (c20_newUnwrap_wf _ a.shape)

theorem c20_scalarop_wf (f : α → α → α) (a : Arr α) (s : α) : All Arr.WF (C20.scalarop f a s) :=
  All.bind' fun _ => All.ite' (fun _ => Arr.new_wf) All.err

theorem c20_zipAssign_length (g : α → α → α) : ∀ (xs ys : List α), (C20.zipAssign g xs ys).length = xs.length
  | [], _ => by simp [C20.zipAssign]
  | _ :: _, [] => by simp [C20.zipAssign]
  | x :: xs, y :: ys => by simp [C20.zipAssign, c20_zipAssign_length g xs ys]

/-- the receiver keeps its length and its shape: only the receiver's well-formedness is used -/
theorem c20_assignop_wf (g : α → α → α) (a b : Arr α) (ha : a.WF) : All Arr.WF (C20.assignop g a b) :=
  All.ite' All.panic (All.ok ((c20_zipAssign_length g _ _).trans ha))

theorem c20_assignScalar_wf (g : α → α → α) (a : Arr α) (s : α) (ha : a.WF) : All Arr.WF (C20.assignScalar g a s) :=
  All.ok (List.length_map _ |>.trans ha)

theorem c20_unop_wf (f : α → α) (a : Arr α) : All Arr.WF (C20.unop f a) := c20_newUnwrap_wf _ a.shape

/-- struct literal: the `zip` is as long as the shorter operand, so BOTH operands must be well-formed -/
theorem c20_bitop_wf (f : α → α → α) (a b : Arr α) (ha : a.WF) (hb : b.WF) : All Arr.WF (C20.bitop f a b) := by
  refine All.ite (fun _ => All.panic) fun hs => All.ok ?_
  have hb' : b.elems.length = a.shape.prod := Decidable.not_not.mp hs ▸ hb
  have ha' : a.elems.length = a.shape.prod := ha
  simp only [Arr.WF, List.length_zipWith]
  omega

theorem c20_bitScalar_wf (f : α → α → α) (a : Arr α) (s : α) (ha : a.WF) : All Arr.WF (C20.bitScalar f a s) :=
  All.ok (List.length_map _ |>.trans ha)

theorem c20_bitAssign_wf (f : α → α → α) (a b : Arr α) (ha : a.WF) : All Arr.WF (C20.bitAssign f a b) :=
  c20_assignop_wf f a b ha

theorem c20_bitAssignScalar_wf (f : α → α → α) (a : Arr α) (s : α) (ha : a.WF) : All Arr.WF (C20.bitAssignScalar f a s) :=
  c20_assignScalar_wf f a s ha

/-! ### sharpness: the struct-literal operators really bypass `Array::new` -/

theorem c20_assignScalar_needs_wf : ∃ (a r : Arr Int), C20.assignScalar (· + ·) a 0 = .ok r ∧ ¬ r.WF :=
  ⟨⟨[1], [2]⟩, ⟨[1], [2]⟩, rfl, by decide⟩

/-! ## C16 — structured constructors (every exit is `Array::new` or `Array::flat`) -/

theorem c16_full_wf (shape : List Nat) (v : α) : All Arr.WF (C16.full shape v) := fun _ => Arr.new_wf

theorem c16_fullLike_wf (other : Arr α) (v : α) : All Arr.WF (C16.fullLike other v) := fun _ => Arr.new_wf

theorem c16_zeros_wf (shape : List Nat) : All Arr.WF (C16.zeros shape) := fun _ => Arr.new_wf

theorem c16_zerosLike_wf (other : Arr Int) : All Arr.WF (C16.zerosLike other) := fun _ => Arr.new_wf

theorem c16_ones_wf (shape : List Nat) : All Arr.WF (C16.ones shape) := fun _ => Arr.new_wf

theorem c16_onesLike_wf (other : Arr Int) : All Arr.WF (C16.onesLike other) := fun _ => Arr.new_wf

theorem c16_rand_wf (draw : Nat → α) (shape : List Nat) : All Arr.WF (C16.rand draw shape) := fun _ => Arr.new_wf

theorem c16_eye_wf (n : Nat) (m : Option Nat) (k : Option Nat) : All Arr.WF (C16.eye n m k) := fun _ => Arr.new_wf

theorem c16_identity_wf (n : Nat) : All Arr.WF (C16.identity n) := fun _ => Arr.new_wf

theorem c16_tri_wf (n : Nat) (m : Option Nat) (k : Option Int) : All Arr.WF (C16.tri n m k) := fun _ => Arr.new_wf

theorem c16_applyTriangular_wf (a : Arr Int) (k : Int) (compare : Int → Int → Int → Bool) :
    All Arr.WF (C16.applyTriangular a k compare) := by
  unfold C16.applyTriangular
  refine All.ite' All.err ?_
  dsimp only
  split
  · exact fun _ => Arr.new_wf
  · exact All.err
  · exact All.panic

theorem c16_tril_wf (a : Arr Int) (k : Option Int) : All Arr.WF (C16.tril a k) := c16_applyTriangular_wf a _ _

theorem c16_triu_wf (a : Arr Int) (k : Option Int) : All Arr.WF (C16.triu a k) := c16_applyTriangular_wf a _ _

theorem c16_diag_wf (a : Arr Int) (k : Option Int) : All Arr.WF (C16.diag a k) :=
  All.ite' All.err <| All.ite'
    (All.bind' fun _ => All.ite' All.err <| All.bind' fun _ _ => Arr.new_wf)
    (All.bind' fun _ => All.bind' fun _ => All.bind' fun _ _ => Arr.new_wf)

theorem c16_diagflat_wf (a : Arr Int) (k : Option Int) : All Arr.WF (C16.diagflat a k) := c16_diag_wf _ k

theorem c16_vander_wf (a : Arr Int) (n : Option Nat) (increasing : Option Bool) : All Arr.WF (C16.vander a n increasing) := by
  unfold C16.vander
  refine All.ite' All.err ?_
  split
  · exact fun _ => Arr.new_wf
  · exact All.err
  · exact All.panic

theorem c16_arange_wf (start stop : Rat) (step : Option Rat) : All Arr.WF (C16.arange start stop step) :=
  All.ite' All.err (All.ok (Arr.flat_wf _))

theorem c16_linspace_wf (start stop : Rat) (num : Option Nat) (endpoint : Option Bool) :
    All Arr.WF (C16.linspace start stop num endpoint) :=
  All.ok (Arr.flat_wf _)

theorem c16_macroZeros_wf (dims : List Nat) {r : Arr Int} (h : C16.macroZeros dims = .ok r) : r.WF :=
  c16_zeros_wf _ r h

theorem c16_macroOnes_wf (dims : List Nat) {r : Arr Int} (h : C16.macroOnes dims = .ok r) : r.WF :=
  c16_ones_wf _ r h

theorem c16_macroFull_wf (shape : List Nat) (v : α) {r : Arr α} (h : C16.macroFull shape v = .ok r) : r.WF :=
  c16_full_wf _ _ r h

theorem c16_macroEye_wf (n : Nat) (m : Option Nat) (k : Option Nat) {r : Arr Int}
    (h : C16.macroEye n m k = .ok r) : r.WF := c16_eye_wf _ _ _ r h

theorem c16_macroIdentity_wf (n : Nat) {r : Arr Int} (h : C16.macroIdentity n = .ok r) : r.WF :=
  c16_identity_wf _ r h

theorem c16_macroArange_wf (start stop : Rat) (step : Option Rat) {r : Arr Rat}
    (h : C16.macroArange start stop step = .ok r) : r.WF := c16_arange_wf _ _ _ r h

theorem c16_macroRand_wf (draw : Nat → α) (dims : List Nat) {r : Arr α}
    (h : C16.macroRand draw dims = .ok r) : r.WF := c16_rand_wf _ _ r h

/-! ## C14 — products (`reshape` / `flat` / a literal single-element array at every exit) -/

theorem c14_vdot_wf (a b : C14.A) : All Arr.WF (C14.vdot a b) := fun _ => C14.vdot_wf

theorem c14_outer_wf (a b : C14.A) : All Arr.WF (C14.outer a b) := fun _ => C14.reshape_wf

theorem c14_inner_wf (a b : C14.A) : All Arr.WF (C14.inner a b) :=
  All.ite' (All.bind' fun _ => All.ite' All.err (All.ok rfl)) <| All.bind' fun _ =>
    All.bind' fun _ => All.bind' fun _ => All.bind' fun _ => All.bind' fun _ => All.bind' fun _ _ => C14.reshape_wf

theorem c14_matmulIterate_wf (a b : C14.A) (_ha : a.WF) (_hb : b.WF) {r : C14.A}
    (h : C14.matmulIterate a b = .ok r) : r.WF :=
  All.bind' (fun _ => All.bind' fun _ => All.bind' fun _ => All.bind' fun _ _ => C14.reshape_wf) r h

theorem c14_matmul22_wf (a b : C14.A) (_ha : a.WF) (_hb : b.WF) {r : C14.A}
    (h : C14.matmul22 a b = .ok r) : r.WF := C14.matmul22_wf h

theorem c14_matmul1dNd_wf (fuel : Nat) (a b : C14.A) (_ha : a.WF) (_hb : b.WF) {r : C14.A}
    (h : C14.matmul1dNd fuel a b = .ok r) : r.WF := C14.matmul1dNd_wf fuel a b r h

theorem c14_matmulNd_wf (a b : C14.A) (_ha : a.WF) (_hb : b.WF) {r : C14.A}
    (h : C14.matmulNd a b = .ok r) : r.WF := C14.matmulNd_wf h

theorem c14_matmul_wf (a b : C14.A) : All Arr.WF (C14.matmul a b) :=
  All.ite' (c14_vdot_wf a b) <| All.ite' (All.bind' fun _ => C14.matmul1dNd_wf _ a b) <|
  All.ite' (fun _ => C14.matmul22_wf) (fun _ => C14.matmulNd_wf)

/-- literal record with the broadcast shape: here the well-formedness of both operands is used -/
theorem c14_multiplyScalar_wf (a b : C14.A) (ha : a.WF) (hb : b.WF) {r : C14.A}
    (h : C14.multiplyScalar a b = .ok r) : r.WF := C14.multiplyScalar_wf a b r ha hb h

theorem c14_dotIterate_wf (v1 v2 : List C14.A) (_h1 : AllWF v1) (_h2 : AllWF v2) {r : C14.A}
    (h : C14.dotIterate v1 v2 = .ok r) : r.WF := C14.dotIterate_wf h

theorem c14_dot1d_wf (a b : C14.A) (_ha : a.WF) (_hb : b.WF) {r : C14.A}
    (h : C14.dot1d a b = .ok r) : r.WF := C14.dot1d_wf h

theorem c14_dot_wf (a b : C14.A) (ha : a.WF) (hb : b.WF) : ∀ x ∈ C14.dot a b, All Arr.WF x :=
  forall_mem_ite (forall_mem_some (C14.multiplyScalar_wf a b · ha hb)) <|
  forall_mem_ite (forall_mem_some (c14_vdot_wf a b)) <|
  forall_mem_ite (forall_mem_some (All.bind' fun _ => c14_matmul_wf a b)) <|
  forall_mem_ite (forall_mem_ite (forall_mem_some fun _ => C14.dot1d_wf) nofun) nofun

/-- sharpness of `c14_multiplyScalar_wf`: an ill-formed one-element operand gives an ill-formed product -/
theorem c14_multiplyScalar_needs_wf : ∃ (a b r : C14.A), b.WF ∧ C14.multiplyScalar a b = .ok r ∧ ¬ r.WF :=
  ⟨⟨[1], [3]⟩, ⟨[1, 2], [2]⟩, ⟨[1, 2], [3]⟩, by decide, by decide, by decide⟩

/-! ## C19 — bit unpacking / packing -/

theorem c19_slice1_wf (xs : List Nat) (lo hi : Nat) : All Arr.WF (C19.slice1 xs lo hi) :=
  All.ite' All.err (All.ok (Arr.flat_wf _))

theorem c19_unpackFlatArr_wf (o : C19.BitOrder) (count : Option Int) (a : Arr Nat) : All Arr.WF (C19.unpackFlatArr o count a) :=
  All.ite' (c19_slice1_wf _ _ _) <| All.ite' All.err (c19_slice1_wf _ _ _)

theorem c19_packFlatArr_wf (o : C19.BitOrder) (a : Arr Nat) : All Arr.WF (C19.packFlatArr o a) :=
  All.bind' fun _ => All.ok (Arr.flat_wf _)

theorem prod_set_nat : ∀ (l : List Nat) (i m : Nat), i < l.length →
    (l.set i m).prod = (l.take i).prod * m * (l.drop (i + 1)).prod
  | [], _, _, h => by simp at h
  | _ :: ds, 0, m, _ => by simp
  | d :: ds, i + 1, m, h => by
    have := prod_set_nat ds i m (by simpa using h)
    simp only [List.set_cons_succ, List.prod_cons, List.take_succ_cons, List.drop_succ_cons, this, Nat.mul_assoc]

/-- the reference combinator builds its record literally, but the element list is laid out from the very numbers
(`outer`, `m`, `inner`) the shape is made of (`unlanes` pads/truncates each lane to `m`), so the result is
well-formed whatever the lanes' lengths are — stated in the shape of the `hal` hypothesis below -/
theorem c19_alongRef_wf (x : Arr Nat) (k : Nat) (f : Arr Nat → Res (Arr Nat)) (_hx : x.WF)
    (_hf : ∀ u, u.WF → All Arr.WF (f u)) : All Arr.WF (C19.alongRef x k f) := by
  unfold C19.alongRef
  refine All.ite (fun _ => All.err) fun hk => All.bind' fun rs => ?_
  split
  · exact All.panic
  · refine All.ok ?_
    simp only [Arr.WF, C19.unlanes, List.length_map, List.length_range]
    rw [prod_set_nat _ _ _ (by unfold Arr.ndim at hk; omega)]

theorem c19_alongPipe_wf (x : Arr Nat) (k : Nat) (f : Arr Nat → Res (Arr Nat)) (_hx : x.WF)
    (_hf : ∀ u, u.WF → All Arr.WF (f u)) : All Arr.WF (C19.alongPipe x k f) :=
  applyAlongAxis_wf x 0 0 k f

theorem c19_unpackBits_wf (along : C19.Along) (a : Arr Nat) (axis : Option Int) (count : Option Int)
    (order : Option C19.Spelling) (ha : a.WF)
    (hal : ∀ x k f, x.WF → (∀ u, u.WF → All Arr.WF (f u)) → All Arr.WF (along x k f)) :
    All Arr.WF (C19.unpackBits along a axis count order) := by
  -- order of the checks as of crate commit 97c65b7: bit order, axis, empty-array shortcut, arms
  unfold C19.unpackBits
  split
  · exact All.err
  · exact All.panic
  · split
    · exact All.err
    · exact All.panic
    · refine All.ite' (All.ok rfl) ?_
      cases axis
      · exact c19_unpackFlatArr_wf _ count a
      · exact hal a _ _ ha fun u _ => All.ite' (All.ok rfl) (c19_unpackFlatArr_wf _ count u)

theorem c19_packBits_wf (along : C19.Along) (a : Arr Nat) (axis : Option Int)
    (order : Option C19.Spelling) (ha : a.WF)
    (hal : ∀ x k f, x.WF → (∀ u, u.WF → All Arr.WF (f u)) → All Arr.WF (along x k f)) :
    All Arr.WF (C19.packBits along a axis order) := by
  unfold C19.packBits
  split
  · exact All.err
  · exact All.panic
  · split
    · exact All.err
    · exact All.panic
    · refine All.ite' (All.ok rfl) ?_
      cases axis
      · exact c19_packFlatArr_wf _ a
      · exact hal a _ _ ha fun u _ => All.ite' (All.ok rfl) (c19_packFlatArr_wf _ u)

theorem c19_unpackBits_pipe_wf (a : Arr Nat) (axis : Option Int) (count : Option Int)
    (order : Option C19.Spelling) (ha : a.WF) : All Arr.WF (C19.unpackBits C19.alongPipe a axis count order) :=
  c19_unpackBits_wf _ a axis count order ha c19_alongPipe_wf

theorem c19_packBits_pipe_wf (a : Arr Nat) (axis : Option Int) (order : Option C19.Spelling) (ha : a.WF) :
    All Arr.WF (C19.packBits C19.alongPipe a axis order) :=
  c19_packBits_wf _ a axis order ha c19_alongPipe_wf

theorem c19_unpackBits_ref_wf (a : Arr Nat) (axis : Option Int) (count : Option Int)
    (order : Option C19.Spelling) (ha : a.WF) {r : Arr Nat}
    (h : C19.unpackBits C19.alongRef a axis count order = .ok r) : r.WF :=
  c19_unpackBits_wf _ a axis count order ha c19_alongRef_wf r h

theorem c19_packBits_ref_wf (a : Arr Nat) (axis : Option Int) (order : Option C19.Spelling) (ha : a.WF)
    {r : Arr Nat} (h : C19.packBits C19.alongRef a axis order = .ok r) : r.WF :=
  c19_packBits_wf _ a axis order ha c19_alongRef_wf r h

end ArrModel.C01
