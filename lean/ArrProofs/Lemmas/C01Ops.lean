import ArrProofs.Lemmas.C01Struct
import ArrModel.C13
import ArrModel.Joining
import ArrModel.C05
import ArrModel.C04
/-!
# Lemmas.C01Ops — well-formedness of the results of `delete`/`insert`/`append`/`repeat`/`trim_zeros`,
the joining operations, the closure iteration funnels and the two-operand lifting patterns.
-/
namespace ArrModel.C01
open ArrModel Res

variable {α β γ δ : Type}

private theorem ops_splitAxis_wf (a : Arr α) (zero : α) (axis : Nat) (ha : a.WF)
    {r : List (Arr α)} (h : a.splitAxis zero axis = .ok r) : AllWF r := splitAxis_wf a zero axis ha r h

private theorem ops_atleast_wf (a : Arr α) (n : Nat) (ha : a.WF) {r : Arr α} (h : a.atleast n = .ok r) : r.WF :=
  atleast_wf a n ha r h

private theorem ops_broadcast_wf (a : Arr α) (b : Arr β) {r : Arr (α × β)} (h : a.broadcast b = .ok r) : r.WF :=
  broadcast_wf a b r h

private theorem ops_broadcastH2_wf (a : Arr α) (zero : α) (b : Arr β) {r : Arr α × Arr β}
    (h : a.broadcastH2 zero b = .ok r) : r.1.WF ∧ r.2.WF := broadcastH2_all a zero b r h

/-! ### `ArrModel/C13.lean` -/

theorem delete_wf (a : Arr α) (zero : α) (indices : List Nat) (axis : Option Nat) : All Arr.WF (a.delete zero indices axis) :=
  match axis with
  | none => All.ite' All.err (All.ok (Arr.flat_wf _))
  | some _ => applyAlongAxis_wf a zero zero _ _

theorem insertFlat_wf (a : Arr α) (indices : List Nat) (values : Arr α) : All Arr.WF (a.insertFlat indices values) :=
  All.ite' All.err <| All.ite' All.err <| All.ite' All.err <| All.bind' fun _ => All.bind' fun _ => All.ok (Arr.flat_wf _)

theorem appendFlat_wf (a values : Arr α) (_ha : a.WF) (_hv : values.WF) : (a.appendFlat values).WF := Arr.flat_wf _

theorem repeatFlat_wf (a : Arr α) (repeats : List Nat) : All Arr.WF (a.repeatFlat repeats) :=
  All.bind' fun _ => All.ok (Arr.flat_wf _)

theorem repeatAxis_wf (a : Arr α) (zero : α) (repeats : List Nat) (axis : Nat) : All Arr.WF (a.repeatAxis zero repeats axis) :=
  All.ite' All.err <| All.bind' fun _ => All.bind' fun _ => All.bind' fun _ => All.bind' fun _ => All.bind' fun _ _ =>
  Arr.reshape_wf

theorem trimZeros_wf [DecidableEq α] (a : Arr α) (zero : α) : All Arr.WF (a.trimZeros zero) :=
  All.ite' All.err (All.ok (Arr.flat_wf _))

/-! ### `ArrModel/Joining.lean` -/

theorem appendFlat'_wf (a v : Arr α) (_ha : a.WF) (_hv : v.WF) : (a.appendFlat' v).WF := Arr.flat_wf _

theorem appendAxis_wf (a v : Arr α) (zero : α) (axis : Nat) : All Arr.WF (a.appendAxis v zero axis) :=
  All.ite' All.err <| All.ite' All.err <| All.bind' fun _ => All.bind' fun _ => All.ite' All.err <|
  All.bind' fun _ => All.bind' fun _ => All.bind' fun _ => All.bind' fun _ => All.bind' fun _ => All.bind' fun _ _ =>
  Arr.reshape_wf

theorem append_wf (a v : Arr α) (zero : α) (axis : Option Nat) : All Arr.WF (a.append v zero axis) :=
  match axis with
  | none => All.ok (Arr.flat_wf _)
  | some ax => appendAxis_wf a v zero ax

/-- only the empty fold hands an operand on: every step answers with a result of `append` -/
theorem foldAppend_wf (a0 : Arr α) (rest : List (Arr α)) (zero : α) (axis : Option Nat) (ha : a0.WF) :
    All Arr.WF (Arr.foldAppend a0 rest zero axis) := by
  refine All.foldl_bind (fun b _ a _ => ?_) (All.ok ha)
  split
  · exact All.ok (append_wf a b zero axis _ ‹_›)
  · exact All.panic

theorem empty_wf : (Arr.empty : Arr α).WF := rfl

theorem concatenate_wf (arrs : List (Arr α)) (zero : α) (axis : Option Nat) (harrs : AllWF arrs) :
    All Arr.WF (Arr.concatenate arrs zero axis) :=
  match arrs with
  | [] => All.ok empty_wf
  | a0 :: rest => All.bind' fun _ => foldAppend_wf a0 rest zero axis (harrs a0 List.mem_cons_self)

theorem stack_wf (arrs : List (Arr α)) (zero : α) (axis : Option Nat) : All Arr.WF (Arr.stack arrs zero axis) :=
  All.ite' All.err <|
    match arrs with
    | [] => All.ok empty_wf
    | _ :: _ => All.ite' All.err <| All.bind' fun _ => All.bind' fun _ _ => Arr.reshape_wf

theorem vstack_wf (arrs : List (Arr α)) (zero : α) : All Arr.WF (Arr.vstack arrs zero) :=
  match arrs with
  | [] => All.ok empty_wf
  | _ :: _ => All.bind' fun _ => All.bind' fun _ => All.bind' fun _ _ => Arr.reshape_wf

theorem hstack_wf (arrs : List (Arr α)) (zero : α) (harrs : AllWF arrs) : All Arr.WF (Arr.hstack arrs zero) := by
  unfold Arr.hstack
  split
  · exact All.ok empty_wf
  · refine All.ite' (concatenate_wf arrs zero _ harrs) ?_
    exact All.bind' fun _ => All.bind' fun _ => All.bind' fun _ => All.bind' fun _ => All.bind' fun _ _ => Arr.reshape_wf

theorem dstack_wf (arrs : List (Arr α)) (zero : α) : All Arr.WF (Arr.dstack arrs zero) := by
  unfold Arr.dstack
  split
  · exact All.ok empty_wf
  · exact All.bind' fun _ => All.bind' fun _ => All.bind' fun _ => All.bind' fun _ => All.bind' fun _ _ => Arr.reshape_wf

theorem columnStack_wf (arrs : List (Arr α)) (zero : α) : All Arr.WF (Arr.columnStack arrs zero) :=
  match arrs with
  | [] => All.ok empty_wf
  | _ :: _ =>
    All.bind' fun _ => All.ite' All.err <| All.bind' fun _ => All.ite' All.err <| All.bind' fun _ _ => Arr.new_wf

theorem rowStack_wf (arrs : List (Arr α)) (zero : α) : All Arr.WF (Arr.rowStack arrs zero) := vstack_wf arrs zero

theorem hsplit_wf (a : Arr α) (zero : α) (parts : Nat) (ha : a.WF) : All AllWF (a.hsplit zero parts) :=
  All.ite' All.err <| All.ite' All.err <| All.ite' (split_wf a zero parts _ ha) (split_wf a zero parts _ ha)

theorem vsplit_wf (a : Arr α) (zero : α) (parts : Nat) (ha : a.WF) : All AllWF (a.vsplit zero parts) :=
  All.ite' All.err <| All.ite' All.err <| split_wf a zero parts _ ha

theorem dsplit_wf (a : Arr α) (zero : α) (parts : Nat) (ha : a.WF) : All AllWF (a.dsplit zero parts) :=
  All.ite' All.err <| All.ite' All.err <| split_wf a zero parts _ ha

/-! ### `ArrModel/C05.lean` (namespace `ArrModel.Iter`) -/

theorem iter_reshape_wf (a : Arr α) (shape : List Nat) : All Arr.WF (Iter.reshape a shape) :=
  All.ite' (fun _ => Arr.new_wf) All.err

theorem iter_ravel_wf (a : Arr α) : All Arr.WF (Iter.ravel a) := fun _ => Arr.new_wf

theorem iter_map_wf (a : Arr α) (f : α → β) : All Arr.WF (Iter.map a f) := All.bind' fun c => iter_reshape_wf c a.shape

theorem iter_mapE_wf (a : Arr α) (f : Nat → α → β) : All Arr.WF (Iter.mapE a f) :=
  All.bind' fun c => iter_reshape_wf c a.shape

theorem iter_filter_wf (a : Arr α) (p : α → Bool) : All Arr.WF (Iter.filter a p) := All.bind' iter_ravel_wf

theorem iter_filterE_wf (a : Arr α) (p : Nat → α → Bool) : All Arr.WF (Iter.filterE a p) := All.bind' iter_ravel_wf

theorem iter_filterMap_wf (a : Arr α) (f : α → Option β) : All Arr.WF (Iter.filterMap a f) := All.bind' iter_ravel_wf

theorem iter_filterMapE_wf (a : Arr α) (f : Nat → α → Option β) : All Arr.WF (Iter.filterMapE a f) :=
  All.bind' iter_ravel_wf

theorem iter_unary_wf (k : α → β) (a : Arr α) : All Arr.WF (Iter.unary k a) := iter_map_wf a k

theorem iter_zipSame_wf (a : Arr α) (b : Arr β) (_ha : a.WF) (_hb : b.WF) {r : Arr (α × β)}
    (h : Iter.zipSame a b = .ok r) : r.WF :=
  All.bind' (fun _ => All.bind' fun c => iter_reshape_wf c a.shape) r h

/-! ### `ArrModel/C04.lean` (namespace `ArrModel.C04`) -/

theorem c04_map1_wf (g : α → β) (a : Arr α) : All Arr.WF (C04.map1 g a) := fun _ => Arr.reshape_wf

theorem c04_zipWithB_wf (f : α → β → γ) (a : Arr α) (b : Arr β) : All Arr.WF (C04.zipWithB f a b) :=
  All.bind' fun _ _ => Arr.new_wf

theorem c04_zipWithR_wf (f : α → β → γ) (a : Arr α) (b : Arr β) : All Arr.WF (C04.zipWithR f a b) :=
  All.bind' fun z => c04_map1_wf _ z

theorem c04_divideLike_wf (isZero : β → Bool) (f : α → β → γ) (a : Arr α) (b : Arr β) :
    All Arr.WF (C04.divideLike isZero f a b) :=
  All.ite' All.err (c04_zipWithB_wf f a b)

theorem c04_floorDivideLike_wf (isZero : β → Bool) (f : α → β → γ) (post : γ → δ) (a : Arr α) (b : Arr β) :
    All Arr.WF (C04.floorDivideLike isZero f post a b) :=
  All.bind' fun q => c04_map1_wf post q

theorem c04_bitwiseLike_wf (f : α → β → γ) (a : Arr α) (b : Arr β) : All Arr.WF (C04.bitwiseLike f a b) :=
  All.ite' All.err (c04_zipWithB_wf f a b)

theorem c04_zipWithRA_wf (g : α → α) (k : β → β) (f : α → β → γ) (a : Arr α) (b : Arr β) :
    All Arr.WF (C04.zipWithRA g k f a b) :=
  All.bind' fun a' => All.bind' fun b' => c04_zipWithR_wf f a' b'

theorem c04_clipLike_wf (f : α → β → β → γ) (a : Arr α) (lo hi : Arr β) : All Arr.WF (C04.clipLike f a lo hi) :=
  All.bind' fun _ => All.bind' fun _ => All.bind' fun _ => All.bind' fun z => c04_map1_wf _ z

theorem c04_run_wf (p : C04.Pattern) (isZero : β → Bool) (f : α → β → γ) (a : Arr α) (b : Arr β)
    (ha : a.WF) (hb : b.WF) {r : Arr γ} (h : C04.Pattern.run p isZero f a b = .ok r) : r.WF := by
  cases p
  · exact c04_zipWithB_wf f a b r h
  · exact c04_divideLike_wf isZero f a b r h
  · exact c04_floorDivideLike_wf isZero f id a b r h
  · exact c04_bitwiseLike_wf f a b r h
  · exact c04_zipWithR_wf f a b r h
  · exact c04_zipWithRA_wf id id f a b r h

end ArrModel.C01
