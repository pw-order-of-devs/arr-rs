import ArrProofs.Lemmas.GenCoreAxis
/-!
# GenCoreAxisExact — exact-variant form of the `moveaxis` equivalence

NOT imported by any `Props` file: it depends on the order of the four validations of `moveaxis` (which error VARIANT is reported
when several fail), which no property speaks about.  `moveaxis_sim` in GenCoreAxis is the form the corollaries use.
-/
namespace ArrModel.Gen.Core
open ArrModel Arr
variable {α : Type}

/-- **`moveaxis` as translated from the source, with the hand-written `transpose` plugged in, is `Arr.moveaxis`** -/
theorem moveaxis_eq (a : Arr α) (zero : α) (src dst : List Int) :
    Array_moveaxis (fun x ax => x.transpose zero ax) a src dst = a.moveaxis zero src dst := by
  unfold Array_moveaxis Arr.moveaxis
  have ho := moveaxis_order a.ndim (src.map (normalizeAxis a.ndim)) (dst.map (normalizeAxis a.ndim)) _ (fun o p => rfl)
  simp only [is_unique_eq, is_equal_nat, normalize_axis_mapM, Res.bind_ok, ndim_eq, Rs.forM, Rs.umin, ho, Rs.map, Rs.toIsize]
  generalize a.transpose zero _ = t
  by_cases h1 : src.Nodup
  · by_cases h2 : src.length = dst.length
    · by_cases h3 : (src.map (normalizeAxis a.ndim)).Nodup
      · by_cases h4 : (dst.map (normalizeAxis a.ndim)).Nodup
        · simp [h1, h2, h3, h4]
        · simp [h1, h2, h3, h4]
      · simp [h1, h2, h3]
    · simp [h1, h2]
  · simp [h1]

end ArrModel.Gen.Core
