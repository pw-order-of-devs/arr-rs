import ArrProofs.Lemmas.C15Basic
/-!
# Lemmas for C15: Gram–Schmidt in exact arithmetic (the un-normalised vectors of `gram_schmidt`)
-/
namespace ArrModel.C15
open ArrModel

theorem dotV_eq_sum (n : Nat) (u v : List Rat) : dotV n u v = ∑ i ∈ Finset.range n, vget u i * vget v i :=
  sumTo_eq_sum n _

theorem dotV_comm (n : Nat) (u v : List Rat) : dotV n u v = dotV n v u := by
  rw [dotV_eq_sum, dotV_eq_sum]; exact Finset.sum_congr rfl fun i _ => mul_comm _ _

theorem dotV_congr (n : Nat) (u v v' : List Rat) (h : ∀ i, i < n → vget v i = vget v' i) :
    dotV n u v = dotV n u v' := by
  rw [dotV_eq_sum, dotV_eq_sum]
  exact Finset.sum_congr rfl fun i hi => by rw [h i (Finset.mem_range.1 hi)]

theorem vget_subProj (n : Nat) (a u : List Rat) (i : Nat) (hi : i < n) :
    vget (subProj n a u) i = vget a i - dotV n u a / dotV n u u * vget u i := by
  unfold subProj; rw [vget_map_range, if_pos hi]

theorem dotV_subProj (n : Nat) (w a u : List Rat) :
    dotV n w (subProj n a u) = dotV n w a - dotV n u a / dotV n u u * dotV n w u := by
  rw [dotV_eq_sum, dotV_eq_sum n w a, dotV_eq_sum n w u, Finset.mul_sum, ← Finset.sum_sub_distrib]
  refine Finset.sum_congr rfl fun i hi => ?_
  rw [vget_subProj n a u i (Finset.mem_range.1 hi)]; ring

/-- orthogonality of two vectors (in the first `n` coordinates) -/
def Orth (n : Nat) (u v : List Rat) : Prop := dotV n u v = 0

/-- reducing by vectors orthogonal to `w` does not change the product with `w` -/
theorem dotV_fold_of_orth (n : Nat) (w : List Rat) (us : Mat) (x : List Rat) (h : ∀ u ∈ us, dotV n w u = 0) :
    dotV n w (us.foldl (subProj n) x) = dotV n w x := by
  induction us generalizing x with
  | nil => rfl
  | cons u rest ih =>
    rw [List.foldl_cons, ih _ (fun u' hu' => h u' (List.mem_cons_of_mem _ hu')), dotV_subProj, h u List.mem_cons_self,
      mul_zero, sub_zero]

/-- after the inner loop the reduced column is orthogonal to every earlier vector -/
theorem fold_orth (n : Nat) (us : Mat) (x : List Rat) (hp : us.Pairwise (Orth n)) (hnz : ∀ u ∈ us, dotV n u u ≠ 0) :
    ∀ u ∈ us, dotV n u (us.foldl (subProj n) x) = 0 := by
  induction us generalizing x with
  | nil => intro u hu; exact absurd hu List.not_mem_nil
  | cons v rest ih =>
    intro u hu
    obtain ⟨hv, hrest⟩ := List.pairwise_cons.1 hp
    rw [List.foldl_cons]
    rcases List.mem_cons.1 hu with h | h
    · subst h
      rw [dotV_fold_of_orth n u rest _ (fun u' hu' => hv u' hu'), dotV_subProj,
        div_mul_cancel₀ _ (hnz u List.mem_cons_self), sub_self]
    · exact ih _ hrest (fun u' hu' => hnz u' (List.mem_cons_of_mem _ hu')) u h

/-- the column is recovered from the reduced column and its projections on the earlier vectors -/
theorem fold_expand (n : Nat) (us : Mat) (x : List Rat) (hp : us.Pairwise (Orth n)) (i : Nat) (hi : i < n) :
    vget x i = vget (us.foldl (subProj n) x) i +
      ∑ t ∈ Finset.range us.length, dotV n (us.getD t []) x / dotV n (us.getD t []) (us.getD t []) * vget (us.getD t []) i := by
  induction us generalizing x with
  | nil => rw [List.length_nil, Finset.sum_range_zero, add_zero]; rfl
  | cons v rest ih =>
    obtain ⟨hv, hrest⟩ := List.pairwise_cons.1 hp
    have hx : vget x i = vget (subProj n x v) i + dotV n v x / dotV n v v * vget v i := by
      rw [vget_subProj n x v i hi, sub_add_cancel]
    rw [hx, ih (subProj n x v) hrest, List.foldl_cons, List.length_cons, Finset.sum_range_succ', add_assoc]
    refine congrArg₂ (· + ·) rfl (congrArg₂ (· + ·) (Finset.sum_congr rfl fun t ht => ?_) rfl)
    -- the later vectors are orthogonal to `v`, so they see `x` and `x` reduced by `v` alike
    have hmem : rest.getD t [] ∈ rest := by
      rw [getD_eq_getElem _ (Finset.mem_range.1 ht)]; exact List.getElem_mem _
    rw [dotV_subProj, dotV_comm n (rest.getD t []) v, hv _ hmem, mul_zero, sub_zero]
    rfl

/-! ### the outer loop -/

theorem gramU_snoc (n : Nat) (cols : Mat) (x : List Rat) :
    gramU n (cols ++ [x]) = gramU n cols ++ [(gramU n cols).foldl (subProj n) x] := by
  rw [gramU, List.foldl_append]; rfl

theorem gramU_length (n : Nat) (cols : Mat) : (gramU n cols).length = cols.length := by
  induction cols using List.reverseRecOn with
  | nil => rfl
  | append_singleton cols x ih => rw [gramU_snoc, List.length_append, List.length_append, ih]; rfl

/-- the `c`-th vector is the `c`-th column reduced by the vectors before it -/
theorem gramU_getD (n : Nat) (cols : Mat) : ∀ c, c < cols.length →
    (gramU n cols).getD c [] = ((gramU n cols).take c).foldl (subProj n) (cols.getD c []) := by
  induction cols using List.reverseRecOn with
  | nil => intro c hc; exact absurd hc (Nat.not_lt_zero c)
  | append_singleton cols x ih =>
    intro c hc
    have hl := gramU_length n cols
    rw [gramU_snoc]
    simp only [List.getD_eq_getElem?_getD]
    rcases Nat.lt_or_ge c cols.length with h | h
    · rw [List.getElem?_append_left (hl ▸ h), List.getElem?_append_left h, List.take_append_of_le_length (hl ▸ le_of_lt h)]
      simpa only [List.getD_eq_getElem?_getD] using ih c h
    · have hc' : c = cols.length := Nat.le_antisymm (Nat.le_of_lt_succ (by rwa [List.length_append] at hc)) h
      rw [hc', List.getElem?_append_right (le_of_eq hl), hl, Nat.sub_self, List.getElem?_append_right (le_refl _),
        Nat.sub_self, List.take_left' hl]
      rfl

/-- **pairwise orthogonality** of the Gram–Schmidt vectors, when none of them vanishes -/
theorem gramU_pairwise (n : Nat) (cols : Mat) : (∀ u ∈ gramU n cols, dotV n u u ≠ 0) → (gramU n cols).Pairwise (Orth n) := by
  induction cols using List.reverseRecOn with
  | nil => intro _; exact List.Pairwise.nil
  | append_singleton cols x ih =>
    rw [gramU_snoc]
    intro hnz
    have hnz' : ∀ u ∈ gramU n cols, dotV n u u ≠ 0 := fun u hu => hnz u (List.mem_append_left _ hu)
    refine List.pairwise_append.2 ⟨ih hnz', List.pairwise_singleton _ _, fun u hu w hw => ?_⟩
    rw [List.mem_singleton.1 hw]
    exact fold_orth n _ _ (ih hnz') hnz' u hu

theorem gramU_getD_mem (n : Nat) (cols : Mat) {k : Nat} (hk : k < cols.length) :
    (gramU n cols).getD k [] ∈ gramU n cols := by
  rw [getD_eq_getElem _ (by rw [gramU_length]; exact hk)]
  exact List.getElem_mem _

theorem gramU_orth (n : Nat) (cols : Mat) (hnz : ∀ u ∈ gramU n cols, dotV n u u ≠ 0)
    (j k : Nat) (hj : j < cols.length) (hk : k < cols.length) (hjk : j ≠ k) :
    dotV n ((gramU n cols).getD j []) ((gramU n cols).getD k []) = 0 := by
  have hp := List.pairwise_iff_getElem.1 (gramU_pairwise n cols hnz)
  have hl := gramU_length n cols
  rw [getD_eq_getElem _ (hl.symm ▸ hj), getD_eq_getElem _ (hl.symm ▸ hk)]
  rcases Nat.lt_or_gt_of_ne hjk with h | h
  · exact hp j k (hl.symm ▸ hj) (hl.symm ▸ hk) h
  · rw [dotV_comm]; exact hp k j (hl.symm ▸ hk) (hl.symm ▸ hj) h

/-- every column is its own Gram–Schmidt vector plus its projections on the earlier ones -/
theorem column_expand (n : Nat) (cols : Mat) (hnz : ∀ u ∈ gramU n cols, dotV n u u ≠ 0)
    (c : Nat) (hc : c < cols.length) (i : Nat) (hi : i < n) :
    vget (cols.getD c []) i = vget ((gramU n cols).getD c []) i +
      ∑ t ∈ Finset.range c, dotV n ((gramU n cols).getD t []) (cols.getD c []) /
        dotV n ((gramU n cols).getD t []) ((gramU n cols).getD t []) * vget ((gramU n cols).getD t []) i := by
  have hlen : ((gramU n cols).take c).length = c := by
    rw [List.length_take, gramU_length]; exact Nat.min_eq_left (le_of_lt hc)
  have hget : ∀ t, t ∈ Finset.range c → ((gramU n cols).take c).getD t [] = (gramU n cols).getD t [] := fun t ht => by
    rw [List.getD_eq_getElem?_getD, List.getElem?_take, if_pos (Finset.mem_range.1 ht), ← List.getD_eq_getElem?_getD]
  rw [fold_expand n _ (cols.getD c []) ((gramU_pairwise n cols hnz).sublist (List.take_sublist c _)) i hi,
    ← gramU_getD n cols c hc, hlen]
  exact congrArg _ (Finset.sum_congr rfl fun t ht => by rw [hget t ht])

theorem dotV_expand (n : Nat) (v x w : List Rat) (c : Nat) (coef : Nat → Rat) (U : Nat → List Rat)
    (h : ∀ i, i < n → vget x i = vget w i + ∑ t ∈ Finset.range c, coef t * vget (U t) i) :
    dotV n v x = dotV n v w + ∑ t ∈ Finset.range c, coef t * dotV n v (U t) := by
  rw [dotV_eq_sum, dotV_eq_sum n v w]
  have : ∑ t ∈ Finset.range c, coef t * dotV n v (U t)
      = ∑ i ∈ Finset.range n, ∑ t ∈ Finset.range c, vget v i * (coef t * vget (U t) i) := by
    rw [Finset.sum_comm]
    refine Finset.sum_congr rfl fun t _ => ?_
    rw [dotV_eq_sum, Finset.mul_sum]
    exact Finset.sum_congr rfl fun i _ => by ring
  rw [this, ← Finset.sum_add_distrib]
  refine Finset.sum_congr rfl fun i hi => ?_
  rw [h i (Finset.mem_range.1 hi), mul_add, Finset.mul_sum]

/-- the product of the `k`-th Gram–Schmidt vector with column `c`: zero below the diagonal, the squared norm on it -/
theorem gram_dot_column (n : Nat) (cols : Mat) (hnz : ∀ u ∈ gramU n cols, dotV n u u ≠ 0)
    (k c : Nat) (hk : k < cols.length) (hc : c < cols.length) (hck : c ≤ k) :
    dotV n ((gramU n cols).getD k []) (cols.getD c []) =
      if c = k then dotV n ((gramU n cols).getD k []) ((gramU n cols).getD k []) else 0 := by
  rw [dotV_expand n _ _ _ c _ _ (fun i hi => column_expand n cols hnz c hc i hi), Finset.sum_eq_zero, add_zero]
  · by_cases h : c = k
    · rw [if_pos h, h]
    · rw [if_neg h]; exact gramU_orth n cols hnz k c hk hc (Ne.symm h)
  · intro t ht
    have htc := Finset.mem_range.1 ht
    rw [gramU_orth n cols hnz k t hk (Nat.lt_trans htc hc) (Nat.ne_of_gt (Nat.lt_of_lt_of_le htc hck)), mul_zero]

/-! ### reading `qrMat` -/

theorem qr_nonzero_of (n : Nat) (a : Mat) (hnz : (0 : Rat) ∉ (qrMat n a).nrm2) :
    ∀ u ∈ gramU n (columns n a), dotV n u u ≠ 0 := by
  intro u hu h0
  apply hnz
  show (0 : Rat) ∈ (gramU n (columns n a)).map fun u => dotV n u u
  exact List.mem_map.2 ⟨u, hu, h0⟩

theorem columns_length (n : Nat) (a : Mat) : (columns n a).length = n := build_length _ _ _

theorem vget_column (n : Nat) (a : Mat) {c i : Nat} (hc : c < n) (hi : i < n) :
    vget ((columns n a).getD c []) i = entry a i c := by
  rw [columns, build_getD _ _ _ _ hc, vget_map_range, if_pos hi]

theorem entry_ru (n : Nat) (a : Mat) {k c : Nat} (hk : k < n) (hc : c < n) :
    entry (qrMat n a).ru k c = dotV n ((gramU n (columns n a)).getD k []) ((columns n a).getD c []) :=
  entry_build_lt _ hk hc

theorem vget_nrm2 (n : Nat) (a : Mat) (k : Nat) (hk : k < n) :
    vget (qrMat n a).nrm2 k = dotV n ((gramU n (columns n a)).getD k []) ((gramU n (columns n a)).getD k []) := by
  show vget ((gramU n (columns n a)).map fun u => dotV n u u) k = _
  have hl : k < (gramU n (columns n a)).length := by rw [gramU_length, columns_length]; exact hk
  rw [vget, List.getD_eq_getElem?_getD, List.getElem?_map, List.getElem?_eq_getElem hl, getD_eq_getElem _ hl]; rfl

end ArrModel.C15
