import ArrProofs.Lemmas.C01Machine
/-!
# Lemmas.C01Ext — well-formedness of the results of `slice` / `indices_at` (`ArrModel/IndexExt.lean`), of `dot` with an
operand of rank ≥ 3 (`ArrModel/C14Ext.lean`), of `clip` with a missing bound and of the string-array operations
(`ArrModel/C17Lift.lean`).  One lemma `c01x_…_wf` per operation, the string ones named after the constructor of `Op` that runs
them; `strArr_wf` / `blankArr_wf` are the element-type bridges of the string constructors.
-/
namespace ArrModel.C01
open ArrModel Res

variable {α β γ δ : Type}

/-! ## indexing -/

/-- `slice`: the exits are `flat`, the receiver itself (here its well-formedness is used) and `Array::new` -/
theorem c01x_slice_wf (a : Arr α) (start stop : Nat) (ha : a.WF) : All Arr.WF (a.slice start stop) :=
  All.ite' All.err <| All.ite' (All.bind' fun _ => All.ok (Arr.flat_wf _)) <|
  All.bind' fun _ => All.ite' (All.ok ha) <|
  All.bind' fun _ => All.ite' All.err <| All.ite' All.panic <|
  All.bind' fun _ _ => Arr.new_wf

/-- `indices_at`: the exits are `flat`, `Array::new` and `reshape` -/
theorem c01x_indicesAt_wf (a : Arr α) (indices : List Nat) : All Arr.WF (a.indicesAt indices) :=
  All.ite'
    (All.ite' All.err <| All.bind' fun _ => All.ok (Arr.flat_wf _))
    (All.ite' All.err <| All.bind' fun _ => All.ite' All.err <| All.ite' (fun _ => Arr.new_wf) <| All.bind' fun _ _ => Arr.reshape_wf)

/-! ## `dot`, every arm -/

/-- a `do` block with two `if`s in binding position: the rest of the block sits in both branches of each -/
theorem c01x_dot1dNd_wf (a b : C14.A) : All Arr.WF (C14.dot1dNd a b) :=
  have last (v1 v2 : List C14.A) : All Arr.WF (C14.dotIterate v1 v2) := fun _ => C14.dotIterate_wf
  All.ite' (All.bind' fun v1 => All.ite' (All.bind' (last v1)) (All.bind' (last v1)))
    (All.bind' fun v1 => All.ite' (All.bind' (last v1)) (All.bind' (last v1)))

/-- `dot_nd` ends in `transpose` of a `reshape` -/
theorem c01x_dotNd_wf (a b : C14.A) : All Arr.WF (C14.dotNd a b) :=
  All.bind' fun _ => All.bind' fun _ => All.bind' fun _ => All.bind' fun _ => All.bind' fun _ => All.bind' fun _ =>
  All.bind' fun r => transpose_wf r 0 _

/-- `dot` on operands of any rank (the arms of `C14.dot`, `dot_1d` on a stack, `dot_nd`) -/
theorem c01x_dotFull_wf (a b : C14.A) (ha : a.WF) (hb : b.WF) : All Arr.WF (C14.dotFull a b) := by
  unfold C14.dotFull
  split
  · exact c14_dot_wf a b ha hb _ ‹_›
  · exact All.ite' (c01x_dot1dNd_wf a b) (c01x_dotNd_wf a b)

/-! ## `clip` with a missing bound -/

theorem c01x_clipBound_wf (a : A) (ha : a.WF) (b : Option A) (hb : ∀ x, b = some x → x.WF) {r : A}
    (h : clipBound a b = .ok r) : r.WF := by
  cases b with
  | some x => exact All.ok (hb x rfl) r h
  | none => exact reduceAxis_wf a 0 0 none _ ha (fun x _ => extremeBody_wf x) r h

/-- the bounds reach the zip through `broadcast_to`, so nothing is asked of them -/
theorem c01x_clipOpt_wf (a : A) (lo hi : Option A) : All Arr.WF (clipOptArr a lo hi) :=
  All.bind' fun _ => All.bind' fun lo' => All.bind' fun _ => All.bind' fun hi' => c04_clipLike_wf _ a lo' hi'

/-! ## the string-array operations: every lifting shape of `ArrModel/C17Lift.lean` rebuilds through `Array::new` -/

theorem strArr_wf {a : A} (h : a.WF) : (strArr a).WF := (List.length_map _).trans h
theorem blankArr_wf (a : Arr β) (h : a.WF) : (blankArr a).WF := (List.length_map _).trans h

theorem c01x_lift1_wf (f : α → β) (a : Arr α) : All Arr.WF (C17.lift1 f a) := fun _ => Arr.new_wf

theorem c01x_lift2_wf (B : C17.Bcast) (f : α → β → γ) (a : Arr α) (b : Arr β) : All Arr.WF (C17.lift2 B f a b) :=
  All.bind' fun _ _ => Arr.new_wf

theorem c01x_lift2h_wf (B : C17.Bcast) (z : α) (f : α → β → γ) (a : Arr α) (b : Arr β) : All Arr.WF (C17.lift2h B z f a b) :=
  All.bind' fun _ _ => Arr.new_wf

theorem c01x_lift3h_wf (B : C17.Bcast) (z : α) (f : α → β → γ → δ) (a : Arr α) (b : Arr β) (c : Arr γ) :
    All Arr.WF (C17.lift3h B z f a b c) :=
  All.bind' fun _ _ => Arr.new_wf

theorem c01x_lift3_wf (B : C17.Bcast) (f : α → α → α → β) (a b c : Arr α) : All Arr.WF (C17.lift3 B f a b c) :=
  All.bind' fun _ => All.bind' fun _ => All.bind' fun _ => All.bind' fun _ => All.bind' fun _ _ => Arr.new_wf

theorem c01x_liftSplit_wf (B : C17.Bcast) (f : α → α → Option Nat → β) (a sep : Arr α) (m : Option (Arr Nat)) :
    All Arr.WF (C17.liftSplit B f a sep m) :=
  All.bind' fun _ => All.bind' fun _ => All.bind' fun _ _ => Arr.new_wf

/-- `Op.strUnary` runs `capitalize` for every one-operand string operation (each is a `lift1`) -/
theorem c01x_strUnary_wf (a : C17.SArr) : All Arr.WF (C17.capitalizeA a) := c01x_lift1_wf _ a

/-- `Op.strBinary` runs `add` for every two-string operation (each is a `lift2`) -/
theorem c01x_strBinary_wf (B : C17.Bcast) (a b : C17.SArr) : All Arr.WF (C17.add B a b) := c01x_lift2_wf B _ a b

/-- `strip` = `lstrip` then `rstrip` -/
theorem c01x_strStrip_wf (B : C17.Bcast) (a : C17.SArr) (c : Option C17.SArr) : All Arr.WF (C17.stripA B a c) :=
  All.bind' fun l => c01x_lift2_wf B _ l _

theorem c01x_strCompare_wf (B : C17.Bcast) (a b : C17.SArr) (op : C17.Str) : All Arr.WF (C17.compareA B a b op) :=
  All.bind' fun _ => c01x_lift2_wf B _ a b

theorem c01x_strMultiply_wf (B : C17.Bcast) (a : C17.SArr) (n : Arr Nat) : All Arr.WF (C17.multiplyA B a n) :=
  c01x_lift2h_wf B _ _ a n

theorem c01x_strSplitlines_wf (B : C17.Bcast) (a : C17.SArr) (k : Option (Arr Bool)) : All Arr.WF (C17.splitlinesA B a k) :=
  c01x_lift2h_wf B _ _ a _

/-- `Op.strPad` runs `center` for `center` / `ljust` / `rjust` (each is a `lift3h`) -/
theorem c01x_strPad_wf (B : C17.Bcast) (a : C17.SArr) (w : Arr Nat) (fill : Option (Arr Char)) :
    All Arr.WF (C17.centerA B a w fill) :=
  c01x_lift3h_wf B _ _ a w _

theorem c01x_strSplit_wf (a : A) (sep : Option A) (m : Option Nat) : All Arr.WF (strSplitArr a sep m) :=
  All.map ((c01x_liftSplit_wf _ _ _ _ _).imp blankArr_wf)

theorem c01x_strReplace_wf (B : C17.Bcast) (a o n : C17.SArr) (cnt : Option Nat) : All Arr.WF (C17.replaceA B a o n cnt) :=
  c01x_lift3_wf B _ a o n

end ArrModel.C01
