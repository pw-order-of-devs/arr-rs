import ArrProofs.Lemmas.C13List
/-!
# C13: `delete` along an axis (through `apply_along_axis`): the lane-wise result, the out-of-bounds rejection, the empty lane
-/
namespace ArrModel
open Arr
variable {α β : Type}

/-- `delete(indices, Some(axis))`: the result exists, has the axis cut to the number of kept positions, and reads every
lane with the requested positions removed -/
theorem Arr.delete_axis_keep (a : Arr α) (zero : α) (idxs : List Nat) (axis : Nat)
    (hwf : a.WF) (hax : axis < a.ndim) (hnz : 0 ∉ a.shape) (hb : ∀ i ∈ idxs, i < a.shape.getD axis 0) :
    ∃ r, a.delete zero idxs (some axis) = .ok r ∧
      r.shape = a.shape.set axis (keptIdx (a.shape.getD axis 0) idxs).length ∧ r.WF ∧
      ∀ c, inRange r.shape c = true →
        (Arr.flat (laneOf a axis c)).deleteFlat idxs = .ok (Arr.flat (keepPositions (laneOf a axis c) idxs)) ∧
        r.get? c = (keepPositions (laneOf a axis c) idxs)[c.getD axis 0]? := by
  have hf : ∀ lane : List α, lane.length = a.shape.getD axis 0 →
      (Arr.flat lane).deleteFlat idxs = .ok (Arr.flat (keepPositions lane idxs)) := fun lane hl =>
    Arr.deleteFlat_ok (Arr.flat lane) idxs (fun i hi => hl ▸ hb i hi)
  obtain ⟨r, h1, h2, h3, h4⟩ := applyAlongAxis_spec a zero zero axis (keptIdx (a.shape.getD axis 0) idxs).length
    (fun lane => lane.deleteFlat idxs) hwf hax hnz
    (fun lane hl => ⟨_, hf lane hl, (keepPositions_length_keptIdx lane idxs).trans (by rw [hl])⟩)
  refine ⟨r, h1, h2, h3, fun c hc => ?_⟩
  have hll := laneOf_length a axis _ c hwf (h2 ▸ hc)
  obtain ⟨y, hy1, hy2⟩ := h4 c hc
  rw [hf _ hll] at hy1
  cases hy1
  exact ⟨hf _ hll, hy2⟩

theorem Arr.delete_axis_oob (a : Arr α) (zero : α) (idxs : List Nat) (axis : Nat)
    (hwf : a.WF) (hax : axis < a.ndim) (hnz : 0 ∉ a.shape) (hb : ∃ i ∈ idxs, a.shape.getD axis 0 ≤ i) :
    a.delete zero idxs (some axis) = .err .OutOfBounds := by
  have hP : 0 < (a.shape.eraseIdx axis).prod := prod_pos_of_not_mem _ (not_mem_eraseIdx _ _ hnz)
  have hn : 0 < a.shape.getD axis 0 := getD_mem_pos _ _ hax hnz
  obtain ⟨arr, ha1, ha2, ha3, _⟩ := moveLast_spec a zero axis hwf hax
  have hL : arr.elems.length = (a.shape.eraseIdx axis).prod * a.shape.getD axis 0 := by
    rw [ha3, ha2]; simp [List.prod_append]
  have hsplit := split_flat_even arr.elems zero _ _ hP hn hL
  show a.applyAlongAxis zero zero axis (fun lane => lane.deleteFlat idxs) = _
  unfold Arr.applyAlongAxis
  rw [if_neg (by omega)]
  simp only [ha1, Res.bind_ok, Arr.ravel, hsplit]
  rw [Res.mapM'_first_err _ .OutOfBounds]
  · rfl
  · intro h
    have := congrArg List.length h
    simp at this; omega
  · intro x hx
    simp only [List.mem_map, List.mem_range] at hx
    obtain ⟨k, hk, rfl⟩ := hx
    apply Arr.deleteFlat_err
    obtain ⟨i, hi, hle⟩ := hb
    refine ⟨i, hi, ?_⟩
    show ((arr.elems.drop (k * a.shape.getD axis 0)).take (a.shape.getD axis 0)).length ≤ i
    rw [List.length_take]; omega

theorem deleteFlat_nil (idxs : List Nat) :
    (Arr.flat ([] : List α)).deleteFlat idxs = if idxs = [] then .ok (Arr.flat []) else .err .OutOfBounds := by
  by_cases h : idxs = []
  · subst h
    rw [if_pos rfl, Arr.deleteFlat_ok _ _ (by simp)]; rfl
  · rw [if_neg h]
    obtain ⟨i, hi⟩ := List.exists_mem_of_ne_nil _ h
    exact Arr.deleteFlat_err _ idxs ⟨i, hi, Nat.zero_le _⟩

end ArrModel
