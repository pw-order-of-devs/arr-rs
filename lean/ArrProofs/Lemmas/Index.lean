import ArrModel.Index
/-! `ravel` and `unravel` are mutually inverse between the in-range coordinate vectors of a shape and the positions below
its element count, so coordinates determine a well-formed array (`Arr.ext_get`); the folds of `index_at` and `index_to_coord`
compute them.  The file opens with the list facts (`getD`, uniform `flatMap`) and closes with the shape facts (products, zero axes,
appended shapes) that several properties share. -/
namespace ArrModel

theorem getD_eq_getElem {β : Type} {l : List β} {i : Nat} (d : β) (h : i < l.length) : l.getD i d = l[i] :=
  (List.getElem_eq_getD d).symm

theorem getD_set_self (c : List Nat) (i j : Nat) (h : i < c.length) : (c.set i j).getD i 0 = j := by
  rw [List.getD_eq_getElem?_getD, List.getElem?_set_self h]
  rfl

theorem set_getD_self (c : List Nat) (i : Nat) : c.set i (c.getD i 0) = c := by
  by_cases h : i < c.length
  · simp [List.getD_eq_getElem?_getD, h]
  · exact List.set_eq_of_length_le (by omega)

theorem getD_concat (l : List Nat) (x k : Nat) (hk : l.length = k) : (l ++ [x]).getD k 0 = x := by
  subst hk
  rw [List.getD_eq_getElem?_getD, List.getElem?_concat_length]; rfl

theorem set_concat (l : List Nat) (x y k : Nat) (hk : l.length = k) : (l ++ [x]).set k y = l ++ [y] := by
  subst hk
  rw [List.set_append_right _ _ (Nat.le_refl _), Nat.sub_self]; rfl

theorem exists_ge_of_not_forall_lt {ι : Type} {l : List ι} {f : ι → Nat} {n : Nat} (h : ¬ ∀ x ∈ l, f x < n) :
    ∃ x ∈ l, f x ≥ n :=
  Classical.byContradiction fun hn => h fun x hx => Nat.lt_of_not_le fun hge => hn ⟨x, hx, hge⟩

theorem zip_replicate_left {α β : Type} (s : α) (l : List β) : (List.replicate l.length s).zip l = l.map (fun x => (s, x)) := by
  induction l with
  | nil => rfl
  | cons x xs ih => simp only [List.length_cons, List.replicate_succ, List.zip_cons_cons, List.map_cons, ih]

theorem map_getD_range (s : List Nat) : (List.range s.length).map (fun i => s.getD i 0) = s := by
  apply List.ext_getElem
  · rw [List.length_map, List.length_range]
  · intro i _ h2
    rw [List.getElem_map, List.getElem_range, getD_eq_getElem 0 h2]

theorem getD_map_range {β} (n : Nat) (f : Nat → β) (i : Nat) (d : β) :
    ((List.range n).map f).getD i d = if i < n then f i else d := by
  rw [List.getD_eq_getElem?_getD, List.getElem?_map]
  by_cases h : i < n
  · rw [List.getElem?_range h, if_pos h]; rfl
  · rw [List.getElem?_eq_none (by rw [List.length_range]; exact Nat.le_of_not_lt h), if_neg h]; rfl

/-! ### flattening equally long pieces -/

theorem length_flatMap_uniform {α β} (g : α → List β) (m : Nat) : ∀ (l : List α), (∀ x ∈ l, (g x).length = m) → (l.flatMap g).length = l.length * m
  | [], _ => (Nat.zero_mul m).symm
  | x :: xs, h => by
    rw [List.flatMap_cons, List.length_append, h x List.mem_cons_self,
      length_flatMap_uniform g m xs (fun z hz => h z (List.mem_cons_of_mem _ hz)), List.length_cons, Nat.succ_mul, Nat.add_comm]

/-- position `k * m + j` is element `j` of piece `k` -/
theorem getElem?_flatMap_uniform {α β} (g : α → List β) (m : Nat) : ∀ (l : List α) (k j : Nat) (hk : k < l.length),
    (∀ x ∈ l, (g x).length = m) → j < m → (l.flatMap g)[k * m + j]? = (g l[k])[j]?
  | [], _, _, hk, _, _ => nomatch hk
  | x :: xs, 0, j, _, h, hj => by
    rw [List.flatMap_cons, Nat.zero_mul, Nat.zero_add, List.getElem?_append_left (by rw [h x List.mem_cons_self]; exact hj)]
    rfl
  | x :: xs, k + 1, j, hk, h, hj => by
    have hx : (g x).length = m := h x List.mem_cons_self
    rw [List.flatMap_cons, List.getElem?_append_right (by rw [hx, Nat.succ_mul, Nat.add_right_comm]; exact Nat.le_add_left _ _),
      hx, Nat.succ_mul, Nat.add_right_comm, Nat.add_sub_cancel]
    exact getElem?_flatMap_uniform g m xs k j (Nat.lt_of_succ_lt_succ hk) (fun z hz => h z (List.mem_cons_of_mem _ hz)) hj

/-! ### shapes -/

theorem prod_pos_of (s : List Nat) (h : ∀ d ∈ s, 0 < d) : 0 < s.prod :=
  List.prod_pos_iff_forall_pos_nat.2 h

theorem prod_insertIdx_one : ∀ (l : List Nat) (i : Nat), (l.insertIdx i 1).prod = l.prod
  | _, 0 => by simp
  | [], _ + 1 => by simp
  | x :: xs, i + 1 => by
    simp only [List.insertIdx_succ_cons, List.prod_cons, prod_insertIdx_one xs i]

theorem prod_eq_zero_iff : ∀ (s : List Nat), s.prod = 0 ↔ 0 ∈ s
  | [] => by simp
  | d :: ds => by rw [List.prod_cons, Nat.mul_eq_zero, prod_eq_zero_iff ds, List.mem_cons, eq_comm]

theorem prod_eq_zero_of_mem (s : List Nat) (h : 0 ∈ s) : s.prod = 0 := (prod_eq_zero_iff s).2 h

variable {α : Type} in
/-- a well-formed array with a zero-length axis has no elements -/
theorem elems_nil_of_zero_mem (a : Arr α) (hwf : a.WF) (h0 : 0 ∈ a.shape) : a.elems = [] := by
  apply List.eq_nil_of_length_eq_zero
  rw [hwf]; exact prod_eq_zero_of_mem _ h0

variable {α : Type} in
theorem eq_mk_nil_of_zero_mem (a : Arr α) (hwf : a.WF) (h0 : 0 ∈ a.shape) : a = ⟨[], a.shape⟩ := by
  cases a with | mk e s =>
  have := elems_nil_of_zero_mem ⟨e, s⟩ hwf h0
  simp only at this; subst this; rfl

/-- position `c * p + r` with `r < p` lies in row `c`, below row `d` -/
theorem mul_add_lt {c d r p : Nat} (hc : c < d) (hr : r < p) : c * p + r < d * p :=
  calc c * p + r < (c + 1) * p := by rw [Nat.succ_mul]; exact Nat.add_lt_add_left hr _
    _ ≤ d * p := Nat.mul_le_mul_right p hc

theorem mul_add_divmod (x i I : Nat) (hi : i < I) : (x * I + i) / I = x ∧ (x * I + i) % I = i := by
  have hI : 0 < I := Nat.lt_of_le_of_lt (Nat.zero_le i) hi
  constructor
  · rw [Nat.add_comm, Nat.add_mul_div_right _ _ hI, Nat.div_eq_of_lt hi, Nat.zero_add]
  · rw [Nat.add_comm, Nat.add_mul_mod_self_right, Nat.mod_eq_of_lt hi]

theorem Arr.isEmpty_iff_zero_mem {α : Type} (a : Arr α) (hwf : a.WF) : a.isEmpty = true ↔ 0 ∈ a.shape := by
  rw [Arr.isEmpty, beq_iff_eq, show a.elems.length = a.shape.prod from hwf]
  exact prod_eq_zero_iff _

/-! ### `inRange`, `ravel`, `unravel` -/

theorem inRange_cons {d c : Nat} {ds cs : List Nat} :
    inRange (d :: ds) (c :: cs) = true ↔ c < d ∧ inRange ds cs = true := by
  simp only [inRange, Bool.and_eq_true, decide_eq_true_eq]

theorem inRange_length : ∀ (s c : List Nat), inRange s c = true → c.length = s.length
  | [], [], _ => rfl
  | _ :: ds, _ :: cs, h => congrArg (· + 1) (inRange_length ds cs (inRange_cons.1 h).2)
  | [], _ :: _, h => nomatch h
  | _ :: _, [], h => nomatch h

theorem inRange_iff : ∀ (s c : List Nat), inRange s c = true ↔ (c.length = s.length ∧ ∀ k, k < s.length → c.getD k 0 < s.getD k 0)
  | [], [] => ⟨fun _ => ⟨rfl, nofun⟩, fun _ => rfl⟩
  | [], _ :: _ => ⟨nofun, fun h => nomatch h.1⟩
  | _ :: _, [] => ⟨nofun, fun h => nomatch h.1⟩
  | d :: ds, x :: xs => by
    rw [inRange_cons, inRange_iff ds xs, List.length_cons, List.length_cons, Nat.forall_lt_succ_left, Nat.succ.injEq]
    exact and_left_comm

theorem inRange_getD_lt (s c : List Nat) (i : Nat) (h : inRange s c = true) (hi : i < s.length) : c.getD i 0 < s.getD i 0 :=
  ((inRange_iff s c).1 h).2 i hi

theorem ravel_lt : ∀ (s c : List Nat), inRange s c = true → ravel s c < s.prod
  | [], [], _ => Nat.one_pos
  | d :: ds, c :: cs, h => by
    rw [List.prod_cons]
    exact mul_add_lt (inRange_cons.1 h).1 (ravel_lt ds cs (inRange_cons.1 h).2)
  | [], _ :: _, h => nomatch h
  | _ :: _, [], h => nomatch h

theorem ravel_mat (n m i k : Nat) : ravel [n, m] [i, k] = i * m + k := by simp [ravel]

theorem unravel_ravel : ∀ (s c : List Nat), inRange s c = true → unravel s (ravel s c) = c
  | [], [], _ => rfl
  | d :: ds, c :: cs, h => by
    have hr := (inRange_cons.1 h).2
    have hlt := ravel_lt ds cs hr
    have ⟨h1, h2⟩ := (Nat.div_mod_unique (a := c * ds.prod + ravel ds cs) (d := c) (Nat.zero_lt_of_lt hlt)).2
      ⟨by rw [Nat.mul_comm, Nat.add_comm], hlt⟩
    rw [ravel, unravel, h1, h2, unravel_ravel ds cs hr]
  | [], _ :: _, h => nomatch h
  | _ :: _, [], h => nomatch h

theorem ravel_unravel : ∀ (s : List Nat) (i : Nat), i < s.prod →
    ravel s (unravel s i) = i ∧ inRange s (unravel s i) = true
  | [], _, h => ⟨(Nat.lt_one_iff.1 h).symm, rfl⟩
  | d :: ds, i, h => by
    rw [List.prod_cons] at h
    have hpos : 0 < ds.prod := Nat.pos_of_ne_zero fun h0 => by rw [h0, Nat.mul_zero] at h; cases h
    have ⟨ih1, ih2⟩ := ravel_unravel ds (i % ds.prod) (Nat.mod_lt _ hpos)
    rw [unravel, ravel, inRange_cons, ih1]
    exact ⟨Nat.div_add_mod' i ds.prod, (Nat.div_lt_iff_lt_mul hpos).2 h, ih2⟩

theorem unravel_length : ∀ (s : List Nat) (i : Nat), (unravel s i).length = s.length
  | [], _ => rfl
  | _ :: ds, _ => congrArg (· + 1) (unravel_length ds _)

variable {α : Type} in
/-- coordinates determine a well-formed array -/
theorem Arr.ext_get (a b : Arr α) (ha : a.WF) (hb : b.WF) (hs : a.shape = b.shape)
    (h : ∀ c, inRange a.shape c = true → a.get? c = b.get? c) : a = b := by
  cases a with | mk ae as =>
  cases b with | mk be bs =>
  cases hs
  congr 1
  apply List.ext_getElem?
  intro i
  by_cases hi : i < as.prod
  · have ⟨h1, h2⟩ := ravel_unravel as i hi
    have := h (unravel as i) h2
    rwa [Arr.get?, Arr.get?, h1] at this
  · rw [List.getElem?_eq_none (ha ▸ Nat.le_of_not_lt hi), List.getElem?_eq_none (hb ▸ Nat.le_of_not_lt hi)]

theorem ravel_all_zero : ∀ (s c : List Nat), (∀ x ∈ c, x = 0) → ravel s c = 0
  | [], _, _ => by simp [ravel]
  | _ :: _, [], _ => rfl
  | d :: ds, x :: xs, h => by
    have hx := h x List.mem_cons_self
    have ih := ravel_all_zero ds xs (fun z hz => h z (List.mem_cons_of_mem _ hz))
    simp [ravel, hx, ih]

theorem ravel_append_append : ∀ (s c t e : List Nat), s.length = c.length →
    ravel (s ++ t) (c ++ e) = ravel s c * t.prod + ravel t e
  | [], [], _, _, _ => (Nat.zero_add _).symm.trans (congrArg (· + _) (Nat.zero_mul _).symm)
  | d :: ds, x :: xs, t, e, h => by
    rw [List.cons_append, List.cons_append, ravel, ravel, ravel_append_append ds xs t e (Nat.succ.inj h),
      List.prod_append, Nat.add_mul, Nat.mul_assoc, Nat.add_assoc]
  | [], _ :: _, _, _, h => nomatch h
  | _ :: _, [], _, _, h => nomatch h

theorem inRange_append_append : ∀ (s c t e : List Nat), s.length = c.length →
    inRange (s ++ t) (c ++ e) = (inRange s c && inRange t e)
  | [], [], _, _, _ => (Bool.true_and _).symm
  | d :: ds, x :: xs, t, e, h => by
    simp only [List.cons_append, inRange, inRange_append_append ds xs t e (Nat.succ.inj h), Bool.and_assoc]
  | [], _ :: _, _, _, h => nomatch h
  | _ :: _, [], _, _, h => nomatch h

theorem ravel_append_singleton (s c : List Nat) (n j : Nat) (h : s.length = c.length) :
    ravel (s ++ [n]) (c ++ [j]) = ravel s c * n + j := by
  rw [ravel_append_append _ _ [n] [j] h, List.prod_singleton]
  show _ + (j * 1 + 0) = _
  rw [Nat.mul_one, Nat.add_zero]

theorem inRange_append_singleton (s c : List Nat) (n j : Nat) (h : s.length = c.length) :
    inRange (s ++ [n]) (c ++ [j]) = (inRange s c && decide (j < n)) := by
  rw [inRange_append_append _ _ [n] [j] h]
  show (_ && (decide _ && true)) = _
  rw [Bool.and_true]

/-! ### the fold of `index_at` -/

theorem foldl_ravel (l : List (Nat × Nat)) (a s : Nat) :
    l.reverse.foldl (fun (acc : Nat × Nat) (dc : Nat × Nat) => (acc.1 + dc.2 * acc.2, acc.2 * dc.1)) (a, s)
      = (a + s * ravel (l.map Prod.fst) (l.map Prod.snd), s * (l.map Prod.fst).prod) := by
  induction l generalizing a s with
  | nil => simp [ravel]
  | cons x xs ih =>
    simp only [List.reverse_cons, List.foldl_append, List.foldl_cons, List.foldl_nil, ih, List.map_cons, ravel, List.prod_cons]
    refine Prod.ext ?_ ?_
    · show a + s * _ + x.2 * (s * _) = a + s * (x.2 * _ + _)
      rw [Nat.mul_add, Nat.mul_left_comm s, Nat.add_assoc, Nat.add_comm (s * _)]
    · show s * _ * x.1 = s * (x.1 * _)
      rw [Nat.mul_assoc, Nat.mul_comm _ x.1]

theorem indexAtFold_eq (s c : List Nat) (h : s.length = c.length) : (indexAtFold s c).1 = ravel s c := by
  unfold indexAtFold
  rw [foldl_ravel, List.map_fst_zip (Nat.le_of_eq h), List.map_snd_zip (Nat.le_of_eq h.symm), Nat.zero_add, Nat.one_mul]

/-- `anyOut` is the negation of `inRange` once lengths agree -/
theorem anyOut_eq : ∀ (s c : List Nat), s.length = c.length → anyOut s c = !inRange s c
  | [], [], _ => rfl
  | d :: ds, c :: cs, h => by
    have ih := anyOut_eq ds cs (Nat.succ.inj h)
    unfold anyOut at ih ⊢
    simp only [List.zip_cons_cons, List.any_cons, ih, inRange, Bool.not_and, ← decide_not, Nat.not_lt, ge_iff_le]
  | [], _ :: _, h => nomatch h
  | _ :: _, [], h => nomatch h

/-- `index_at` refuses exactly the coordinate vectors that are not in range, and answers the row-major position -/
theorem Arr.indexAt_eq {α : Type} (a : Arr α) (c : List Nat) :
    a.indexAt c = if inRange a.shape c = true then .ok (ravel a.shape c) else .err .ParameterError := by
  unfold Arr.indexAt
  by_cases hl : a.shape.length = c.length
  · rw [if_neg (not_not_intro hl), anyOut_eq _ _ hl, indexAtFold_eq _ _ hl]
    cases inRange a.shape c <;> rfl
  · rw [if_pos hl, if_neg fun h => hl (inRange_length _ _ h).symm]

/-- an in-range read of a well-formed array succeeds, with the element at the row-major position -/
theorem Arr.atc_ok {α : Type} (a : Arr α) (hwf : a.WF) (c : List Nat) (h : inRange a.shape c = true) :
    ∃ x, a.atc c = .ok x ∧ a.get? c = some x := by
  have hlt : ravel a.shape c < a.elems.length := Nat.lt_of_lt_of_eq (ravel_lt _ _ h) hwf.symm
  refine ⟨a.elems[ravel a.shape c], ?_, List.getElem?_eq_getElem hlt⟩
  unfold Arr.atc
  rw [Arr.indexAt_eq, if_pos h]
  show Res.idx a.elems _ = _
  unfold Res.idx
  rw [List.getElem?_eq_getElem hlt]

/-! ### the fold of `index_to_coord` -/

theorem unravelFold_aux (s : List Nat) (i : Nat) (acc : List Nat) (hpos : 0 < s.prod) :
    (s.reverse.foldl (fun (a : Nat × List Nat) dim => (a.1 / dim, a.2 ++ [a.1 % dim])) (i, acc))
      = (i / s.prod, acc ++ (unravel s (i % s.prod)).reverse) := by
  induction s generalizing i acc with
  | nil => simp [unravel]
  | cons d ds ih =>
    rw [List.prod_cons] at hpos ⊢
    have hp : 0 < ds.prod := Nat.pos_of_mul_pos_left hpos
    simp only [List.reverse_cons, List.foldl_append, List.foldl_cons, List.foldl_nil, ih i acc hp, unravel,
      List.append_assoc, Nat.div_div_eq_div_mul, Nat.mul_comm ds.prod d]
    rw [Nat.mod_mod_of_dvd _ (Nat.dvd_mul_left _ _), Nat.mul_comm d, Nat.mod_mul_right_div_self]

theorem unravelFold_eq (s : List Nat) (i : Nat) (h : i < s.prod) : unravelFold s i = unravel s i := by
  unfold unravelFold
  rw [unravelFold_aux s i [] (Nat.zero_lt_of_lt h), Nat.mod_eq_of_lt h, List.nil_append, List.reverse_reverse]

end ArrModel
