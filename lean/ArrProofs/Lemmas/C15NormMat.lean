import ArrProofs.Lemmas.C15Arr
import ArrProofs.Lemmas.C15Norm
/-!
# Lemmas for C15: the two reductions of a matrix norm on a rank-2 array, and the dispatch of `normX`

`colAbsSums a m n` / `rowAbsSums a m n`: the textbook column / row sums of absolute values of the row-major `m × n` matrix.
`sumAx_abs_axis0/1`: `abs().sum(Some(0))` / `abs().sum(Some(1))` of the shared model return exactly these lists;
`maxAx_vec` / `minAx_vec`: `max` / `min` along the only axis of a non-empty vector, spelled `0` or `-1`, return `maxL` / `minL`
of its elements with shape `[1]`.
-/
namespace ArrModel.C15
open ArrModel Arr

/-- `Σ_i |a[i][j]|` for every column `j` -/
def colAbsSums (a : Arr Rat) (m n : Nat) : List Rat :=
  (List.range n).map fun j => ((List.range m).map fun i => |vget a.elems (i * n + j)|).sum
/-- `Σ_j |a[i][j]|` for every row `i` -/
def rowAbsSums (a : Arr Rat) (m n : Nat) : List Rat :=
  (List.range m).map fun i => ((List.range n).map fun j => |vget a.elems (i * n + j)|).sum

theorem colAbsSums_length (a : Arr Rat) (m n : Nat) : (colAbsSums a m n).length = n := by
  rw [colAbsSums, List.length_map, List.length_range]

theorem rowAbsSums_length (a : Arr Rat) (m n : Nat) : (rowAbsSums a m n).length = m := by
  rw [rowAbsSums, List.length_map, List.length_range]

theorem normalizeAxis_nonneg (nd : Nat) (k : Nat) : normalizeAxis nd (k : Int) = k :=
  normalizeAxis_ofNat nd k

/-! ### rank-2 and rank-1 arrays entry by entry -/

theorem get?_mat (a : Arr Rat) (m n i j : Nat) (hs : a.shape = [m, n]) (hwf : a.WF) (hi : i < m) (hj : j < n) :
    a.get? [i, j] = some (vget a.elems (i * n + j)) := by
  have hlt : i * n + j < a.elems.length := by
    rw [hwf, hs, List.prod_cons, List.prod_singleton]
    exact Nat.lt_of_lt_of_le (Nat.add_lt_add_left hj _) (Nat.succ_mul i n ▸ Nat.mul_le_mul_right n hi)
  rw [Arr.get?, hs]
  show a.elems[i * (n * 1) + (j * 1 + 0)]? = _
  rw [Nat.mul_one, Nat.mul_one, Nat.add_zero, List.getElem?_eq_getElem hlt, vget_eq_getElem _ _ hlt]

theorem lane_axis0 (a : Arr Rat) (m n j : Nat) (hs : a.shape = [m, n]) (hwf : a.WF) (hj : j < n) :
    laneOf a 0 [0, j] = (List.range m).map fun i => vget a.elems (i * n + j) := by
  have h := lane_eq_map a 0 [j] hwf (by rw [Arr.ndim, hs]; exact Nat.zero_lt_two) (by rw [hs]; exact (Bool.and_true _).trans (decide_eq_true hj))
    (fun i => vget a.elems (i * n + j))
  rw [hs] at h
  exact h fun i hi => get?_mat a m n i j hs hwf hi hj

theorem lane_axis1 (a : Arr Rat) (m n i : Nat) (hs : a.shape = [m, n]) (hwf : a.WF) (hi : i < m) :
    laneOf a 1 [i, 0] = (List.range n).map fun j => vget a.elems (i * n + j) := by
  have h := lane_eq_map a 1 [i] hwf (by rw [Arr.ndim, hs]; exact Nat.one_lt_two) (by rw [hs]; exact (Bool.and_true _).trans (decide_eq_true hi))
    (fun j => vget a.elems (i * n + j))
  rw [hs] at h
  exact h fun j hj => get?_mat a m n i j hs hwf hi hj

/-- an array of shape `[n]` is determined by its `n` entries -/
theorem arr_vec_ext {α : Type} (r : Arr α) (l : List α) (n : Nat) (hs : r.shape = [n]) (hwf : r.WF) (hl : l.length = n)
    (h : ∀ j, j < n → r.get? [j] = l[j]?) : r = ⟨l, [n]⟩ := by
  obtain ⟨el, sh⟩ := r
  subst hs
  have hlen : el.length = n := hwf.trans List.prod_singleton
  congr 1
  apply List.ext_getElem?
  intro j
  by_cases hj : j < n
  · rw [← h j hj]
    show el[j]? = el[j * 1 + 0]?
    rw [Nat.mul_one, Nat.add_zero]
  · rw [List.getElem?_eq_none (by omega), List.getElem?_eq_none (by omega)]

/-- a reduction of a rank-2 array along axis `k` is the vector of `g` of the lanes along `k`, one per index of the other axis -/
theorem redAx_mat {α β : Type} (a : Arr α) (zero : α) (zb : β) (body : Arr α → Res (Arr β)) (g : List α → β) (m n : Nat)
    (hm : 0 < m) (hn : 0 < n) (hs : a.shape = [m, n]) (hwf : a.WF) (hbody : ∀ lane, body (Arr.flat lane) = .ok (Arr.single (g lane)))
    (k : Nat) (hk : k < 2) :
    a.reduceAxis zero zb (some (k : Int)) body =
      .ok ⟨(List.range ([n, m].getD k 0)).map fun j => g (laneOf a k ([j].insertIdx k 0)), [[n, m].getD k 0]⟩ := by
  have hnz : 0 ∉ a.shape := by
    rw [hs]; intro h
    rcases List.mem_cons.1 h with h | h
    · omega
    · rw [List.mem_singleton] at h; omega
  have hnd : a.ndim = 2 := by rw [Arr.ndim, hs]; rfl
  have her : a.shape.eraseIdx k = [[n, m].getD k 0] := by
    rw [hs]
    rcases Nat.lt_succ_iff_lt_or_eq.1 hk with h | rfl
    · rw [Nat.lt_one_iff.1 h]; rfl
    · rfl
  obtain ⟨r, h1, h2, h3, h4⟩ := redAx_spec a zero zb k body g hwf hnz (by rw [normalizeAxis_nonneg, hnd]; exact hk)
    (fun lane _ => hbody lane)
  rw [normalizeAxis_nonneg, if_pos (by rw [hnd]; exact Nat.one_lt_two), her] at h2
  rw [normalizeAxis_nonneg, her] at h4
  rw [h1]
  congr 1
  apply arr_vec_ext r _ _ h2 h3 (by rw [List.length_map, List.length_range])
  intro j hj
  have e := h4 [j] (by rw [inRange, inRange, Bool.and_true, decide_eq_true_eq]; exact hj)
  rw [if_pos (by rw [hnd]; exact Nat.one_lt_two)] at e
  rw [e, List.getElem?_map, List.getElem?_range hj]
  rfl

theorem sumAx_abs_axis0 (a : Arr Rat) (m n : Nat) (hm : 0 < m) (hn : 0 < n) (hs : a.shape = [m, n]) (hwf : a.WF) :
    sumAx (mapArr absR a) 0 = .ok ⟨colAbsSums a m n, [n]⟩ := by
  refine (redAx_mat (mapArr absR a) 0 0 sumBody sumL m n hm hn hs (mapArr_wf _ a hwf) sumBody_flat 0 Nat.zero_lt_two).trans ?_
  congr 2
  refine List.map_congr_left fun j hj => ?_
  show sumL (laneOf (mapArr absR a) 0 [0, j]) = _
  rw [laneOf_mapArr, lane_axis0 a m n j hs hwf (List.mem_range.1 hj), abs_lane_sum, List.map_map]
  rfl

theorem sumAx_abs_axis1 (a : Arr Rat) (m n : Nat) (hm : 0 < m) (hn : 0 < n) (hs : a.shape = [m, n]) (hwf : a.WF) :
    sumAx (mapArr absR a) 1 = .ok ⟨rowAbsSums a m n, [m]⟩ := by
  refine (redAx_mat (mapArr absR a) 0 0 sumBody sumL m n hm hn hs (mapArr_wf _ a hwf) sumBody_flat 1 Nat.one_lt_two).trans ?_
  congr 2
  refine List.map_congr_left fun i hi => ?_
  show sumL (laneOf (mapArr absR a) 1 [i, 0]) = _
  rw [laneOf_mapArr, lane_axis1 a m n i hs hwf (List.mem_range.1 hi), abs_lane_sum, List.map_map]
  rfl

/-- a reduction along the only axis of a non-empty vector, spelled `0` or `-1`, whose body is `single ∘ g` on non-empty lanes -/
theorem extremeAx_vec (body : Arr Rat → Res (Arr Rat)) (g : List Rat → Rat)
    (hbody : ∀ lane : List Rat, lane.length ≠ 0 → body (Arr.flat lane) = .ok (Arr.single (g lane)))
    (l : List Rat) (n : Nat) (hn : 0 < n) (hl : l.length = n) (ax : Int) (hax : ax = 0 ∨ ax = -1) :
    (⟨l, [n]⟩ : Arr Rat).reduceAxis 0 0 (some ax) body = .ok ⟨[g l], [1]⟩ := by
  have hwf : (⟨l, [n]⟩ : Arr Rat).WF := hl.trans List.prod_singleton.symm
  have hnz : 0 ∉ (⟨l, [n]⟩ : Arr Rat).shape := fun h => by rw [List.mem_singleton] at h; omega
  have hk : normalizeAxis (⟨l, [n]⟩ : Arr Rat).ndim ax = 0 := by rcases hax with rfl | rfl <;> rfl
  obtain ⟨r, h1, h2, h3, h4⟩ := redAx_spec (⟨l, [n]⟩ : Arr Rat) 0 0 ax body g hwf hnz (hk ▸ Nat.zero_lt_one)
    (fun lane hlen => hbody lane (by rw [hlen, hk]; exact Nat.pos_iff_ne_zero.1 hn))
  have hnd : ¬ (⟨l, [n]⟩ : Arr Rat).ndim > 1 := Nat.lt_irrefl 1
  rw [hk] at h4
  have e := h4 [] rfl
  rw [if_neg hnd] at h2 e
  rw [laneOf_rank1 (⟨l, [n]⟩ : Arr Rat) n _ hwf rfl rfl] at e
  rw [h1]
  congr 1
  apply arr_vec_ext r [g l] 1 h2 h3 rfl
  intro j hj
  rw [Nat.lt_one_iff.1 hj, e]
  rfl

theorem maxAx_vec (l : List Rat) (n : Nat) (hn : 0 < n) (hl : l.length = n) (ax : Int) (hax : ax = 0 ∨ ax = -1) :
    maxAx ⟨l, [n]⟩ ax = .ok ⟨[maxL l], [1]⟩ := extremeAx_vec maxBody maxL maxBody_flat l n hn hl ax hax

theorem minAx_vec (l : List Rat) (n : Nat) (hn : 0 < n) (hl : l.length = n) (ax : Int) (hax : ax = 0 ∨ ax = -1) :
    minAx ⟨l, [n]⟩ ax = .ok ⟨[minL l], [1]⟩ := extremeAx_vec minBody minL minBody_flat l n hn hl ax hax

/-! ### the dispatch of `normX` -/

theorem bcastGuard_ok (a : Arr Rat) (hnz : 0 ∉ a.shape) : bcastGuard a = .ok () := if_neg hnz

theorem normSimpleX_of_ne (a : Arr Rat) (keep : Bool) (hne : a.elems.length ≠ 0) : normSimpleX a keep = normSimple a keep :=
  if_neg hne

theorem normX_one_axis (a : Arr Rat) (ord : Option Ord) (ax : Int) (keep : Bool) :
    normX a ord (some [ax]) keep = normVecX a (ord.getD (.int 2)) ax := rfl

theorem normX_axis_none (a : Arr Rat) (o : Ord) (keep : Bool) :
    normX a (some o) none keep =
      if (a.ndim = 2 ∧ o = .fro) ∨ (a.ndim = 1 ∧ o = .int 2) then normSimpleX a keep
      else normX a (some o) (some ((List.range a.ndim).map Int.ofNat)) keep :=
  ite_decide_eq _ _ _

theorem normX_two_axes_eq (a : Arr Rat) (ord : Option Ord) (ax0 ax1 : Int) (keep : Bool) :
    normX a ord (some [ax0, ax1]) keep =
      if normAxis a.ndim ax0 = normAxis a.ndim ax1 then .err .ParameterError else
      if normAxis a.ndim ax0 < 0 ∨ normAxis a.ndim ax0 ≥ a.ndim then .err .AxisOutOfBounds else
      if normAxis a.ndim ax1 < 0 ∨ normAxis a.ndim ax1 ≥ a.ndim then .err .AxisOutOfBounds else
      if keep then normMatX a (ord.getD .fro) (normAxis a.ndim ax0) (normAxis a.ndim ax1) >>= fun r =>
        .ok (symArr ⟨r.elems, r.shape ++ [1]⟩)
      else (normMatX a (ord.getD .fro) (normAxis a.ndim ax0) (normAxis a.ndim ax1)).map symArr := rfl

/-- a two-axis call on distinct in-range axes whose reductions answer one value: `keepdims` appends one unit axis -/
theorem normX_two_axes_ok (a : Arr Rat) (ord : Ord) (ax0 ax1 : Int) (keep : Bool) (row col : Int)
    (h0 : normAxis a.ndim ax0 = row) (h1 : normAxis a.ndim ax1 = col) (hne : row ≠ col)
    (hr : 0 ≤ row ∧ row < a.ndim) (hc : 0 ≤ col ∧ col < a.ndim) (v : Rat) (hv : normMatX a ord row col = .ok ⟨[v], [1]⟩) :
    normX a (some ord) (some [ax0, ax1]) keep = .ok ⟨[.rat v], if keep then [1, 1] else [1]⟩ := by
  rw [normX_two_axes_eq, h0, h1, if_neg hne, if_neg (by omega), if_neg (by omega)]
  show (if keep then normMatX a ord row col >>= _ else (normMatX a ord row col).map symArr) = _
  rw [hv]
  cases keep <;> rfl

/-- the two reductions of a matrix norm: a sum along one axis that answers the non-empty vector `s`, then `max` / `min` along the
only axis that is left, spelled `0` or `-1` -/
theorem sum_then_extreme (x : Arr Rat) (ax : Int) (s : List Rat) (l : Nat) (hsum : sumAx x ax = .ok ⟨s, [l]⟩) (hl : s.length = l)
    (hpos : 0 < l) (ax' : Int) (hax' : ax' = 0 ∨ ax' = -1) :
    (sumAx x ax >>= fun s => maxAx s ax') = .ok ⟨[maxL s], [1]⟩ ∧
    (sumAx x ax >>= fun s => minAx s ax') = .ok ⟨[minL s], [1]⟩ := by
  rw [hsum]
  exact ⟨maxAx_vec s l hpos hl ax' hax', minAx_vec s l hpos hl ax' hax'⟩

end ArrModel.C15
