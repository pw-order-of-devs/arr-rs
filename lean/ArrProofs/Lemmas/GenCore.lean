import ArrModel.Gen.Core
import ArrModel.Manip
import ArrModel.Broadcast
import ArrModel.Joining
import ArrProofs.Lemmas.Index
import ArrProofs.Lemmas.Res
/-!
# GenCore — the translated core funnel is the hand-written model

`ArrModel/Gen/Core.lean` is generated from the Rust source by `tools/rs2lean.py` on every check run.  For every definition in it
there is a theorem here that identifies it, for ALL inputs, with the hand-written definition the property theorems speak about
(or, where no hand-written counterpart exists, states its specification directly); when the Rust source changes, `Gen/Core.lean`
changes and these theorems are re-checked against it.

A definition that translates to one field read or one prelude call is identified by `rfl`.  Every other generated term is
brought to a normal form by `simp`/`rw` with the prelude facts of the first section, so that the proof does not depend on how
the source spells the computation (inlined `let`s, a `match` or `is_none`/`unwrap`, the order of pure sub-expressions, the
wording of messages).
-/
namespace ArrModel.Gen.Core
open ArrModel Arr

variable {α β : Type}

/-! ## prelude normal forms -/

@[simp] theorem product_eq_prod (l : List Nat) : Rs.product l = l.prod := List.prod_eq_foldl.symm

@[simp] theorem unwrapRes_ok (a : α) : Rs.unwrapRes (Res.ok a) = Res.ok a := rfl
@[simp] theorem unwrapRes_err (e : Err) : Rs.unwrapRes (Res.err e : Res α) = Res.panic := rfl
@[simp] theorem unwrapRes_panic : Rs.unwrapRes (Res.panic : Res α) = Res.panic := rfl

theorem bind_ok' {γ δ : Type} (a : γ) (f : γ → Res δ) : (Res.ok a >>= f) = f a := Res.bind_ok a f
theorem bind_err' {γ δ : Type} (e : Err) (f : γ → Res δ) : (Res.err e >>= f) = Res.err e := Res.bind_err e f
theorem bind_panic' {γ δ : Type} (f : γ → Res δ) : ((Res.panic : Res γ) >>= f) = Res.panic := Res.bind_panic f

theorem bind_assoc' {γ δ ε : Type} (x : Res γ) (f : γ → Res δ) (g : δ → Res ε) :
    ((x >>= f) >>= g) = (x >>= fun a => f a >>= g) := Res.bind_assoc x f g

@[simp] theorem bind_pure' {γ : Type} (x : Res γ) : (x >>= fun a => Res.ok a) = x := Res.bind_pure x

/-- a local `Result` that is a value is simply handed on -/
theorem strict_of_ne_panic {γ δ : Type} {x : Res γ} (h : x ≠ .panic) (k : Res γ → Res δ) : Rs.strict x k = k x := by
  cases x with
  | ok a => rfl
  | err e => rfl
  | panic => exact absurd rfl h

theorem idx_eq (l : List β) (i : Nat) : Rs.index l i = Res.idx l i := rfl

theorem idx_of_getElem? {l : List β} {i : Nat} {x : β} (h : l[i]? = some x) : Rs.index l i = .ok x := by
  unfold Rs.index Res.idx; rw [h]

theorem idx_getD (l : List Nat) (i : Nat) (h : i < l.length) : Rs.index l i = .ok (l.getD i 0) :=
  idx_of_getElem? (by rw [List.getD_eq_getElem?_getD, List.getElem?_eq_getElem h]; rfl)

theorem usub_of_le {a b : Nat} (h : b ≤ a) : Rs.usub a b = .ok (a - b) := if_neg (Nat.not_lt.2 h)
theorem urem_of_pos {a b : Nat} (h : b ≠ 0) : Rs.urem a b = .ok (a % b) := if_neg h
theorem udiv_of_pos {a b : Nat} (h : b ≠ 0) : Rs.udiv a b = .ok (a / b) := if_neg h
theorem vecRemove_of_lt {l : List β} {i : Nat} (h : i < l.length) : Rs.vecRemove l i = .ok (l.eraseIdx i) :=
  if_neg (Nat.not_le.2 h)
theorem vecInsert_of_le {l : List β} {i : Nat} (h : i ≤ l.length) (x : β) : Rs.vecInsert l i x = .ok (l.insertIdx i x) :=
  if_neg (Nat.not_lt.2 h)

/-- `listSwap` of the hand-written model inside the vector, a panic outside -/
theorem vecSwap_eq (l : List β) (i j : Nat) :
    Rs.vecSwap l i j = if i < l.length ∧ j < l.length then .ok (listSwap l i j) else .panic := by
  unfold Rs.vecSwap listSwap
  by_cases hi : i < l.length <;> by_cases hj : j < l.length <;>
    simp [hi, hj]

/-! ### validators: `if c then ok () else err e` -/

@[simp] theorem ite_ok_eq_ok {γ : Type} (c : Prop) [Decidable c] (a b : γ) (e : Err) :
    ((if c then Res.ok a else Res.err e) = Res.ok b) ↔ (c ∧ a = b) := by
  by_cases h : c <;> simp [h]

theorem ite_bnot {γ : Type} (b : Bool) (x y : γ) : (if (!b) = true then x else y) = if b = true then y else x := by
  cases b <;> rfl

theorem check_ok_iff {c : Prop} [Decidable c] {e : Err} : (if c then Res.ok () else Res.err e) = .ok () ↔ c :=
  (ite_ok_eq_ok c () () e).trans (and_iff_left rfl)

theorem check_err_iff {c : Prop} [Decidable c] {e : Err} : (if c then Res.ok () else Res.err e) = .err e ↔ ¬ c := by
  by_cases h : c <;> simp [h]

theorem check_ne_panic {c : Prop} [Decidable c] {e : Err} : (if c then Res.ok () else Res.err e) ≠ .panic := by
  split <;> nofun

/-! ## meta (`ArrayMeta for Array<T>`) -/

theorem get_elements_eq (a : Arr α) : Array_get_elements a = .ok a.elems := rfl
theorem get_shape_eq (a : Arr α) : Array_get_shape a = .ok a.shape := rfl
theorem ndim_eq (a : Arr α) : Array_ndim a = .ok a.ndim := rfl
theorem len_eq (a : Arr α) : Array_len a = .ok a.len := rfl
theorem is_empty_eq (a : Arr α) : Array_is_empty a = .ok a.isEmpty := by
  simp [Array_is_empty, Array_len, Arr.isEmpty]

/-! ## shape validators -/

theorem matches_values_len_eq (s : List Nat) (e : List α) :
    Vec_matches_values_len s e = if s.prod = e.length then .ok () else .err .ShapeMustMatchValuesLength := by
  simp [Vec_matches_values_len]

theorem matches_values_len_ok_iff (s : List Nat) (e : List α) : Vec_matches_values_len s e = .ok () ↔ s.prod = e.length := by
  rw [matches_values_len_eq]; exact check_ok_iff

theorem array_matches_values_len_eq (a : Arr α) (e : List β) :
    Array_matches_values_len a e = Vec_matches_values_len a.shape e := by
  simp [Array_matches_values_len, Array_get_shape]

theorem matches_shape_eq (s t : List Nat) :
    Vec_matches_shape s t = if s = t then .ok () else .err .ShapesMustMatch := by
  simp [Vec_matches_shape]

theorem matches_shape_ok_iff (s t : List Nat) : Vec_matches_shape s t = .ok () ↔ s = t := by
  rw [matches_shape_eq]; exact check_ok_iff

theorem array_matches_shape_eq (a : Arr α) (t : List Nat) : Array_matches_shape a t = Vec_matches_shape a.shape t := by
  simp [Array_matches_shape, Array_get_shape]

/-- `shapes_align`: the two indexed axis lengths are compared; an index outside its shape is a panic (`self[i]`) -/
theorem shapes_align_eq (s t : List Nat) (i j : Nat) :
    Vec_shapes_align s i t j =
      match s[i]?, t[j]? with
      | some x, some y => if x = y then .ok () else .err .ParameterError
      | _, _ => .panic := by
  unfold Vec_shapes_align Rs.index Res.idx
  cases hs : s[i]? <;> cases ht : t[j]? <;> simp

theorem array_shapes_align_eq (a : Arr α) (t : List Nat) (i j : Nat) :
    Array_shapes_align a i t j = Vec_shapes_align a.shape i t j := by
  simp [Array_shapes_align, Array_get_shape]

/-- `is_broadcastable` is the hand-written `isBroadcastable` (the model of C03) -/
theorem is_broadcastable_eq (s t : List Nat) :
    Vec_is_broadcastable s t = if isBroadcastable s t then .ok () else .err .BroadcastShapeMismatch := by
  unfold Vec_is_broadcastable isBroadcastable
  simp only [Rs.any, Rs.zip, Rs.rev, dimClash]
  exact (ite_bnot _ _ _).symm

theorem is_broadcastable_ok_iff (s t : List Nat) : Vec_is_broadcastable s t = .ok () ↔ isBroadcastable s t = true := by
  rw [is_broadcastable_eq]; exact check_ok_iff

theorem is_broadcastable_never_panics (s t : List Nat) : Vec_is_broadcastable s t ≠ .panic := by
  rw [is_broadcastable_eq]; exact check_ne_panic

theorem array_is_broadcastable_eq (a : Arr α) (t : List Nat) : Array_is_broadcastable a t = Vec_is_broadcastable a.shape t := by
  simp [Array_is_broadcastable, Array_get_shape]

/-! ## create (`ArrayCreate for Array<T>`, `FromIterator`, `to_array`) -/

/-- `Array::new` is the validating funnel `Arr.new` of the hand-written model -/
theorem new_eq (e : List α) (s : List Nat) : Array_new e s = Arr.new e s := by
  unfold Array_new Arr.new
  rw [matches_values_len_eq]
  split <;> rfl

/-- `reshape` validates the new shape itself and then calls `Array::new`, which validates it again -/
theorem reshape_eq (a : Arr α) (s : List Nat) : Array_reshape a s = a.reshape s := by
  unfold Array_reshape Arr.reshape
  simp only [Array_get_elements, Res.bind_ok, new_eq, matches_values_len_eq]
  unfold Arr.new
  split <;> rfl

theorem result_reshape_eq (r : Res (Arr α)) (s : List Nat) : Result_reshape r s = (r >>= fun a => a.reshape s) := by
  unfold Result_reshape; simp only [reshape_eq]

theorem single_eq (x : α) : Array_single x = .ok ⟨[x], [1]⟩ := by
  simp [Array_single, new_eq, Arr.new]

theorem flat_eq (e : List α) : Array_flat e = .ok (Arr.flat e) := by
  simp [Array_flat, new_eq, Arr.new, Arr.flat]

theorem empty_eq : (Array_empty : Res (Arr α)) = .ok ⟨[], [0]⟩ := by
  simp [Array_empty, new_eq, Arr.new]

/-- `FromIterator`: `Self::flat(iter.collect()).unwrap()` never panics and is `flat` -/
theorem from_iter_eq (l : List α) : Array_from_iter l = .ok (Arr.flat l) := by
  simp [Array_from_iter, flat_eq]

theorem t_to_array_eq (x : α) : T_to_array x = .ok ⟨[x], [1]⟩ := by simp [T_to_array, single_eq]
theorem vec_to_array_eq (e : List α) : Vec_to_array e = .ok (Arr.flat e) := by simp [Vec_to_array, flat_eq]

/-- `create` binds `Self::new(..)` to a local before looking at `ndmin`; `new` never panics, so nothing happens early -/
theorem create_eq (e : List α) (s : List Nat) (nd : Option Nat) : Array_create e s nd = Arr.create e s nd := by
  unfold Array_create Arr.create
  rw [new_eq, strict_of_ne_panic (Arr.new_ne_panic e s)]
  simp only [Rs.unwrapOr, decide_eq_true_eq]
  split
  · rw [usub_of_le (Nat.le_of_lt ‹_›), Res.bind_ok, result_reshape_eq]
  · rfl

theorem to_array_ndim_eq (a : Arr α) (n : Nat) : Array_to_array_ndim a n = Arr.create a.elems a.shape (some n) := by
  simp [Array_to_array_ndim, Array_get_elements, Array_get_shape, create_eq]

/-! ## manipulate (`reshape` above, `ravel`, `resize`, `atleast`, `normalize_axis`) -/

theorem ravel_eq (a : Arr α) : Array_ravel a = .ok a.ravel := by
  simp [Array_ravel, vec_to_array_eq, Arr.ravel]

/-- when a pass is exhausted `Cycle` restarts from the original: an empty rest behaves like a full one -/
theorem cycleAux_nil (l : List α) (n : Nat) : Rs.cycleAux l n [] = Rs.cycleAux l n l := by
  cases n with
  | zero => rfl
  | succ n => cases l <;> rfl

/-- the `Cycle` iterator, started `k` elements into a pass (`k` counted round the cycle), yields `l[(k + i) % len]` for `i < n` -/
theorem cycleAux_drop (l : List α) (hl : 0 < l.length) : ∀ (n k : Nat),
    Rs.cycleAux l n (l.drop (k % l.length)) = (List.range n).filterMap (fun i => l[(k + i) % l.length]?)
  | 0, _ => rfl
  | n + 1, k => by
    have hr := Nat.mod_lt k hl
    have hnext : Rs.cycleAux l n (l.drop (k % l.length + 1)) = Rs.cycleAux l n (l.drop ((k + 1) % l.length)) := by
      rw [← Nat.mod_add_mod k l.length 1]
      by_cases h : k % l.length + 1 < l.length
      · rw [Nat.mod_eq_of_lt h]
      · rw [show k % l.length + 1 = l.length by omega, Nat.mod_self, List.drop_length, List.drop_zero, cycleAux_nil]
    rw [List.drop_eq_getElem_cons hr, Rs.cycleAux, hnext, cycleAux_drop l hl n (k + 1), List.range_succ_eq_map,
      List.filterMap_cons, List.filterMap_map]
    simp only [Nat.add_zero, List.getElem?_eq_getElem hr, Function.comp_def, Nat.succ_eq_add_one, Nat.add_assoc, Nat.add_comm 1]

/-- `iter().cycle().take(n)` of the prelude is `cycleTake` of the hand-written model -/
theorem cycleTake_eq (l : List α) (n : Nat) : Rs.cycleTake l n = cycleTake l n := by
  cases l with
  | nil => cases n <;> rfl
  | cons x xs =>
    have h := cycleAux_drop (x :: xs) (Nat.succ_pos _) n 0
    simp only [Nat.zero_mod, List.drop_zero, Nat.zero_add] at h
    exact h

theorem resize_eq (a : Arr α) (s : List Nat) : Array_resize a s = a.resize s := by
  simp [Array_resize, Array_get_elements, from_iter_eq, reshape_eq, cycleTake_eq, Arr.resize]

/-- `atleast_1d`: `!ndim >= 1` is a bitwise complement; it holds for every rank below `usize::MAX` -/
theorem atleast_1d_eq (a : Arr α) (h : a.ndim < Rs.USIZE - 1) : Array_atleast_1d a = a.atleast1d := by
  unfold Array_atleast_1d Arr.atleast1d
  rw [ndim_eq, Res.bind_ok, if_pos]
  rw [decide_eq_true_eq, Rs.usizeNot]; omega

theorem atleast_2d_eq (a : Arr α) : Array_atleast_2d a = a.atleast2d := by
  unfold Array_atleast_2d Arr.atleast2d
  simp only [ndim_eq, get_shape_eq, Res.bind_ok, reshape_eq, idx_eq, decide_eq_true_eq]
  generalize a.ndim = n
  rcases n with _ | _ | n <;> simp

theorem atleast_3d_eq (a : Arr α) : Array_atleast_3d a = a.atleast3d := by
  unfold Array_atleast_3d Arr.atleast3d
  simp only [ndim_eq, get_shape_eq, Res.bind_ok, reshape_eq, idx_eq, decide_eq_true_eq]
  generalize a.ndim = n
  rcases n with _ | _ | _ | n <;> simp

theorem atleast_eq (a : Arr α) (n : Nat) (h : a.ndim < Rs.USIZE - 1) : Array_atleast a n = a.atleast n := by
  unfold Array_atleast Arr.atleast
  rw [atleast_1d_eq a h, atleast_2d_eq, atleast_3d_eq]
  rfl

/-- the two's-complement wrap of a still-negative sum is written the same way on both sides (`toUsize`, `normalizeAxis`) -/
theorem normalize_axis_eq (a : Arr α) (ax : Int) : Array_normalize_axis a ax = .ok (normalizeAxis a.ndim ax) := by
  unfold Array_normalize_axis normalizeAxis
  rw [ndim_eq, unwrapRes_ok, Res.bind_ok]
  by_cases h : ax < 0
  · rw [if_pos (decide_eq_true h), if_pos h]; rfl
  · rw [if_neg (mt of_decide_eq_true h), if_neg h, Rs.toUsize, if_neg h]

theorem normalize_axis_dim_eq (a : Arr α) (ax : Int) (n : Nat) :
    Array_normalize_axis_dim a ax n = .ok (normalizeAxisDim a.ndim ax n) := by
  unfold Array_normalize_axis_dim normalizeAxisDim
  rw [ndim_eq, unwrapRes_ok, Res.bind_ok]
  by_cases h : ax < 0
  · rw [if_pos (decide_eq_true h), if_pos h]; rfl
  · rw [if_neg (mt of_decide_eq_true h), if_neg h, Rs.toUsize, if_neg h]

/-! ## indexing (`index_at`, `index_to_coord`, `at`) -/

/-- a closure that never panics on the elements it meets: short-circuit `any` is `List.any` -/
theorem anyM_eq_any {γ : Type} (p : γ → Res Bool) (q : γ → Bool) :
    ∀ (l : List γ), (∀ x ∈ l, p x = .ok (q x)) → Rs.anyM l p = .ok (l.any q)
  | [], _ => rfl
  | x :: xs, h => by
    have ih := anyM_eq_any p q xs (fun y hy => h y (List.mem_cons_of_mem _ hy))
    rw [Rs.anyM, h x (List.mem_cons_self), Res.bind_ok, ih, List.any_cons]
    cases q x <;> rfl

/-- a closure that never panics on the elements it meets: the monadic fold is `List.foldl` -/
theorem foldM_eq_foldl {γ σ : Type} (f : σ → γ → Res σ) (g : σ → γ → σ) :
    ∀ (l : List γ) (init : σ), (∀ acc, ∀ x ∈ l, f acc x = .ok (g acc x)) → Rs.foldM l init f = .ok (l.foldl g init)
  | [], _, _ => rfl
  | x :: xs, init, h => by
    rw [Rs.foldM, h init x (List.mem_cons_self), Res.bind_ok, List.foldl_cons]
    exact foldM_eq_foldl f g xs _ (fun acc y hy => h acc y (List.mem_cons_of_mem _ hy))

theorem enumFrom_eq_zipIdx : ∀ (l : List β) (k : Nat), Rs.enumFrom k l = (l.zipIdx k).map (fun p => (p.2, p.1))
  | [], _ => rfl
  | x :: xs, k => by rw [Rs.enumFrom, enumFrom_eq_zipIdx xs (k + 1)]; rfl

theorem mem_enumerate {l : List β} {i : Nat} {x : β} (h : (i, x) ∈ Rs.enumerate l) : l[i]? = some x := by
  rw [Rs.enumerate, enumFrom_eq_zipIdx, List.mem_map] at h
  obtain ⟨p, hp, he⟩ := h
  cases he
  exact List.mem_zipIdx_iff_getElem?.1 hp

/-- reading a second list `m` at the running index while enumerating `l` from `k` pairs `l` with `m` from position `k` on -/
theorem enumFrom_map_getD {γ δ : Type} (g : β → γ → δ) (d : γ) : ∀ (l : List β) (m : List γ) (k : Nat), k + l.length ≤ m.length →
    (Rs.enumFrom k l).map (fun p => g p.2 (m.getD p.1 d)) = List.zipWith g l (m.drop k)
  | [], _, _, _ => rfl
  | x :: xs, m, k, h => by
    have hk : k < m.length := Nat.lt_of_lt_of_le (Nat.lt_add_of_pos_right (Nat.succ_pos _)) h
    rw [Rs.enumFrom, List.map_cons, List.drop_eq_getElem_cons hk, List.zipWith_cons_cons,
      enumFrom_map_getD g d xs m (k + 1) (by rw [List.length_cons] at h; omega),
      List.getD_eq_getElem?_getD, List.getElem?_eq_getElem hk, Option.getD_some]

/-- the range test of `index_at` (a short-circuit `any` over `coords.iter().enumerate()` that indexes both vectors) is `anyOut` -/
theorem index_at_any (s c : List Nat) (hl : s.length = c.length) (p : Nat × Nat → Res Bool)
    (hp : ∀ i x, p (i, x) = (Rs.index c i >>= fun t1 => Rs.index s i >>= fun t2 => Res.ok (decide (t1 ≥ t2)))) :
    Rs.anyM (Rs.enumerate c) p = .ok (anyOut s c) := by
  rw [anyM_eq_any p (fun q => decide (q.2 ≥ s.getD q.1 0))]
  · have h : (Rs.enumerate c).map (fun q => (s.getD q.1 0, q.2)) = s.zip c := by
      rw [List.zip_eq_zipWith, List.zipWith_comm]
      exact enumFrom_map_getD (fun x d => (d, x)) 0 c s 0 (by omega)
    rw [anyOut, ← h, List.any_map]; rfl
  · rintro ⟨i, x⟩ hm
    have hx := mem_enumerate hm
    have hi : i < c.length := (List.getElem?_eq_some_iff.1 hx).1
    rw [hp, idx_of_getElem? hx, Res.bind_ok, idx_getD s i (hl ▸ hi), Res.bind_ok]

/-- the stride fold of `index_at` (over `shape.iter().enumerate().rev()`, indexing `coords`) is `indexAtFold` -/
theorem index_at_fold (s c : List Nat) (hl : s.length = c.length) (f : Nat × Nat → Nat × Nat → Res (Nat × Nat))
    (hf : ∀ acc i d, f acc (i, d) = (Rs.index c i >>= fun t => Res.ok (acc.1 + t * acc.2, acc.2 * d))) :
    Rs.foldM (Rs.rev (Rs.enumerate s)) (0, 1) f = .ok (indexAtFold s c) := by
  rw [foldM_eq_foldl f (fun acc q => (acc.1 + c.getD q.1 0 * acc.2, acc.2 * q.2))]
  · have h : (Rs.enumerate s).map (fun q => (q.2, c.getD q.1 0)) = s.zip c := by
      rw [List.zip_eq_zipWith]
      exact enumFrom_map_getD Prod.mk 0 s c 0 (by omega)
    rw [indexAtFold, ← h, ← List.map_reverse, List.foldl_map]
  · rintro acc ⟨i, d⟩ hm
    have hi : i < s.length := (List.getElem?_eq_some_iff.1 (mem_enumerate (List.mem_reverse.1 hm))).1
    rw [hf, idx_getD c i (hl ▸ hi), Res.bind_ok]

/-- **`index_at` as translated from the source is `Arr.indexAt`** (all inputs) -/
theorem index_at_eq (a : Arr α) (c : List Nat) : Array_index_at a c = a.indexAt c := by
  unfold Array_index_at Arr.indexAt
  by_cases hl : a.shape.length = c.length
  · simp only [hl, bne_self_eq_false, Bool.false_eq_true, if_false, ne_eq, not_true_eq_false]
    rw [index_at_any a.shape c hl _ (fun i x => rfl), Res.bind_ok]
    cases anyOut a.shape c
    · simp only [Bool.false_eq_true, if_false]
      rw [index_at_fold a.shape c hl _ (fun acc i d => rfl)]; rfl
    · simp
  · simp [hl]

theorem at_eq (a : Arr α) (c : List Nat) : Array_at a c = a.atc c := by
  unfold Array_at Arr.atc
  rw [index_at_eq]
  cases a.indexAt c <;> simp [idx_eq]

/-- the div/mod fold of `index_to_coord` is `unravelFold` when no axis has length zero (`% 0` would panic) -/
theorem index_to_coord_fold (s : List Nat) (i : Nat) (hs : 0 ∉ s) (f : Nat × List Nat → Nat → Res (Nat × List Nat))
    (hf : ∀ acc d, f acc d = (Rs.urem acc.1 d >>= fun t4 => Rs.udiv acc.1 d >>= fun t5 => Res.ok (t5, acc.2 ++ [t4]))) :
    (Rs.foldM (Rs.rev s) (i, []) f >>= fun t => Res.ok (Rs.rev t.2)) = .ok (unravelFold s i) := by
  rw [foldM_eq_foldl f (fun acc d => (acc.1 / d, acc.2 ++ [acc.1 % d]))]
  · rfl
  · intro acc d hd
    have : d ≠ 0 := fun h => hs (h ▸ List.mem_reverse.1 hd)
    rw [hf, urem_of_pos this, udiv_of_pos this]; rfl

/-- **`index_to_coord` as translated from the source is `Arr.indexToCoord`** whenever no axis length is zero or the
index is refused; in particular on every well-formed array (`index_to_coord_eq`).  With a zero axis length and an
accepted index (only possible on an ill-formed array) the Rust panics on `% 0`. -/
theorem index_to_coord_eq' (a : Arr α) (i : Nat) (h : 0 ∉ a.shape ∨ a.len ≤ i) :
    Array_index_to_coord a i = a.indexToCoord i := by
  unfold Array_index_to_coord Arr.indexToCoord
  simp only [len_eq, Res.bind_ok, decide_eq_true_eq]
  split
  · rfl
  · exact index_to_coord_fold a.shape i (h.resolve_right ‹_›) _ (fun acc d => rfl)

theorem index_to_coord_eq (a : Arr α) (hwf : a.WF) (i : Nat) : Array_index_to_coord a i = a.indexToCoord i := by
  apply index_to_coord_eq'
  by_cases hi : a.len ≤ i
  · exact .inr hi
  · left; intro h0
    have := prod_eq_zero_of_mem a.shape h0
    unfold Arr.WF at hwf; unfold Arr.len at hi; omega

/-! ## axis / dimension / compare validators, `vec_ext` -/

theorem axis_in_bounds_eq (a : Arr α) (ax : Nat) :
    Array_axis_in_bounds a ax = if ax < a.ndim then .ok () else .err .AxisOutOfBounds := by
  simp only [Array_axis_in_bounds, ndim_eq, Res.bind_ok, decide_eq_true_eq, ge_iff_le, ← Nat.not_lt, ite_not]

theorem axis_opt_in_bounds_eq (a : Arr α) (ax : Option Nat) :
    Array_axis_opt_in_bounds a ax = match ax with | none => .ok () | some x => Array_axis_in_bounds a x := by
  cases ax <;> simp [Array_axis_opt_in_bounds, Array_axis_in_bounds, Rs.unwrap, Res.unwrap]

theorem usize_is_dim_supported_eq (n : Nat) (l : List Nat) :
    usize_is_dim_supported n l = if n ∈ l then .ok () else .err .UnsupportedDimension := by
  simp [usize_is_dim_supported]

theorem usize_is_dim_unsupported_eq (n : Nat) (l : List Nat) :
    usize_is_dim_unsupported n l = if n ∉ l then .ok () else .err .UnsupportedDimension := by
  simp [usize_is_dim_unsupported]

theorem is_dim_supported_eq (a : Arr α) (l : List Nat) : Array_is_dim_supported a l = usize_is_dim_supported a.ndim l := by
  simp [Array_is_dim_supported, usize_is_dim_supported, ndim_eq]

theorem is_dim_unsupported_eq (a : Arr α) (l : List Nat) : Array_is_dim_unsupported a l = usize_is_dim_unsupported a.ndim l := by
  simp [Array_is_dim_unsupported, usize_is_dim_unsupported, ndim_eq]

theorem is_equal_ok_iff [BEq α] (x y : α) : T_is_equal x y = .ok () ↔ (x == y) = true := check_ok_iff

theorem is_equal_spec [DecidableEq α] (x y : α) : T_is_equal x y = (if x = y then Res.ok () else Res.err .MustBeEqual) := by
  simp [T_is_equal]

theorem is_at_least_eq [LE α] [DecidableLE α] (x y : α) :
    T_is_at_least x y = (if y ≤ x then .ok () else .err .MustBeAtLeast) := by
  simp [T_is_at_least]

theorem is_at_least_ok_iff [LE α] [DecidableLE α] (x y : α) : T_is_at_least x y = .ok () ↔ y ≤ x := by
  rw [is_at_least_eq]; exact check_ok_iff

theorem remove_at_eq (l : List β) (i : Nat) : Vec_remove_at l i = Arr.vecRemove l i := rfl
theorem remove_at_if_eq (l : List β) (i : Nat) (b : Bool) : Vec_remove_at_if l i b = if b then Arr.vecRemove l i else .ok l := rfl
theorem insert_at_eq (l : List β) (i : Nat) (x : β) : Vec_insert_at l i x = Arr.vecInsert l i x := rfl
theorem update_at_eq (l : List β) (i : Nat) (x : β) : Vec_update_at l i x = if i < l.length then .ok (l.set i x) else .panic := rfl
theorem reverse_ext_eq (l : List β) : Vec_reverse_ext l = l.reverse := rfl
theorem reverse_if_eq (l : List β) (b : Bool) : Vec_reverse_if l b = if b then l.reverse else l := rfl
theorem swap_ext_eq (l : List β) (i j : Nat) :
    Vec_swap_ext l i j = if i < l.length ∧ j < l.length then .ok (listSwap l i j) else .panic := vecSwap_eq l i j

/-! ## C01: in the translated funnel shape and element count never disagree -/

/-- **`Array::new` accepts exactly the matching pairs** and then stores both arguments unchanged -/
theorem c01_gen_new_ok_iff (e : List α) (s : List Nat) (r : Arr α) :
    Array_new e s = .ok r ↔ (s.prod = e.length ∧ r = ⟨e, s⟩) := by
  rw [new_eq]; exact Arr.new_eq_ok_iff

theorem c01_gen_new_err (e : List α) (s : List Nat) (h : s.prod ≠ e.length) :
    Array_new e s = .err .ShapeMustMatchValuesLength := by
  rw [new_eq]; exact Arr.new_of_not_prod h

theorem c01_gen_new_never_panics (e : List α) (s : List Nat) : Array_new e s ≠ .panic := by
  rw [new_eq]; exact Arr.new_ne_panic e s

/-- whatever `Array::new` returns is well formed -/
theorem c01_gen_new_wf (e : List α) (s : List Nat) (r : Arr α) (h : Array_new e s = .ok r) : r.WF :=
  Arr.new_wf (new_eq e s ▸ h)

theorem c01_gen_create_wf (e : List α) (s : List Nat) (nd : Option Nat) (r : Arr α) (h : Array_create e s nd = .ok r) : r.WF := by
  rw [create_eq] at h
  refine Res.All.ite (P := Arr.WF) (fun _ => Res.All.bind' fun _ _ => Arr.reshape_wf) (fun _ _ => Arr.new_wf) r h

theorem c01_gen_single_wf (x : α) : ∃ r, Array_single x = .ok r ∧ r.WF ∧ r.elems = [x] ∧ r.shape = [1] :=
  ⟨_, single_eq x, rfl, rfl, rfl⟩

theorem c01_gen_flat_wf (e : List α) : ∃ r, Array_flat e = .ok r ∧ r.WF ∧ r.elems = e ∧ r.shape = [e.length] :=
  ⟨_, flat_eq e, Arr.flat_wf e, rfl, rfl⟩

theorem c01_gen_empty_wf : ∃ r : Arr α, Array_empty = .ok r ∧ r.WF ∧ r.elems = [] ∧ r.shape = [0] :=
  ⟨_, empty_eq, rfl, rfl, rfl⟩

/-- `collect::<Array<_>>()` never panics and yields the well-formed flat array of the items -/
theorem c01_gen_from_iter_wf (l : List α) : ∃ r, Array_from_iter l = .ok r ∧ r.WF ∧ r.elems = l ∧ r.shape = [l.length] :=
  ⟨_, from_iter_eq l, Arr.flat_wf l, rfl, rfl⟩

theorem c01_gen_reshape_wf (a r : Arr α) (s : List Nat) (h : Array_reshape a s = .ok r) : r.WF ∧ r.elems = a.elems ∧ r.shape = s := by
  rw [reshape_eq] at h
  obtain ⟨hp, rfl⟩ := Arr.reshape_eq_ok_iff.1 h
  exact ⟨hp.symm, rfl, rfl⟩

/-- meaning of the observers on a well-formed array: `len` is the product of the shape, `ndim` its length,
`is_empty` says whether that product is zero; none of them fails -/
theorem c01_gen_len (a : Arr α) (hwf : a.WF) : Array_len a = .ok a.shape.prod := by rw [len_eq, Arr.len, hwf]
theorem c01_gen_ndim (a : Arr α) : Array_ndim a = .ok a.shape.length := rfl
theorem c01_gen_is_empty (a : Arr α) (hwf : a.WF) : Array_is_empty a = .ok (a.shape.prod == 0) := by
  rw [is_empty_eq, Arr.isEmpty, hwf]
theorem c01_gen_get (a : Arr α) : Array_get_elements a = .ok a.elems ∧ Array_get_shape a = .ok a.shape := ⟨rfl, rfl⟩

/-! ## C09: the validators refuse exactly the inputs they should, with an error value, and never panic -/

theorem c09_gen_axis_in_bounds_ok_iff (a : Arr α) (ax : Nat) : Array_axis_in_bounds a ax = .ok () ↔ ax < a.ndim := by
  rw [axis_in_bounds_eq]; exact check_ok_iff

theorem c09_gen_axis_in_bounds_err_iff (a : Arr α) (ax : Nat) :
    Array_axis_in_bounds a ax = .err .AxisOutOfBounds ↔ a.ndim ≤ ax := by
  rw [axis_in_bounds_eq]; exact check_err_iff.trans Nat.not_lt

theorem c09_gen_axis_in_bounds_never_panics (a : Arr α) (ax : Nat) : Array_axis_in_bounds a ax ≠ .panic := by
  rw [axis_in_bounds_eq]; exact check_ne_panic

theorem c09_gen_axis_opt_in_bounds_ok_iff (a : Arr α) (ax : Option Nat) :
    Array_axis_opt_in_bounds a ax = .ok () ↔ ∀ x, ax = some x → x < a.ndim := by
  rw [axis_opt_in_bounds_eq]
  cases ax with
  | none => simp
  | some x => simp [c09_gen_axis_in_bounds_ok_iff]

theorem c09_gen_axis_opt_in_bounds_err_iff (a : Arr α) (ax : Option Nat) :
    Array_axis_opt_in_bounds a ax = .err .AxisOutOfBounds ↔ ∃ x, ax = some x ∧ a.ndim ≤ x := by
  rw [axis_opt_in_bounds_eq]
  cases ax with
  | none => simp
  | some x => simp [c09_gen_axis_in_bounds_err_iff]

theorem c09_gen_axis_opt_in_bounds_never_panics (a : Arr α) (ax : Option Nat) : Array_axis_opt_in_bounds a ax ≠ .panic := by
  rw [axis_opt_in_bounds_eq]
  cases ax with
  | none => nofun
  | some x => exact c09_gen_axis_in_bounds_never_panics a x

theorem c09_gen_is_dim_supported_ok_iff (a : Arr α) (l : List Nat) : Array_is_dim_supported a l = .ok () ↔ a.ndim ∈ l := by
  rw [is_dim_supported_eq, usize_is_dim_supported_eq]; exact check_ok_iff

theorem c09_gen_is_dim_supported_err_iff (a : Arr α) (l : List Nat) :
    Array_is_dim_supported a l = .err .UnsupportedDimension ↔ a.ndim ∉ l := by
  rw [is_dim_supported_eq, usize_is_dim_supported_eq]; exact check_err_iff

theorem c09_gen_is_dim_unsupported_ok_iff (a : Arr α) (l : List Nat) : Array_is_dim_unsupported a l = .ok () ↔ a.ndim ∉ l := by
  rw [is_dim_unsupported_eq, usize_is_dim_unsupported_eq]; exact check_ok_iff

theorem c09_gen_is_dim_unsupported_err_iff (a : Arr α) (l : List Nat) :
    Array_is_dim_unsupported a l = .err .UnsupportedDimension ↔ a.ndim ∈ l := by
  rw [is_dim_unsupported_eq, usize_is_dim_unsupported_eq]; exact check_err_iff.trans Decidable.not_not

theorem c09_gen_usize_is_dim_never_panics (n : Nat) (l : List Nat) :
    usize_is_dim_supported n l ≠ .panic ∧ usize_is_dim_unsupported n l ≠ .panic := by
  rw [usize_is_dim_supported_eq, usize_is_dim_unsupported_eq]; exact ⟨check_ne_panic, check_ne_panic⟩

theorem c09_gen_is_dim_never_panics (a : Arr α) (l : List Nat) :
    Array_is_dim_supported a l ≠ .panic ∧ Array_is_dim_unsupported a l ≠ .panic := by
  rw [is_dim_supported_eq, is_dim_unsupported_eq]; exact c09_gen_usize_is_dim_never_panics a.ndim l

/-- the shape validators answer with a value (never a panic); `shapes_align` is the exception: it indexes both shapes -/
theorem c09_gen_shape_validators_never_panic (s t : List Nat) (e : List β) :
    Vec_is_broadcastable s t ≠ .panic ∧ Vec_matches_values_len s e ≠ .panic ∧ Vec_matches_shape s t ≠ .panic := by
  rw [matches_values_len_eq, matches_shape_eq]
  exact ⟨is_broadcastable_never_panics s t, check_ne_panic, check_ne_panic⟩

theorem c09_gen_shapes_align_never_panics (s t : List Nat) (i j : Nat) (hi : i < s.length) (hj : j < t.length) :
    Vec_shapes_align s i t j ≠ .panic := by
  rw [shapes_align_eq]
  simp only [List.getElem?_eq_getElem hi, List.getElem?_eq_getElem hj]
  exact check_ne_panic

end ArrModel.Gen.Core

/-! ## equality up to the error variant

The properties say "an error", never which one, and the execution tie does not compare variants either.  For functions with several
independent validations (`moveaxis_sim` in GenCoreAxis) the generated code is therefore identified with the hand-written model up to
the error variant: reordering two validations in the source only changes the variant reported when both fail. -/

namespace ArrModel
/-- same outcome class, same value when `ok` -/
def Res.sameClass {γ : Type} : Res γ → Res γ → Prop
  | .ok a, .ok b => a = b
  | .err _, .err _ => True
  | .panic, .panic => True
  | _, _ => False

namespace Res
variable {γ : Type}
@[simp] theorem sameClass_ok_ok (a b : γ) : sameClass (.ok a) (.ok b) ↔ a = b := Iff.rfl
@[simp] theorem sameClass_err_err (e f : Err) : sameClass (.err e : Res γ) (.err f) := trivial
@[simp] theorem sameClass_panic_panic : sameClass (.panic : Res γ) .panic := trivial
@[simp] theorem sameClass_ok_err (a : γ) (e : Err) : ¬ sameClass (.ok a) (.err e) := id
@[simp] theorem sameClass_err_ok (a : γ) (e : Err) : ¬ sameClass (.err e) (.ok a) := id
@[simp] theorem sameClass_ok_panic (a : γ) : ¬ sameClass (.ok a) .panic := id
@[simp] theorem sameClass_panic_ok (a : γ) : ¬ sameClass .panic (.ok a) := id
@[simp] theorem sameClass_err_panic (e : Err) : ¬ sameClass (.err e : Res γ) .panic := id
@[simp] theorem sameClass_panic_err (e : Err) : ¬ sameClass (.panic : Res γ) (.err e) := id
@[simp] theorem sameClass_self (r : Res γ) : sameClass r r := by cases r <;> simp
theorem sameClass_of_eq {r s : Res γ} (h : r = s) : sameClass r s := h ▸ sameClass_self r
theorem sameClass_symm {r s : Res γ} (h : sameClass r s) : sameClass s r := by
  cases r <;> cases s <;> simp_all
theorem sameClass_ok_right {r : Res γ} {a : γ} (h : sameClass r (.ok a)) : r = .ok a := by
  cases r <;> simp_all
theorem sameClass_ok_left {r : Res γ} {a : γ} (h : sameClass (.ok a) r) : r = .ok a := by
  cases r <;> simp_all
theorem sameClass_err_right {r : Res γ} {e : Err} (h : sameClass r (.err e)) : ∃ e', r = .err e' := by
  cases r <;> simp_all
theorem sameClass_not_panic {r s : Res γ} (h : sameClass r s) (hs : s ≠ .panic) : r ≠ .panic := by
  cases r <;> cases s <;> simp_all
end Res

theorem bdim_ne_panic (d1 d2 : Nat) : bdim d1 d2 ≠ .panic :=
  Res.ite_ne_panic (fun _ => nofun) fun _ => Res.ite_ne_panic (fun _ => nofun) fun _ => nofun

end ArrModel
