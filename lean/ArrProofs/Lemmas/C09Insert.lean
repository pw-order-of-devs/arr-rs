import ArrProofs.Lemmas.InsertAxis
import ArrProofs.Lemmas.C09
import ArrProofs.Lemmas.C09Total
import ArrProofs.Props.C11
import ArrProofs.Props.C13
/-!
# Lemmas.C09Insert — `insert(indices, values, Some(axis))` never panics (`Arr.insertAxis`, `ArrModel/C01Diff.lean`)

The model has two panic arms on receivers of rank >= 2: `Vec::insert` above the length of the piece list, and the division by the
slice length.  Neither is reachable on a well-formed receiver:
* a zero-length off-axis makes the fit loop answer `BroadcastShapeMismatch` (`insertFit_zero`, `Res.foldl_bind_blocked`), so the
  slice length is positive wherever the division is reached;
* `split_axis` hands out `shape[axis]` pieces (`splitAxis_length`) and every index is at most `shape[axis]`; on an empty receiver
  it hands out one piece, and then - no off-axis being empty - the axis itself has length 0 and every admissible index is 0;
* every step in between (`create`, `repeat` along axis 0, `moveaxis`, `split`, `reshape`, `transpose`) is total on well-formed
  arrays, and well-formedness is an invariant of the fit loop (`insertFit_np_wf`, `Res.foldl_bind_inv`).

The proofs go stage by stage along `Arr.insertAxis_eq` (`Lemmas/InsertAxis.lean`).

Second part: the number of insertion points against the rows of the values.  With values of the receiver's rank whose other axes
match exactly, `to_array_ndim` and the fit loop (`Res.foldl_bind_id`) hand the values on unchanged, and `insertVals` refuses an
element count that is not a multiple of (slice length x number of insertion points): `insertAxis_uneven_not_ok`.  Behind that
guard `moveaxis` keeps the element count (`moveaxis_ok_length`) and `split(k, None)` of the flattened values refuses a count that
is not a multiple of `k` (`split_flat_uneven`).
-/
namespace ArrModel.C09
open ArrModel Arr

variable {α : Type}

theorem create_ne_panic (es : List α) (sh : List Nat) (nd : Option Nat) : Arr.create es sh nd ≠ .panic := by
  unfold Arr.create
  exact Res.ite_ne_panic (fun _ => Res.bind_ne_panic (new_ne_panic _ _) fun _ _ => new_ne_panic _ _) fun _ => new_ne_panic _ _

theorem create_ok_wf (e : List α) (s : List Nat) (nd : Option Nat) : Res.All Arr.WF (Arr.create e s nd) := by
  unfold Arr.create
  exact Res.All.ite (fun _ => Res.All.bind' fun _ _ => reshape_wf) fun _ _ => new_wf

/-- `repeat` along an axis: never a panic on a well-formed array, and an `ok` result is well-formed -/
theorem repeatAxis_np_wf (x : Arr α) (zero : α) (reps : List Nat) (k : Nat) (hx : x.WF) :
    x.repeatAxis zero reps k ≠ .panic ∧ Res.All Arr.WF (x.repeatAxis zero reps k) := by
  rcases C13.repeatAxis_total x zero reps k hx with ⟨_, h⟩ | ⟨_, _, h⟩ | ⟨_, _, _, r, h, _, hr⟩
  · rw [h]; exact ⟨nofun, nofun⟩
  · rw [h]; exact ⟨nofun, nofun⟩
  · rw [h]; exact ⟨nofun, .ok hr⟩

/-- the receiver's shape without the axis, read through the positions that the fit loop visits -/
theorem mem_eraseIdx_shape (s : List Nat) (axis : Nat) (x : Nat) (hx : x ∈ s.eraseIdx axis) :
    ∃ i ∈ ((List.range s.length).eraseIdx axis).reverse, s.getD i 0 = x := by
  rw [List.mem_eraseIdx_iff_getElem] at hx
  obtain ⟨i, hi, hne, hxe⟩ := hx
  refine ⟨i, ?_, ?_⟩
  · rw [List.mem_reverse, List.mem_eraseIdx_iff_getElem]
    exact ⟨i, by simpa using hi, hne, by simp⟩
  · simp [List.getD_eq_getElem?_getD, hi, hxe]

/-! ### the stages -/

theorem insertFit_np_wf (a : Arr α) (zero : α) (vst : List Nat) (i : Nat) (g : Arr α) (hg : g.WF) :
    insertFit a zero vst i g ≠ .panic ∧ Res.All Arr.WF (insertFit a zero vst i g) := by
  have hr := repeatAxis_np_wf g zero [a.shape.getD i 0 / vst.getD i 0] 0 hg
  unfold insertFit
  refine ⟨?_, ?_⟩
  · refine Res.ite_ne_panic nofun fun _ => Res.ite_ne_panic nofun fun _ => Res.ite_ne_panic nofun fun _ => ?_
    exact Res.ite_ne_panic (fun _ => Res.bind_ne_panic hr.1 fun _ _ => create_ne_panic _ _ _) nofun
  · refine .ite (fun _ => .err) fun _ => .ite (fun _ => .err) fun _ => .ite (fun _ => .err) fun _ => ?_
    exact .ite (fun _ => .bind' fun _ => create_ok_wf _ _ _) fun _ => .ok hg

/-- an off-axis of length 0 is refused by its round of the fit loop -/
theorem insertFit_zero (a : Arr α) (zero : α) (vst : List Nat) {i : Nat} (h0 : a.shape.getD i 0 = 0) (g g' : Arr α) :
    insertFit a zero vst i g ≠ .ok g' := by
  unfold insertFit
  dsimp only
  rw [h0]
  split
  · nofun
  · rw [if_pos (by omega)]; nofun

theorem insertVals_ne_panic (a : Arr α) (zero : α) (indices : List Nat) (axis : Nat) (v1 : Arr α) (hv1 : v1.WF) :
    insertVals a zero indices axis v1 ≠ .panic := by
  unfold insertVals
  refine Res.ite_ne_panic (fun _ => Res.bind_ne_panic ?_ fun v2 _ => Res.ite_ne_panic nofun fun _ => ?_) nofun
  · exact Res.ite_ne_panic (fun _ => (repeatAxis_np_wf v1 zero _ 0 hv1).1) nofun
  · refine Res.bind_ne_panic (C06.moveaxis_never_panics _ _ _ _) fun m _ => ?_
    rw [C11.split_none]
    exact C11.split_ne_panic _ zero (ravel_wf m) indices.length 0

/-- `Vec::insert` at positions that do not exceed the original length never panics (the vector only grows) -/
theorem insertPieces_ne_panic (indices : List Nat) (vals arrays : List (Arr α)) (h : ∀ i ∈ indices, i ≤ arrays.length) :
    insertPieces indices vals arrays ≠ .panic := by
  refine (Res.foldl_bind_inv (fun arrs : List (Arr α) => arrays.length ≤ arrs.length) (fun (p : Nat × Arr α) arrs => vecInsert arrs p.1 p.2) _
    (fun p hp g hg => ?_) (.ok arrays) ⟨nofun, fun g e => Res.ok.inj e ▸ Nat.le_refl _⟩).1
  have hp1 : p.1 ≤ g.length := Nat.le_trans (h p.1 (List.mem_reverse.mp (List.of_mem_zip hp).1)) hg
  unfold vecInsert
  rw [if_neg (Nat.not_lt.mpr hp1)]
  refine ⟨nofun, fun g' e => ?_⟩
  rw [← Res.ok.inj e, List.length_insertIdx_of_le_length hp1]
  omega

theorem insertGlue_ne_panic (a : Arr α) (zero : α) (axis : Nat) (arrays : List (Arr α)) (hrem : (a.shape.eraseIdx axis).prod ≠ 0) :
    insertGlue a zero axis arrays ≠ .panic := by
  unfold insertGlue
  dsimp only
  rw [if_neg hrem]
  exact Res.bind_ne_panic (reshape_ne_panic _ _) fun _ _ => C06.transpose_never_panics _ _ _

/-- on a receiver without a zero-length axis `split_axis` hands out `shape[axis]` pieces -/
theorem splitAxis_length (a : Arr α) (zero : α) (axis : Nat) (ha : a.WF) (hnz : 0 ∉ a.shape) (hax : axis < a.ndim) (hn1 : a.ndim ≠ 1)
    {arrays : List (Arr α)} (h : a.splitAxis zero axis = .ok arrays) : arrays.length = a.shape.getD axis 0 := by
  have hpos : 0 < a.shape.getD axis 0 := by
    rw [getD_eq_getElem 0 hax]
    exact Nat.pos_of_ne_zero fun e => hnz (e ▸ List.getElem_mem hax)
  have hne : a.isEmpty = false := by
    have hp := prod_pos_of a.shape fun d hd => Nat.pos_of_ne_zero fun e => hnz (e ▸ hd)
    unfold Arr.isEmpty
    rw [ha]
    exact beq_false_of_ne (by omega)
  unfold Arr.splitAxis at h
  rw [if_neg (by omega), hne, beq_false_of_ne hn1] at h
  simp only [Bool.or_false, Bool.false_eq_true, if_false] at h
  rw [Res.idx_of_lt hax, Res.bind_ok, ← getD_eq_getElem 0 hax] at h
  obtain ⟨pieces, h1, h2, _⟩ := C11.arraySplit_at a zero (a.shape.getD axis 0) axis ha hnz hpos hax
  rw [h1] at h
  exact Res.ok.inj h ▸ h2

theorem insertAxisCore_ne_panic (a : Arr α) (zero : α) (indices : List Nat) (v : Arr α) (axis : Nat) (ha : a.WF)
    (hax : axis < a.ndim) (hn1 : a.ndim ≠ 1) (hix : ∀ i ∈ indices, i ≤ a.shape.getD axis 0) :
    insertAxisCore a zero indices v axis ≠ .panic := by
  unfold insertAxisCore
  refine Res.bind_ne_panic (C11.splitAxis_ne_panic a zero ha axis) fun arrays harr => ?_
  refine Res.bind_ne_panic (create_ne_panic _ _ _) fun v0 hv0 => ?_
  have hfit := Res.foldl_bind_inv Arr.WF (insertFit a zero (swapExt v0.shape 0 axis)) ((List.range a.ndim).eraseIdx axis).reverse
    (fun i _ g hg => insertFit_np_wf a zero _ i g hg) (.ok v0) ⟨nofun, fun g e => Res.ok.inj e ▸ create_ok_wf _ _ _ v0 hv0⟩
  refine Res.bind_ne_panic hfit.1 fun v1 hv1 => ?_
  by_cases hz : ∃ i ∈ ((List.range a.ndim).eraseIdx axis).reverse, a.shape.getD i 0 = 0
  · -- a zero-length off-axis: the fit loop refuses
    obtain ⟨b, hb, hb0⟩ := hz
    exact absurd hv1 (Res.foldl_bind_blocked _ _ b hb (insertFit_zero a zero _ hb0) _ v1)
  -- every off-axis is non-empty: the slice length is positive
  have hrem : (a.shape.eraseIdx axis).prod ≠ 0 :=
    Nat.pos_iff_ne_zero.mp (prod_pos_of _ fun d hd => Nat.pos_of_ne_zero fun e =>
      have ⟨i, hi, hi0⟩ := mem_eraseIdx_shape a.shape axis 0 (e ▸ hd); hz ⟨i, hi, hi0⟩)
  refine Res.bind_ne_panic (insertVals_ne_panic a zero indices axis v1 (hfit.2 v1 hv1)) fun vals _ => ?_
  refine Res.bind_ne_panic (insertPieces_ne_panic indices vals arrays fun i hi => ?_) fun arrays' _ =>
    insertGlue_ne_panic a zero axis arrays' hrem
  by_cases hb0 : a.shape.getD axis 0 = 0
  · have := hix i hi; omega
  -- no zero axis at all: `split_axis` hands out `shape[axis]` pieces
  have hnz : 0 ∉ a.shape := by
    intro h0
    obtain ⟨j, hj, hj0⟩ := List.mem_iff_getElem.mp h0
    by_cases hja : j = axis
    · exact hb0 (by rw [← hja, getD_eq_getElem 0 hj, hj0])
    · refine hz ⟨j, ?_, by rw [getD_eq_getElem 0 hj, hj0]⟩
      rw [List.mem_reverse, List.mem_eraseIdx_iff_getElem]
      exact ⟨j, by simpa [Arr.ndim] using hj, hja, by simp⟩
  rw [splitAxis_length a zero axis ha hnz hax hn1 harr]
  exact hix i hi

/-- **`insert` with an axis never panics** on a well-formed receiver, for every index list, every values array and every axis -/
theorem insertAxis_ne_panic (a : Arr α) (zero : α) (indices : List Nat) (v : Arr α) (axis : Nat) (ha : a.WF) :
    a.insertAxis zero indices v axis ≠ .panic := by
  rw [insertAxis_eq]
  refine Res.ite_ne_panic nofun fun hax => Res.ite_ne_panic nofun fun hidx => Res.ite_ne_panic nofun fun _ => ?_
  refine Res.ite_ne_panic (fun _ => C13.insertFlat_no_panic a indices v) fun hn1 => Res.ite_ne_panic nofun fun _ => ?_
  refine insertAxisCore_ne_panic a zero indices v axis ha (Nat.lt_of_not_le hax) hn1 fun i hi => ?_
  refine Classical.byContradiction fun hc => hidx (List.any_eq_true.mpr ⟨i, hi, ?_⟩)
  simpa using Nat.lt_of_not_le hc

/-! ## the rows of the values against the insertion points -/

/-- **rows against insertion points** (the three-argument relation of `insert` along an axis): on a receiver of rank >= 2, a values
array of the receiver's rank whose other axes match the receiver exactly, which is not the single slice and whose element count is
not a multiple of (slice length x number of insertion points) - i.e. whose whole slices cannot be distributed equally over the two
or more insertion points - is not accepted (/repo 34ccd75) -/
theorem insertAxis_uneven_not_ok (a v : Arr α) (zero : α) (indices : List Nat) (axis : Nat) (hv : v.WF)
    (hn1 : a.ndim ≠ 1) (hk : 1 < indices.length) (hvr : v.ndim = a.ndim)
    (hfit : ∀ i, i < a.ndim → i ≠ axis → (swapExt v.shape 0 axis).getD i 0 = a.shape.getD i 0 ∧ a.shape.getD i 0 ≠ 0)
    (hone : v.len ≠ (a.shape.eraseIdx axis).prod) (hrows : v.len % ((a.shape.eraseIdx axis).prod * indices.length) ≠ 0) :
    ∀ r, a.insertAxis zero indices v axis ≠ .ok r := by
  intro r h
  rcases (insertAxis_eq_ok h).2 with ⟨h1, _⟩ | ⟨_, h⟩
  · exact hn1 h1
  unfold insertAxisCore at h
  simp only [Res.bind_eq_ok_iff] at h
  obtain ⟨arrays, _, v0, hv0, v1, hv1, vals, hvals, _⟩ := h
  -- `to_array_ndim` of a values array of the receiver's rank is the array itself
  have hv0e : v0 = v := by
    unfold Arr.create at hv0
    dsimp only at hv0
    rw [if_neg (by simp only [Option.getD_some]; unfold Arr.ndim at hvr ⊢; omega), new_of_prod hv.symm] at hv0
    exact (Res.ok.inj hv0).symm
  subst hv0e
  -- the fit loop hands the values on unchanged
  rw [Res.foldl_bind_id _ _ fun i hi g => ?fit] at hv1
  case fit =>
    rw [List.mem_reverse, List.mem_eraseIdx_iff_getElem] at hi
    obtain ⟨j, hj, hne, hji⟩ := hi
    have hij : i = j := by simpa using hji.symm
    obtain ⟨h1, h2⟩ := hfit i (hij ▸ by simpa using hj) (hij ▸ hne)
    unfold insertFit
    dsimp only
    rw [h1, if_neg h2, if_neg (Nat.lt_irrefl _), if_neg (by simp), if_neg (Nat.lt_irrefl _)]
  cases hv1
  unfold insertVals at hvals
  simp only [if_pos hk, if_neg hone, Res.bind_ok] at hvals
  -- the guard of `insertVals` (/repo 34ccd75)
  rw [if_pos hrows] at hvals
  cases hvals

theorem moveaxis_ok_length (x : Arr α) (zero : α) (s d : List Int) {m : Arr α} (h : x.moveaxis zero s d = .ok m) :
    m.elems.length = x.elems.length := by
  have htr : ∀ ax, Res.All (fun m : Arr α => m.elems.length = x.elems.length) (x.transpose zero ax) := fun ax =>
    .bind' fun _ m hm => (new_eq_ok_iff.mp hm).2 ▸ transposeElems_length _ _ _ _
  have hall : Res.All (fun m : Arr α => m.elems.length = x.elems.length) (x.moveaxis zero s d) :=
    .ite (fun _ => .err) fun _ => .ite (fun _ => .err) fun _ => .ite (fun _ => .err) fun _ => .ite (fun _ => .err) fun _ => htr _
  exact hall m h

/-- `split(parts, None)` of a flat buffer whose length is not a multiple of the part count is refused -/
theorem split_flat_uneven (es : List α) (zero : α) (k : Nat) (hk : es.length % k ≠ 0) :
    ∀ r, (Arr.flat es).split zero k none ≠ .ok r := by
  intro r h
  unfold Arr.split at h
  have hnd : (Arr.flat es).ndim = 1 := rfl
  simp only [Option.getD_none, hnd, ge_iff_le, Nat.le_zero_eq, Nat.succ_ne_zero, decide_false, Bool.false_eq_true, if_false] at h
  split at h
  · cases h
  split at h
  · rename_i he
    simp only [Arr.isEmpty, Arr.flat, beq_iff_eq] at he
    rw [he] at hk; simp at hk
  · have : Res.idx (Arr.flat es).shape 0 = .ok es.length := by simp [Res.idx, Arr.flat]
    rw [this, Res.bind_ok, if_neg hk] at h
    cases h

end ArrModel.C09
