import ArrProofs.Lemmas.C18Str
/-!
# Lemmas for C18 — the cut-out loops end: fuel bounds, and the `)(` texts of `array_tuple!`

`array_tuple!` takes the first `(` and the first `)` *of the whole text*.  When the first `)` stands directly before the
first `(`, `start..=end` is the empty range at `start`: the iteration pushes an empty piece, inserts a `_` and removes
nothing (no progress: the text grows, the same `(` is still there).  The next iteration then finds `start = end + 2`
and the slice `[start..=end]` panics.  So the loop ends on every text: an iteration either removes the first `(`, or
panics, or is the one no-progress iteration that is followed by a panic.
-/
namespace ArrModel.C18

/-- A loop `run fuel text acc` whose iteration, whatever the fuel, either finishes, or panics, or cuts one piece out and
goes on with a text that is smaller in the measure `μ` or on which the loop always panics: `μ text + 1` iterations are
all it can use. -/
theorem loop_fuel {run : Nat → Str → List Str → Res (List Str × Str)} (μ : Str → Nat)
    (hstep : ∀ s, (∀ f acc, run (f + 1) s acc = .ok (acc.reverse, s)) ∨ (∀ f acc, run (f + 1) s acc = .panic) ∨
      ∃ p s', (∀ f acc, run (f + 1) s acc = run f s' (p :: acc)) ∧ (μ s' < μ s ∨ ∀ f acc, run f s' acc = .panic)) :
    ∀ (n : Nat) (s : Str) (acc : List Str) (k : Nat), μ s ≤ n → run (n + 1 + k) s acc = run (n + 1) s acc := by
  intro n
  induction n with
  | zero =>
    intro s acc k hn
    rw [show 0 + 1 + k = k + 1 by omega]
    rcases hstep s with h | h | ⟨p, s', h, hlt | hp⟩
    · rw [h, h]
    · rw [h, h]
    · omega
    · rw [h, h, hp, hp]
  | succ m ih =>
    intro s acc k hn
    rw [show m + 1 + 1 + k = (m + 1 + k) + 1 by omega]
    rcases hstep s with h | h | ⟨p, s', h, hlt | hp⟩
    · rw [h, h]
    · rw [h, h]
    · rw [h, h, ih s' _ k (by omega)]
    · rw [h, h, hp, hp]

theorem count_cut_lt (c : Char) (g t : Str) (hg : c ∉ g) (hc : c ≠ '_') (i : Nat) :
    (g ++ ['_'] ++ t.drop i).count c < (g ++ c :: t).count c := by
  have := (List.drop_sublist i t).count_le c
  have h0 : List.count c ['_'] = 0 := List.count_eq_zero_of_not_mem (by simpa using hc)
  simp only [List.count_append, List.count_eq_zero_of_not_mem hg, List.count_cons_self, h0]
  omega

/-! ### `array_list!` -/

theorem cutLists_fuel (n : Nat) (s : Str) (acc : List Str) (k : Nat) (h : s.count '&' ≤ n) :
    cutLists (n + 1 + k) s acc = cutLists (n + 1) s acc := by
  refine loop_fuel (List.count '&') (fun s => ?_) n s acc k h
  cases hf : find ['&'] s with
  | none => exact Or.inl fun f acc => by rw [cutLists, hf]
  | some start =>
    obtain ⟨g, t, rfl, hg, rfl⟩ := find_char_some hf
    cases hf2 : find [']'] ((g ++ '&' :: t).drop (g.length + 1)) with
    | none => exact Or.inr (Or.inl fun f acc => by rw [cutLists, hf]; simp only [hf2])
    | some e =>
      cases hsl : slice (g ++ '&' :: t) (g.length + 2) (g.length + e + 1) with
      | err _ => exact Or.inr (Or.inl fun f acc => by rw [cutLists, hf]; simp only [hf2, hsl])
      | panic => exact Or.inr (Or.inl fun f acc => by rw [cutLists, hf]; simp only [hf2, hsl])
      | ok piece =>
        by_cases hr : g.length ≤ g.length + e + 2 ∧ g.length + e + 2 ≤ (g ++ '&' :: t).length
        · refine Or.inr (Or.inr ⟨remove '"' piece, g ++ ['_'] ++ t.drop (e + 1), fun f acc => ?_, Or.inl ?_⟩)
          · have hrr : replaceRange (g ++ '&' :: t) g.length (g.length + e + 2) ['_']
                = .ok (g ++ ['_'] ++ t.drop (e + 1)) := by
              unfold replaceRange
              rw [if_pos hr, List.take_left' rfl, show g.length + e + 2 = g.length + (e + 2) by omega,
                List.drop_length_add_append]
              rfl
            rw [cutLists, hf]
            simp only [hf2, hsl, hrr]
          · exact count_cut_lt '&' g t hg (by decide) (e + 1)
        · refine Or.inr (Or.inl fun f acc => ?_)
          rw [cutLists, hf]
          simp only [hf2, hsl, replaceRange, if_neg hr]

/-! ### `array_tuple!` -/

theorem cutTuples_adjacent_step (A Z : Str) (acc : List Str) (fuel : Nat) (hA : '(' ∉ A ∧ ')' ∉ A) :
    cutTuples (fuel + 1) (A ++ ')' :: '(' :: Z) acc = cutTuples fuel (A ++ ')' :: '_' :: '(' :: Z) ([] :: acc) := by
  have hf1 : find ['('] (A ++ ')' :: '(' :: Z) = some (A.length + 1) := by
    have := find_char_first (q := '(') (g := A ++ [')']) Z (by simp [hA.1])
    simpa using this
  have hf2 : find [')'] (A ++ ')' :: '(' :: Z) = some A.length := find_char_first _ hA.2
  have hsl : slice (A ++ ')' :: '(' :: Z) (A.length + 1) (A.length + 1) = .ok [] :=
    slice_mid _ (A ++ [')']) [] ('(' :: Z) _ _ (by simp) (by simp) (by simp)
  have hrr : replaceRange (A ++ ')' :: '(' :: Z) (A.length + 1) (A.length + 1) ['_']
      = .ok ((A ++ [')']) ++ ['_'] ++ '(' :: Z) :=
    replaceRange_mid _ (A ++ [')']) [] ('(' :: Z) ['_'] _ _ (by simp) (by simp) (by simp)
  rw [cutTuples, hf1]
  simp only [hf2, hsl, hrr]
  simp [remove, List.append_assoc]

/-- the first `)` stands before the first `(` with something (`G ≠ []`) between them: `start > end + 1`, the slice
panics — in particular in the iteration after the no-progress one (`G = "_"`) -/
theorem cutTuples_close_first (A G Z : Str) (acc : List Str) (hA : '(' ∉ A ∧ ')' ∉ A) (hG : '(' ∉ G) (hne : G ≠ []) :
    ∀ fuel, cutTuples fuel (A ++ ')' :: (G ++ '(' :: Z)) acc = .panic
  | 0 => rfl
  | fuel + 1 => by
    have hf1 : find ['('] (A ++ ')' :: (G ++ '(' :: Z)) = some (A ++ ')' :: G).length := by
      rw [show A ++ ')' :: (G ++ '(' :: Z) = (A ++ ')' :: G) ++ '(' :: Z by simp]
      exact find_char_first (q := '(') (g := A ++ ')' :: G) Z (by simp [hA.1, hG])
    have hf2 : find [')'] (A ++ ')' :: (G ++ '(' :: Z)) = some A.length := find_char_first _ hA.2
    have hgl : 1 ≤ G.length := by cases G with | nil => exact absurd rfl hne | cons _ _ => simp
    have hsl : slice (A ++ ')' :: (G ++ '(' :: Z)) (A ++ ')' :: G).length (A.length + 1) = .panic := by
      unfold slice; rw [if_neg (by simp; omega)]
    rw [cutTuples, hf1]
    simp only [hf2, hsl]

/-- **`array_tuple!` on a text whose first `)` directly precedes its first `(`**: the loop never delivers a result,
whatever the fuel — it panics in its second iteration (it does not run forever) -/
theorem cutTuples_adjacent (A Z : Str) (acc : List Str) (hA : '(' ∉ A ∧ ')' ∉ A) :
    ∀ fuel, cutTuples fuel (A ++ ')' :: '(' :: Z) acc = .panic
  | 0 => rfl
  | fuel + 1 => by
    rw [cutTuples_adjacent_step A Z acc fuel hA]
    exact cutTuples_close_first A ['_'] Z _ hA (by decide) (by simp) fuel

theorem cutTuples_fuel (n : Nat) (s : Str) (acc : List Str) (k : Nat) (h : s.count '(' ≤ n) :
    cutTuples (n + 1 + k) s acc = cutTuples (n + 1) s acc := by
  refine loop_fuel (List.count '(') (fun s => ?_) n s acc k h
  cases hf : find ['('] s with
  | none => exact Or.inl fun f acc => by rw [cutTuples, hf]
  | some start =>
    obtain ⟨g, t, rfl, hg, rfl⟩ := find_char_some hf
    cases hf2 : find [')'] (g ++ '(' :: t) with
    | none => exact Or.inr (Or.inl fun f acc => by rw [cutTuples, hf]; simp only [hf2])
    | some e =>
      by_cases hle : g.length ≤ e
      · -- the first `(` is removed
        cases hsl : slice (g ++ '(' :: t) g.length (e + 1) with
        | err _ => exact Or.inr (Or.inl fun f acc => by rw [cutTuples, hf]; simp only [hf2, hsl])
        | panic => exact Or.inr (Or.inl fun f acc => by rw [cutTuples, hf]; simp only [hf2, hsl])
        | ok piece =>
          by_cases hr : g.length ≤ e + 1 ∧ e + 1 ≤ (g ++ '(' :: t).length
          · refine Or.inr (Or.inr ⟨remove '"' piece, g ++ ['_'] ++ t.drop (e - g.length), fun f acc => ?_, Or.inl ?_⟩)
            · have hrr : replaceRange (g ++ '(' :: t) g.length (e + 1) ['_']
                  = .ok (g ++ ['_'] ++ t.drop (e - g.length)) := by
                unfold replaceRange
                rw [if_pos hr, List.take_left' rfl, show e + 1 = g.length + ((e - g.length) + 1) by omega,
                  List.drop_length_add_append]
                rfl
              rw [cutTuples, hf]
              simp only [hf2, hsl, hrr]
            · exact count_cut_lt '(' g t hg (by decide) (e - g.length)
          · refine Or.inr (Or.inl fun f acc => ?_)
            rw [cutTuples, hf]
            simp only [hf2, hsl, replaceRange, if_neg hr]
      · by_cases heq : g.length = e + 1
        · -- the no-progress iteration, then a panic
          obtain ⟨g2, t2, hs2, hg2, hg2l⟩ := find_char_some hf2
          have hgg : g = g2 ++ [')'] := by
            have h := congrArg (List.take (g2.length + 1)) hs2
            rw [List.take_left' (by omega), List.take_length_add_append] at h
            simpa using h
          subst hgg
          have hA : '(' ∉ g2 ∧ ')' ∉ g2 := ⟨fun hm => hg (by simp [hm]), hg2⟩
          refine Or.inr (Or.inr ⟨[], g2 ++ ')' :: '_' :: '(' :: t, fun f acc => ?_, Or.inr fun f acc => ?_⟩)
          · simpa using cutTuples_adjacent_step g2 t acc f hA
          · exact cutTuples_close_first g2 ['_'] t acc hA (by decide) (by simp) f
        · -- `start > end + 1`: the slice panics at once
          refine Or.inr (Or.inl fun f acc => ?_)
          have hsl : slice (g ++ '(' :: t) g.length (e + 1) = .panic := by
            unfold slice; rw [if_neg (by omega)]
          rw [cutTuples, hf]
          simp only [hf2, hsl]

end ArrModel.C18
