import ArrProofs.Lemmas.C08List
import ArrModel.Joining
/-!
C11: what the splitting and joining proofs need of lists and numbers.  Outcomes of `Res.idx` and `Res.mapM'`; the arithmetic
of flat positions `(j * A + x) * B + y` and sums of lists of equal entries; section sizes and division points of
`array_split`; prefix sums and the consecutive blocks they cut out of a flat list.
-/
namespace ArrModel.C11
open ArrModel

/-! ### outcomes of `Res.idx` and `Res.mapM'` -/

theorem idx_getD (l : List Nat) (k : Nat) (h : k < l.length) : Res.idx l k = .ok (l.getD k 0) := Res.idx_eq_getD 0 h

theorem mapM'_map {β γ δ} (f : γ → Res δ) (g : β → γ) (l : List β) : Res.mapM' f (l.map g) = Res.mapM' (fun x => f (g x)) l := by
  simp only [Res.mapM', List.map_map]; rfl

/-- `mapM'` succeeds when every call does, and the results stand in whatever relation each call guarantees -/
theorem mapM'_rel {ι β : Type} (f : ι → Res β) (R : ι → β → Prop) (l : List ι) (h : ∀ x ∈ l, ∃ r, f x = .ok r ∧ R x r) :
    ∃ rs, Res.mapM' f l = .ok rs ∧ rs.length = l.length ∧ ∀ i (h1 : i < l.length) (h2 : i < rs.length), R l[i] rs[i] := by
  obtain ⟨rs, h1, h2, h3⟩ := mapM'_exists f l fun x hx => (h x hx).imp fun _ hr => hr.1
  refine ⟨rs, h1, h2, fun i hi1 hi2 => ?_⟩
  obtain ⟨r, hr, hR⟩ := h l[i] (List.getElem_mem hi1)
  rw [h3 i hi1 hi2] at hr
  exact Res.ok.inj hr ▸ hR

/-! ### arithmetic of flat positions; sums of lists of equal entries -/

theorem lin3_eq (j x y A B : Nat) : (j * A + x) * B + y = j * (A * B) + (x * B + y) := by
  rw [Nat.add_mul, Nat.mul_assoc, Nat.add_assoc]

theorem lin3_add (n j x y A B : Nat) : ((n + j) * A + x) * B + y = n * (A * B) + ((j * A + x) * B + y) := by
  rw [lin3_eq, lin3_eq, Nat.add_mul, Nat.add_assoc]

theorem lin_stack (x m i n j B y : Nat) : (x * m + i) * (n * B) + (j * B + y) = (x * (m * n) + (i * n + j)) * B + y := by
  simp only [Nat.add_mul, Nat.mul_assoc, Nat.add_assoc]

theorem sum_map_const {β} (f : β → Nat) (n : Nat) (l : List β) (h : ∀ b ∈ l, f b = n) : (l.map f).sum = l.length * n := by
  induction l with
  | nil => exact (Nat.zero_mul n).symm
  | cons x xs ih =>
    rw [List.map_cons, List.sum_cons, List.length_cons, h x List.mem_cons_self,
      ih (fun b hb => h b (List.mem_cons_of_mem _ hb)), Nat.add_one_mul, Nat.add_comm]

theorem sum_map_mul {β} (f : β → Nat) (m : Nat) (l : List β) : (l.map (fun b => f b * m)).sum = (l.map f).sum * m := by
  induction l with
  | nil => exact (Nat.zero_mul m).symm
  | cons x xs ih => rw [List.map_cons, List.sum_cons, ih, List.map_cons, List.sum_cons, Nat.add_mul]

/-! ### section sizes -/

theorem sectionSizes_length (n parts : Nat) (hp : 0 < parts) : (sectionSizes n parts).length = parts := by
  rw [sectionSizes, List.length_append, List.length_replicate, List.length_replicate,
    Nat.add_sub_of_le (Nat.le_of_lt (Nat.mod_lt n hp))]

theorem sectionSizes_sum (n parts : Nat) (hp : 0 < parts) : (sectionSizes n parts).sum = n := by
  rw [sectionSizes, List.sum_append, List.sum_replicate_nat, List.sum_replicate_nat, Nat.mul_add, Nat.mul_one, Nat.add_right_comm,
    ← Nat.add_mul, Nat.add_sub_of_le (Nat.le_of_lt (Nat.mod_lt n hp))]
  exact Nat.div_add_mod n parts

theorem sectionSizes_getElem? (n parts i : Nat) (hi : i < parts) :
    (sectionSizes n parts)[i]? = some (if i < n % parts then n / parts + 1 else n / parts) := by
  unfold sectionSizes
  by_cases h : i < n % parts
  · rw [List.getElem?_append_left (by rw [List.length_replicate]; exact h), List.getElem?_replicate, if_pos h, if_pos h]
  · rw [List.getElem?_append_right (by rw [List.length_replicate]; exact Nat.le_of_not_lt h), List.length_replicate,
      List.getElem?_replicate, if_pos (Nat.sub_lt_sub_right (Nat.le_of_not_lt h) hi), if_neg h]

theorem sectionSizes_dvd (n parts : Nat) (h : n % parts = 0) :
    sectionSizes n parts = List.replicate parts (n / parts) := by
  rw [sectionSizes, h, List.replicate_zero, List.nil_append, Nat.sub_zero]

theorem sectionSizes_self (n : Nat) (hn : 0 < n) : sectionSizes n n = List.replicate n 1 := by
  rw [sectionSizes_dvd n n (Nat.mod_self n), Nat.div_self hn]

/-! ### division points: the prefix sums of the sizes -/

theorem divPoints_length (sizes : List Nat) : (divPoints sizes).length = sizes.length + 1 := by
  rw [divPoints, List.length_map, List.length_range]

theorem divPoints_getElem? (sizes : List Nat) (i : Nat) (hi : i ≤ sizes.length) :
    (divPoints sizes)[i]? = some (sizes.take i).sum := by
  rw [divPoints, List.getElem?_map, List.getElem?_range (Nat.lt_succ_of_le hi)]; rfl

theorem windows2_divPoints (sizes : List Nat) :
    windows2 (divPoints sizes) =
      (List.range sizes.length).map (fun i => ((sizes.take i).sum, (sizes.take (i + 1)).sum)) := by
  unfold divPoints
  rw [List.range_eq_range', windows2_map_range', List.range_eq_range']

theorem sum_take_succ (sizes : List Nat) (i : Nat) (hi : i < sizes.length) :
    (sizes.take (i + 1)).sum = (sizes.take i).sum + sizes[i] := by
  rw [List.take_add_one, List.getElem?_eq_getElem hi, List.sum_append]
  simp only [Option.toList_some, List.sum_cons, List.sum_nil, Nat.add_zero]

theorem sum_take_le (sizes : List Nat) : ∀ (i j : Nat), i ≤ j → (sizes.take i).sum ≤ (sizes.take j).sum := by
  induction sizes with
  | nil => intro i j _; rw [List.take_nil, List.take_nil]; exact Nat.le_refl _
  | cons s ss ih =>
    intro i j h
    cases i with
    | zero => exact Nat.zero_le _
    | succ i =>
      cases j with
      | zero => exact absurd h (Nat.not_succ_le_zero i)
      | succ j =>
        rw [List.take_succ_cons, List.take_succ_cons, List.sum_cons, List.sum_cons]
        exact Nat.add_le_add_left (ih i j (Nat.le_of_succ_le_succ h)) s

theorem offset_add_size_le (sizes : List Nat) (i : Nat) (hi : i < sizes.length) :
    (sizes.take i).sum + sizes[i] ≤ sizes.sum := by
  rw [← sum_take_succ sizes i hi]
  have := sum_take_le sizes (i + 1) sizes.length hi
  rwa [List.take_length] at this

/-! ### consecutive blocks of a flat list -/

/-- every position below the total lies in one block: it is that block's offset plus a position inside the block -/
theorem exists_block (sizes : List Nat) : ∀ (j : Nat), j < sizes.sum →
    ∃ i d, i < sizes.length ∧ d < sizes.getD i 0 ∧ j = (sizes.take i).sum + d := by
  induction sizes with
  | nil => exact fun _ h => absurd h (Nat.not_lt_zero _)
  | cons s ss ih =>
    intro j h
    by_cases hj : j < s
    · exact ⟨0, j, Nat.succ_pos _, hj, (Nat.zero_add j).symm⟩
    · rw [List.sum_cons] at h
      obtain ⟨i, d, hi, hd, e⟩ := ih (j - s) (Nat.sub_lt_left_of_lt_add (Nat.le_of_not_lt hj) h)
      refine ⟨i + 1, d, Nat.succ_lt_succ hi, hd, ?_⟩
      rw [List.take_succ_cons, List.sum_cons, Nat.add_assoc, ← e, Nat.add_sub_of_le (Nat.le_of_not_lt hj)]

theorem flatMap_blocks {α} (L : List α) (sizes : List Nat) (m : Nat) (hm : m ≤ sizes.length) :
    (List.range m).flatMap (fun i => (L.drop (sizes.take i).sum).take (sizes.getD i 0)) = L.take (sizes.take m).sum := by
  induction m with
  | zero => rfl
  | succ m ih =>
    have hg : sizes.getD m 0 = sizes[m] := by rw [List.getD_eq_getElem?_getD, List.getElem?_eq_getElem hm]; rfl
    rw [List.range_succ, List.flatMap_append, ih (Nat.le_of_succ_le hm), List.flatMap_singleton, hg,
      sum_take_succ sizes m hm, List.take_add]

theorem getElem?_flatMap_offset {β γ} (g : β → List γ) (l : List β) : ∀ (i : Nat) (hi : i < l.length) (z : Nat),
    z < (g l[i]).length → (l.flatMap g)[((l.take i).map (fun x => (g x).length)).sum + z]? = (g l[i])[z]? := by
  induction l with
  | nil => exact fun _ hi => absurd hi (Nat.not_lt_zero _)
  | cons x xs ih =>
    intro i hi z hz
    cases i with
    | zero =>
      rw [List.flatMap_cons, List.take_zero, List.map_nil, List.sum_nil, Nat.zero_add]
      exact List.getElem?_append_left hz
    | succ i =>
      rw [List.flatMap_cons, List.take_succ_cons, List.map_cons, List.sum_cons, Nat.add_assoc,
        List.getElem?_append_right (Nat.le_add_right _ _), Nat.add_sub_cancel_left]
      exact ih i (Nat.lt_of_succ_lt_succ hi) z hz

/-- the block of `sec` rows of width `stride` that starts at row `off` -/
theorem block_length {α} (L : List α) (off sec stride n : Nat) (hL : L.length = n * stride) (hle : off + sec ≤ n) :
    ((L.drop (off * stride)).take (sec * stride)).length = sec * stride := by
  have : off * stride + sec * stride ≤ n * stride := Nat.add_mul off sec stride ▸ Nat.mul_le_mul_right _ hle
  rw [List.length_take, List.length_drop, hL]
  exact Nat.min_eq_left (Nat.le_sub_of_add_le' this)

theorem block_getElem? {α} (L : List α) (off sec stride j x : Nat) (hj : j < sec) (hx : x < stride) :
    ((L.drop (off * stride)).take (sec * stride))[j * stride + x]? = L[(off + j) * stride + x]? := by
  rw [List.getElem?_take_of_lt (mul_add_lt hj hx), List.getElem?_drop, Nat.add_mul, Nat.add_assoc]

end ArrModel.C11
