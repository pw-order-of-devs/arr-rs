import ArrProofs.Lemmas.InsertAxis
import ArrProofs.Lemmas.C01Machine
import ArrProofs.Lemmas.C08AlongAxis
/-!
# Lemmas.C01Diff — `ediff1d`, `diff`, `insert` with an axis, `convolve` (`ArrModel/C01Diff.lean`) and the pair-returning
`modf` / `divmod` / `frexp` of the machine

* well-formedness of every result (`c01d_*_wf`, for the pairs of both members): the lemmas the store machine's `eval_wf` uses;
* per-element specifications: adjacent differences, the `n`-fold iteration, the lane-wise reading of the N-D arm of `diff`
  (through `applyAlongAxis_spec` of C08), the double-sum formula of the convolution and its three windows.
-/
namespace ArrModel.C01
open ArrModel Arr Res

variable {α : Type}

/-! ## adjacent differences -/

theorem adjDiff_length [Sub α] : ∀ (l : List α), (adjDiff l).length = l.length - 1
  | [] => rfl
  | [_] => rfl
  | _ :: b :: r => congrArg (· + 1) (adjDiff_length (b :: r))

/-- element `i` of the adjacent differences is `l[i+1] - l[i]` -/
theorem adjDiff_getElem? [Sub α] : ∀ (l : List α) (i : Nat) (h : i + 1 < l.length),
    (adjDiff l)[i]? = some (l[i + 1] - l[i])
  | [], _, h => nomatch h
  | [_], i, h => (Nat.not_lt_zero i (Nat.lt_of_succ_lt_succ h)).elim
  | _ :: _ :: _, 0, _ => rfl
  | _ :: b :: r, i + 1, h => adjDiff_getElem? (b :: r) i (Nat.lt_of_succ_lt_succ h)

theorem adjDiff_eq_nil_of_short [Sub α] (l : List α) (h : l.length ≤ 1) : adjDiff l = [] :=
  List.eq_nil_of_length_eq_zero ((adjDiff_length l).trans (Nat.sub_eq_zero_of_le h))

theorem diffLoop_eq_iterDiff [Sub α] : ∀ (n : Nat) (l : List α), diffLoop n l = iterDiff n l
  | 0, _ => rfl
  | n + 1, l => by
    rw [diffLoop, iterDiff, ← diffLoop_eq_iterDiff n]
    simp [ediff1d, optElems, Arr.empty, Arr.ravel, Arr.flat]

theorem iterDiff_length [Sub α] : ∀ (n : Nat) (l : List α), (iterDiff n l).length = l.length - n
  | 0, _ => rfl
  | n + 1, l => by rw [iterDiff, iterDiff_length n, adjDiff_length, Nat.sub_sub, Nat.add_comm]

/-- the `n`-th order difference peels off as first-order difference of the `(n-1)`-th order one -/
theorem iterDiff_succ' [Sub α] : ∀ (n : Nat) (l : List α), iterDiff (n + 1) l = adjDiff (iterDiff n l)
  | 0, _ => rfl
  | n + 1, l => by
    rw [iterDiff, iterDiff_succ' n (adjDiff l)]
    rfl

/-! ## well-formedness -/

theorem c01d_ediff1d_wf [Sub α] (a : Arr α) (e b : Option (Arr α)) : (a.ediff1d e b).WF := Arr.flat_wf _

theorem c01d_diffLane_wf [Sub α] (n : Nat) (lane : Arr α) {r : Arr α} (h : diffLane n lane = .ok r) : r.WF :=
  All.ok (Arr.flat_wf _) r h

theorem c01d_diff_wf [Sub α] (a : Arr α) (zero : α) (n : Nat) (axis : Option Int) (p q : Option (Arr α)) {r : Arr α}
    (h : a.diff zero n axis p q = .ok r) : r.WF :=
  (All.ite' All.err <| All.ite' (All.ok empty_wf) <| All.ite' (All.ok (Arr.flat_wf _)) <| All.ite' All.panic <|
    All.bind' fun x => applyAlongAxis_wf x zero zero _ _) r h

theorem c01d_diffRelay_wf (a : Arr α) (zero : α) (ax : Nat) (p q : Option (Arr α)) {r : Arr α}
    (h : a.diffRelay zero ax p q = .ok r) : r.WF :=
  (All.bind' fun _ => All.bind' fun _ => All.bind' fun _ => All.bind' fun _ => All.bind' fun x =>
    All.ite' (transpose_wf x zero none) (moveaxis_wf x zero _ _)) r h

theorem c01d_insertAxis_wf (a : Arr α) (zero : α) (indices : List Nat) (v : Arr α) (axis : Nat) {r : Arr α}
    (h : a.insertAxis zero indices v axis = .ok r) : r.WF := by
  rcases (insertAxis_eq_ok h).2 with ⟨_, h⟩ | ⟨_, h⟩
  · exact insertFlat_wf a indices v r h
  · obtain ⟨_, p, _, _, h⟩ := insertAxisCore_eq_ok h
    exact transpose_wf p zero _ r h

/-- the result shape of `insert` with an axis, as the code computes it: the receiver's shape with the axis length replaced by the
new length `K`, axes 0 and `axis` swapped, then permuted by `(1..ndim).insert_at(axis, 0)` -/
theorem c01d_insertAxis_shape (a : Arr α) (zero : α) (indices : List Nat) (v : Arr α) (axis : Nat) (h1 : a.ndim ≠ 1) {r : Arr α}
    (h : a.insertAxis zero indices v axis = .ok r) :
    axis < a.ndim ∧ ∃ K, r.shape = permute ((List.range' 1 (a.ndim - 1)).insertIdx axis 0) (swapExt (a.shape.set axis K) 0 axis) := by
  refine ⟨(insertAxis_eq_ok h).1, ?_⟩
  rcases (insertAxis_eq_ok h).2 with ⟨h1', _⟩ | ⟨_, h⟩
  · exact absurd h1' h1
  obtain ⟨K, p, hp, _, h⟩ := insertAxisCore_eq_ok h
  obtain ⟨_, _, h⟩ := Res.bind_eq_ok h
  obtain ⟨_, rfl⟩ := Arr.new_eq_ok_iff.mp h
  exact ⟨K, by rw [axesOf_some_ofNat, hp]⟩

/-- along the only axis of a rank-1 receiver `insert` IS the flat insert (after the argument checks) -/
theorem c01d_insertAxis_rank1 (a : Arr α) (zero : α) (indices : List Nat) (v : Arr α) (h1 : a.ndim = 1)
    (hix : indices.any (fun i => decide (i > a.shape.getD 0 0)) = false) (hv : v.ndim = 1) :
    a.insertAxis zero indices v 0 = a.insertFlat indices v := by
  rw [insertAxis_eq, if_neg (by omega), hix]
  simp [h1, hv]

theorem c01d_convolve_wf (a b : Arr Int) (mode : Option (List Char)) {r : Arr Int} (h : a.convolve b mode = .ok r) : r.WF := by
  refine All.ite' All.err ?_ r h
  split
  · exact All.err
  · exact All.ok (Arr.flat_wf _)

/-! ## the pair-returning `modf` / `divmod` / `frexp` -/

theorem ofResP_wf {x : Res (A × A)} (h : ∀ r, x = .ok r → r.1.WF ∧ r.2.WF) : ValWF (ofResP x) := by
  cases x with
  | ok p =>
    intro a ha
    simp only [List.mem_cons, List.not_mem_nil, or_false] at ha
    rcases ha with rfl | rfl
    · exact (h p rfl).1
    · exact (h p rfl).2
  | err e => trivial
  | panic => trivial

/-- both members have passed `Array::new`: the fractional part is the result of `mod` against `[1]`, the integral part the result
of `floor` -/
theorem c01d_modfPair_wf (a : A) {r : A × A} (h : modfPair a = .ok r) : r.1.WF ∧ r.2.WF :=
  All.bind (Q := fun r => r.1.WF ∧ r.2.WF) (binPat_wf .G a _)
    (fun _ hf => All.bind (iter_unary_wf _ a) fun _ hi => All.ok ⟨hf, hi⟩) r h

theorem c01d_divmodPair_wf (a : A) {r : A × A} (h : divmodPair a = .ok r) : r.1.WF ∧ r.2.WF :=
  All.bind (Q := fun r => r.1.WF ∧ r.2.WF) (binPat_wf .G a _)
    (fun _ hf => All.bind (iter_unary_wf _ a) fun _ hi => All.ok ⟨hi, hf⟩) r h

/-- `frexp`: both members are consistent AND have exactly the receiver's shape (each is a `reshape` to it) -/
theorem c01d_frexpPair_wf (a : A) {r : A × A} (h : frexpPair a = .ok r) :
    r.1.WF ∧ r.2.WF ∧ r.1.shape = a.shape ∧ r.2.shape = a.shape := by
  obtain ⟨m, hm, h⟩ := Res.bind_eq_ok h
  obtain ⟨e, he, h⟩ := Res.bind_eq_ok h
  cases h
  have sm : m.shape = a.shape := by rw [(Arr.reshape_eq_ok_iff.mp hm).2]
  have se : e.shape = a.shape := by rw [(Arr.reshape_eq_ok_iff.mp he).2]
  exact ⟨Arr.reshape_wf hm, Arr.reshape_wf he, sm, se⟩

/-- on a consistent receiver `frexp` always succeeds -/
theorem c01d_frexpPair_ok (a : A) (ha : a.WF) : ∃ r, frexpPair a = .ok r := by
  have fits (f : Int → Int) : (Arr.flat (a.elems.map f)).reshape a.shape = .ok ⟨a.elems.map f, a.shape⟩ :=
    Arr.new_of_prod (ha.symm.trans (List.length_map f).symm)
  unfold frexpPair
  rw [fits, Res.bind_ok, fits, Res.bind_ok]
  exact ⟨_, rfl⟩

/-! ## `ediff1d` and the rank-1 arm of `diff` -/

theorem c01d_ediff1d_spec [Sub α] (a : Arr α) (e b : Option (Arr α)) :
    (a.ediff1d e b).elems = optElems b ++ adjDiff a.elems ++ optElems e ∧
    (a.ediff1d e b).shape = [(optElems b).length + (a.elems.length - 1) + (optElems e).length] := by
  simp [ediff1d, Arr.flat, Arr.ravel, adjDiff_length, Nat.add_assoc]

theorem c01d_diff_flat_spec [Sub α] (a : Arr α) (zero : α) (n : Nat) (axis : Option Int) (p q : Option (Arr α))
    (hax : diffAxisBad a.ndim axis = false) (hn : n ≠ 0) (h1 : a.ndim = 1) :
    a.diff zero n axis p q = .ok (Arr.flat (iterDiff n (optElems p ++ a.elems ++ optElems q))) := by
  unfold Arr.diff
  rw [hax]
  simp only [Bool.false_eq_true, if_false, if_neg hn, if_pos h1, diffFlat, diffLoop_eq_iterDiff]

/-! ## the N-D arm of `diff`: lane-wise through `apply_along_axis` -/

theorem c01d_diff_nd_eq [Sub α] (a : Arr α) (zero : α) (n : Nat) (axis : Option Int) (p q : Option (Arr α))
    (hax : diffAxisBad a.ndim axis = false) (hn : n ≠ 0) (h1 : a.ndim ≠ 1)
    (hin : normalizeAxis a.ndim (axis.getD (-1)) < a.ndim) :
    a.diff zero n axis p q =
      (a.diffRelay zero (normalizeAxis a.ndim (axis.getD (-1))) p q >>= fun x =>
        x.applyAlongAxis zero zero (normalizeAxis a.ndim (axis.getD (-1))) (diffLane n)) := by
  unfold Arr.diff
  rw [hax]
  simp only [Bool.false_eq_true, if_false, if_neg hn, if_neg h1, if_neg (Nat.not_le.mpr hin)]

/-- the lane-wise reading of the N-D arm: on the re-laid array `x` (well formed, no zero-length axis) the result has the
shape of `x` with the axis shortened by `n`, and its element at coordinate `c` is element `c[axis]` of the `n`-th order
difference of the lane of `x` through `c` -/
theorem c01d_diff_lanes [Sub α] (x : Arr α) (zero : α) (n ax : Nat) (hwf : x.WF) (hax : ax < x.ndim) (hnz : 0 ∉ x.shape) :
    ∃ r, x.applyAlongAxis zero zero ax (diffLane n) = .ok r ∧ r.shape = x.shape.set ax (x.shape.getD ax 0 - n) ∧ r.WF ∧
      ∀ c, inRange r.shape c = true → r.get? c = (iterDiff n (laneOf x ax c))[c.getD ax 0]? := by
  obtain ⟨r, h1, h2, h3, h4⟩ := applyAlongAxis_spec x zero zero ax (x.shape.getD ax 0 - n) (diffLane n) hwf hax hnz
    (by
      intro lane hl
      refine ⟨_, rfl, ?_⟩
      simp [diffFlat, optElems, Arr.empty, Arr.flat, diffLoop_eq_iterDiff, iterDiff_length, hl])
  refine ⟨r, h1, h2, h3, ?_⟩
  intro c hc
  obtain ⟨y, hy, hg⟩ := h4 c hc
  unfold diffLane at hy
  cases hy
  rw [hg]
  simp [diffFlat, optElems, Arr.empty, Arr.flat, diffLoop_eq_iterDiff]

/-! ## `convolve` -/

/-- one accumulation `out[p] += v` -/
def accAt (out : List Int) (p : Nat × Int) : List Int := out.set p.1 (out.getD p.1 0 + p.2)

theorem accAt_length (out : List Int) (p : Nat × Int) : (accAt out p).length = out.length := by simp [accAt]

theorem foldl_accAt_length (ups : List (Nat × Int)) : ∀ (out : List Int), (ups.foldl accAt out).length = out.length := by
  induction ups with
  | nil => intro out; rfl
  | cons p ups ih => intro out; rw [List.foldl_cons, ih, accAt_length]

theorem accAt_getD (out : List Int) (p : Nat × Int) (k : Nat) (hk : k < out.length) :
    (accAt out p).getD k 0 = out.getD k 0 + (if p.1 = k then p.2 else 0) := by
  unfold accAt
  rw [List.getD_eq_getElem?_getD, List.getElem?_set]
  by_cases h : p.1 = k
  · subst h
    simp [hk]
  · simp [h, List.getD_eq_getElem?_getD]

/-- a run of accumulations adds, at every position, the sum of the values addressed to it -/
theorem foldl_accAt_getD (ups : List (Nat × Int)) : ∀ (out : List Int) (k : Nat), k < out.length →
    (ups.foldl accAt out).getD k 0 = out.getD k 0 + (ups.map fun p => if p.1 = k then p.2 else 0).sum := by
  induction ups with
  | nil => intro out k _; simp
  | cons p ups ih =>
    intro out k hk
    rw [List.foldl_cons, ih _ k (by rw [accAt_length]; exact hk), accAt_getD out p k hk]
    simp only [List.map_cons, List.sum_cons]
    omega

theorem sum_flatMap_int {β : Type} (l : List β) (f : β → List Int) :
    (l.flatMap f).sum = (l.map fun i => (f i).sum).sum := by
  induction l with
  | nil => rfl
  | cons a l ih => simp only [List.flatMap_cons, List.sum_append, ih, List.map_cons, List.sum_cons]

/-- the update list of the double loop -/
def convUpdates (x y : List Int) : List (Nat × Int) :=
  (List.range x.length).flatMap fun i => (List.range y.length).map fun j => (i + j, x.getD i 0 * y.getD j 0)

theorem convFull_eq_foldl (x y : List Int) :
    convFull x y = (convUpdates x y).foldl accAt (List.replicate (x.length + y.length - 1) 0) := by
  unfold convFull convUpdates
  rw [List.foldl_flatMap]
  congr 1
  funext out i
  rw [List.foldl_map]
  rfl

theorem convFull_length (x y : List Int) : (convFull x y).length = x.length + y.length - 1 := by
  rw [convFull_eq_foldl, foldl_accAt_length, List.length_replicate]

/-- **the defining sum**: position `k` of the accumulated buffer holds `Σ_{i + j = k} x[i] * y[j]` -/
theorem convFull_getD (x y : List Int) (k : Nat) (hk : k < x.length + y.length - 1) :
    (convFull x y).getD k 0 = convCoeff x y k := by
  rw [convFull_eq_foldl, foldl_accAt_getD _ _ k (by rw [List.length_replicate]; exact hk)]
  have h0 : (List.replicate (x.length + y.length - 1) (0 : Int)).getD k 0 = 0 := by
    simp [List.getD_eq_getElem?_getD, hk]
  rw [h0, Int.zero_add]
  unfold convUpdates convCoeff
  rw [List.map_flatMap, sum_flatMap_int]
  simp only [List.map_map]
  rfl

theorem convFull_getElem? (x y : List Int) (k : Nat) (hk : k < x.length + y.length - 1) :
    (convFull x y)[k]? = some (convCoeff x y k) := by
  have hl : k < (convFull x y).length := by rw [convFull_length]; exact hk
  have := convFull_getD x y k hk
  rw [List.getD_eq_getElem?_getD, List.getElem?_eq_getElem hl] at this
  rw [List.getElem?_eq_getElem hl]
  simpa using this

/-- every window is `convLen` entries of the full product, from `convOffset` on -/
theorem convWindow_eq (md : ConvMode) (n m : Nat) (out : List Int) (hl : out.length = n + m - 1) :
    convWindow md n m out = (out.drop (convOffset md m)).take (convLen md n m) := by
  cases md
  · exact (List.take_of_length_le (Nat.le_of_eq hl)).symm
  · rfl
  · rfl

/-- … and lies inside it -/
theorem convWindow_fits (md : ConvMode) (n m : Nat) (hm : 1 ≤ m) (hnm : m ≤ n) :
    convOffset md m + convLen md n m ≤ n + m - 1 := by
  cases md <;> simp only [convOffset, convLen] <;> omega

/-- the three windows: lengths -/
theorem convWindow_length (md : ConvMode) (x y : List Int) (hm : 1 ≤ y.length) (hnm : y.length ≤ x.length) :
    (convWindow md x.length y.length (convFull x y)).length = convLen md x.length y.length := by
  have := convWindow_fits md x.length y.length hm hnm
  rw [convWindow_eq md _ _ _ (convFull_length x y), List.length_take, List.length_drop, convFull_length]
  omega

/-- the three windows: element `k` of the window is coefficient `k + offset` of the full product -/
theorem convWindow_getElem? (md : ConvMode) (x y : List Int) (hm : 1 ≤ y.length) (hnm : y.length ≤ x.length) (k : Nat)
    (hk : k < (convWindow md x.length y.length (convFull x y)).length) :
    (convWindow md x.length y.length (convFull x y))[k]? =
      some (convCoeff x y (k + convOffset md y.length)) := by
  have := convWindow_fits md x.length y.length hm hnm
  rw [convWindow_length md x y hm hnm] at hk
  rw [convWindow_eq md _ _ _ (convFull_length x y), List.getElem?_take_of_lt hk, List.getElem?_drop, Nat.add_comm]
  exact convFull_getElem? x y _ (by omega)

end ArrModel.C01
