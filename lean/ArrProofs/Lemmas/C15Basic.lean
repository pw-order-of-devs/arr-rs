import Mathlib.LinearAlgebra.Matrix.Determinant.Basic
import Mathlib.LinearAlgebra.Matrix.Block
import ArrModel.C15
import ArrProofs.Lemmas.Index
/-!
# Lemmas for C15: reading `build`, sums, `absR` and `sgn` in Mathlib's terms, a running arg-max, and the bridge `detN = Matrix.det`
-/
namespace ArrModel.C15
open ArrModel

/-! ### total reads -/

theorem vget_eq_getElem (v : List Rat) (i : Nat) (h : i < v.length) : vget v i = v[i] :=
  getD_eq_getElem 0 h

theorem vget_of_le (v : List Rat) (i : Nat) (h : v.length ≤ i) : vget v i = 0 := by
  rw [vget, List.getD_eq_getElem?_getD, List.getElem?_eq_none h]; rfl

theorem entry_build (r c : Nat) (f : Nat → Nat → Rat) (i j : Nat) :
    entry (build r c f) i j = if i < r ∧ j < c then f i j else 0 := by
  unfold entry build
  rw [getD_map_range]
  by_cases hi : i < r
  · simp only [hi, if_true, true_and]; rw [getD_map_range]
  · rw [if_neg hi, if_neg (fun h => hi h.1)]; rfl

theorem entry_build_lt {r c : Nat} (f : Nat → Nat → Rat) {i j : Nat} (hi : i < r) (hj : j < c) :
    entry (build r c f) i j = f i j := by
  rw [entry_build, if_pos ⟨hi, hj⟩]

theorem build_length (r c : Nat) (f : Nat → Nat → Rat) : (build r c f).length = r := by
  rw [build, List.length_map, List.length_range]

theorem build_row_length (r c : Nat) (f : Nat → Nat → Rat) (i : Nat) (hi : i < r) :
    ((build r c f).getD i []).length = c := by
  rw [build, getD_map_range, if_pos hi, List.length_map, List.length_range]

theorem build_getD (r c : Nat) (f : Nat → Nat → Rat) (i : Nat) (hi : i < r) :
    (build r c f).getD i [] = (List.range c).map (f i) := by
  unfold build; rw [getD_map_range, if_pos hi]

theorem vget_map_range (n : Nat) (f : Nat → Rat) (i : Nat) :
    vget ((List.range n).map f) i = if i < n then f i else 0 := by
  unfold vget; exact getD_map_range n f i 0

/-! ### sums and products -/

theorem sumTo_eq_sum (n : Nat) (f : Nat → Rat) : sumTo n f = ∑ i ∈ Finset.range n, f i := by
  induction n with
  | zero => rfl
  | succ n ih => rw [sumTo, ih, Finset.sum_range_succ]

theorem prodTo_eq_prod (n : Nat) (f : Nat → Rat) : prodTo n f = ∏ i ∈ Finset.range n, f i := by
  induction n with
  | zero => rfl
  | succ n ih => rw [prodTo, ih, Finset.prod_range_succ]

theorem sumTo_congr (n : Nat) (f g : Nat → Rat) (h : ∀ i, i < n → f i = g i) : sumTo n f = sumTo n g := by
  rw [sumTo_eq_sum, sumTo_eq_sum]; exact Finset.sum_congr rfl fun i hi => h i (Finset.mem_range.1 hi)

theorem sum_split (n i : Nat) (hi : i < n) (g : Nat → Rat) :
    ∑ t ∈ Finset.range n, g t =
      ∑ t ∈ Finset.range i, g t + g i + ∑ r ∈ Finset.range (n - i - 1), g (i + 1 + r) := by
  rw [← Finset.sum_range_add_sum_Ico g (show i + 1 ≤ n by omega), Finset.sum_range_succ,
    Finset.sum_Ico_eq_sum_range, show n - (i + 1) = n - i - 1 by omega]

theorem sum_range_of_zero_above (n i : Nat) (hi : i < n) (g : Nat → Rat) (h0 : ∀ t, i < t → t < n → g t = 0) :
    ∑ t ∈ Finset.range n, g t = ∑ t ∈ Finset.range i, g t + g i := by
  rw [sum_split n i hi, Finset.sum_eq_zero (s := Finset.range (n - i - 1)), add_zero]
  intro r hr
  have := Finset.mem_range.1 hr
  exact h0 _ (by omega) (by omega)

/-! ### `absR` and `sgn` -/

theorem absR_eq_abs (x : Rat) : absR x = |x| := by
  by_cases h : x < 0
  · exact (if_pos h).trans (abs_of_neg h).symm
  · exact (if_neg h).trans (abs_of_nonneg (not_lt.1 h)).symm

theorem sgn_eq_pow (i : Nat) : sgn i = (-1 : Rat) ^ i := by
  unfold sgn
  rcases Nat.even_or_odd i with h | h
  · rw [if_pos (Nat.even_iff.1 h), h.neg_one_pow]
  · rw [if_neg (by rw [Nat.odd_iff.1 h]; decide), h.neg_one_pow]

/-! ### a running arg-max -/

/-- the running choice `if lt a b then b else a` ends on an element that no element beats (`maxL`: `lt = (· < ·)`, `minL`: `(· > ·)`, the pivot search: `<` on the absolute values of a column) -/
theorem foldl_pick_spec {α : Type} (lt : α → α → Prop) [DecidableRel lt] (hasym : ∀ a b, lt a b → ¬ lt b a)
    (hnt : ∀ a b c, ¬ lt a b → ¬ lt b c → ¬ lt a c) (l : List α) : ∀ (init : α),
    l.foldl (fun a b => if lt a b then b else a) init ∈ init :: l ∧
    ∀ x ∈ init :: l, ¬ lt (l.foldl (fun a b => if lt a b then b else a) init) x := by
  induction l with
  | nil => intro init; exact ⟨List.mem_singleton.2 rfl, fun x hx => List.mem_singleton.1 hx ▸ fun h => hasym _ _ h h⟩
  | cons y ys ih =>
    intro init
    rw [List.foldl_cons]
    obtain ⟨h1, h2⟩ := ih (if lt init y then y else init)
    have h0 := h2 _ List.mem_cons_self
    by_cases hlt : lt init y
    · rw [if_pos hlt] at h1 h2 h0 ⊢
      refine ⟨List.mem_cons_of_mem _ h1, fun x hx => ?_⟩
      rcases List.mem_cons.1 hx with rfl | hx
      · exact hnt _ _ _ h0 (hasym _ _ hlt)
      · exact h2 x hx
    · rw [if_neg hlt] at h1 h2 h0 ⊢
      refine ⟨?_, fun x hx => ?_⟩
      · rcases List.mem_cons.1 h1 with h | h
        · exact List.mem_cons.2 (Or.inl h)
        · exact List.mem_cons_of_mem _ (List.mem_cons_of_mem _ h)
      · rcases List.mem_cons.1 hx with rfl | hx
        · exact h0
        · rcases List.mem_cons.1 hx with rfl | hx
          · exact hnt _ _ _ h0 hlt
          · exact h2 x (List.mem_cons_of_mem _ hx)

/-! ### the bridge to `Matrix.det` -/

/-- the `n × n` matrix read off a list of rows -/
def toM (n : Nat) (m : Mat) : Matrix (Fin n) (Fin n) ℚ := fun i j => entry m i j

theorem getD_eraseIdx {α} (l : List α) (r i : Nat) (d : α) :
    (l.eraseIdx r).getD i d = l.getD (if i < r then i else i + 1) d := by
  simp only [List.getD_eq_getElem?_getD, List.getElem?_eraseIdx]
  split <;> rfl

theorem entry_minor (m : Mat) (r c i j : Nat) :
    entry (minor m r c) i j = entry m (if i < r then i else i + 1) (if j < c then j else j + 1) := by
  unfold entry minor
  have : ((m.eraseIdx r).map (·.eraseIdx c)).getD i [] = ((m.eraseIdx r).getD i []).eraseIdx c := by
    simp only [List.getD_eq_getElem?_getD, List.getElem?_map]
    cases (m.eraseIdx r)[i]? <;> rfl
  rw [this, getD_eraseIdx, getD_eraseIdx]

theorem toM_minor (n : Nat) (m : Mat) (i : Fin (n + 1)) :
    toM n (minor m i 0) = (toM (n + 1) m).submatrix i.succAbove Fin.succ := by
  funext a b
  show entry (minor m i.val 0) a.val b.val = entry m (i.succAbove a).val b.succ.val
  rw [entry_minor, Fin.succAbove, if_neg (Nat.not_lt_zero _)]
  by_cases h : a.val < i.val
  · rw [if_pos h, if_pos (show a.castSucc < i from h)]; rfl
  · rw [if_neg h, if_neg (show ¬ a.castSucc < i from h)]; rfl

/-- **the list model of `det` is the determinant**, for every size the code accepts (`n ≥ 2`) -/
theorem detN_eq_det (n : Nat) : ∀ (m : Mat), 2 ≤ n → detN n m = (toM n m).det := by
  induction n with
  | zero => exact fun _ h => absurd h (by decide)
  | succ n ih =>
    intro m h
    match n, ih with
    | 0, _ => exact absurd h (by decide)
    | 1, _ => rw [detN, Matrix.det_fin_two]; rfl
    | n + 2, ih =>
      rw [detN, Matrix.det_succ_column_zero, sumTo_eq_sum, ← Fin.sum_univ_eq_sum_range
        (fun i => entry m i 0 * sgn (i + 2) * detN (n + 2) (minor m i 0)) (n + 3)]
      refine Finset.sum_congr rfl fun i _ => ?_
      rw [ih _ (Nat.le_add_left 2 n), toM_minor, sgn_eq_pow, pow_add]
      change _ = _ * entry m i.val 0 * _
      ring

end ArrModel.C15
