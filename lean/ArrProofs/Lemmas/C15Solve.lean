import ArrProofs.Lemmas.C15LU
/-!
# Lemmas for C15: triangular substitutions, pivots, and `A · solve A b = b`

The factorisation and the two substitutions are read as matrix equations (`P·A = L̂·U`, `L̂·Y = P·B`, `U·X = Y`), so that
`A·X = B` is associativity of the product.
-/
namespace ArrModel.C15
open ArrModel

/-! ### rows -/

theorem vget_replicate (k c : Nat) : vget (List.replicate k (0 : Rat)) c = 0 := by
  rw [vget, List.getD_eq_getElem?_getD, List.getElem?_replicate]
  split <;> rfl

theorem sumTo_one (f : Nat → Rat) : sumTo 1 f = f 0 := zero_add _

theorem vget_dotRows (coef : List Rat) (rows : Mat) (k c : Nat) (hc : c < k) :
    vget (dotRows coef rows k) c = sumTo coef.length (fun t => vget coef t * entry rows t c) := by
  unfold dotRows
  by_cases h0 : coef.length = 0
  · rw [if_pos h0, h0, vget_replicate]; rfl
  · rw [if_neg h0]
    by_cases h1 : coef.length = 1
    · rw [if_pos h1, h1, vget_map_range, if_pos hc, sumTo_one]
    · rw [if_neg h1, vget_map_range, if_pos hc]

theorem vget_subRow (k : Nat) (a b : List Rat) (c : Nat) (hc : c < k) :
    vget (subRow k a b) c = vget a c - vget b c := by
  rw [subRow, vget_map_range, if_pos hc]

theorem subRow_length (k : Nat) (a b : List Rat) : (subRow k a b).length = k := by
  rw [subRow, List.length_map, List.length_range]

theorem vget_take (l : List Rat) (m t : Nat) (ht : t < m) : vget (l.take m) t = vget l t := by
  rw [vget, vget, List.getD_eq_getElem?_getD, List.getD_eq_getElem?_getD, List.getElem?_take, if_pos ht]

theorem vget_drop (l : List Rat) (m t : Nat) : vget (l.drop m) t = vget l (m + t) := by
  rw [vget, vget, List.getD_eq_getElem?_getD, List.getD_eq_getElem?_getD, List.getElem?_drop]

theorem vget_map_div (l : List Rat) (d : Rat) (c : Nat) (hc : c < l.length) :
    vget (l.map (· / d)) c = vget l c / d := by
  rw [vget, vget, List.getD_eq_getElem?_getD, List.getD_eq_getElem?_getD, List.getElem?_map, List.getElem?_eq_getElem hc]
  rfl

theorem entry_append_lt (xs : Mat) (r : List Rat) (i c : Nat) (hi : i < xs.length) :
    entry (xs ++ [r]) i c = entry xs i c := by
  show ((xs ++ [r]).getD i []).getD c 0 = (xs.getD i []).getD c 0
  rw [List.getD_eq_getElem?_getD (l := xs ++ [r]), List.getElem?_append_left hi, ← List.getD_eq_getElem?_getD]

theorem entry_append_eq (xs : Mat) (r : List Rat) (c : Nat) :
    entry (xs ++ [r]) xs.length c = vget r c := by
  show ((xs ++ [r]).getD xs.length []).getD c 0 = r.getD c 0
  rw [List.getD_eq_getElem?_getD (l := xs ++ [r]), List.getElem?_append_right (le_refl _), Nat.sub_self]
  rfl

theorem entry_cons_zero (r : List Rat) (xs : Mat) (c : Nat) : entry (r :: xs) 0 c = vget r c := rfl

theorem entry_cons_succ (r : List Rat) (xs : Mat) (i c : Nat) : entry (r :: xs) (i + 1) c = entry xs i c := rfl

theorem entry_drop (m : Mat) (t r c : Nat) : entry (m.drop t) r c = entry m (t + r) c := by
  show ((m.drop t).getD r []).getD c 0 = (m.getD (t + r) []).getD c 0
  rw [List.getD_eq_getElem?_getD (l := m.drop t), List.getElem?_drop, ← List.getD_eq_getElem?_getD]

/-! ### forward substitution -/

/-- the first `m` rows of the forward substitution -/
def fwd (k : Nat) (l pb : Mat) (m : Nat) : Mat :=
  (List.range m).foldl (fun ys i =>
    ys ++ [subRow k (pb.getD i []) (dotRows ((l.getD i []).take i) ys k)]) []

theorem forwardSubst_eq (n k : Nat) (l pb : Mat) : forwardSubst n k l pb = fwd k l pb n := rfl

theorem fwd_succ (k : Nat) (l pb : Mat) (m : Nat) :
    fwd k l pb (m + 1) = fwd k l pb m ++
      [subRow k (pb.getD m []) (dotRows ((l.getD m []).take m) (fwd k l pb m) k)] := by
  unfold fwd; rw [List.range_succ, List.foldl_append]; rfl

theorem fwd_length (k : Nat) (l pb : Mat) (m : Nat) : (fwd k l pb m).length = m := by
  induction m with
  | zero => rfl
  | succ m ih => rw [fwd_succ, List.length_append, ih]; rfl

theorem fwd_stable (k : Nat) (l pb : Mat) (i c m : Nat) (h : i < m) :
    entry (fwd k l pb m) i c = entry (fwd k l pb (i + 1)) i c := by
  induction m with
  | zero => exact absurd h (Nat.not_lt_zero i)
  | succ m ih =>
    rcases Nat.lt_or_ge i m with h' | h'
    · rw [fwd_succ, entry_append_lt _ _ _ _ (by rw [fwd_length]; exact h')]
      exact ih h'
    · rw [Nat.le_antisymm (Nat.le_of_lt_succ h) h']

theorem fwd_recurrence (k : Nat) (l pb : Mat) (m : Nat)
    (hl : ∀ i, i < m → i ≤ (l.getD i []).length) :
    ∀ i c, i < m → c < k →
      entry (fwd k l pb m) i c = entry pb i c - sumTo i (fun t => entry l i t * entry (fwd k l pb m) t c) := by
  intro i c hi hc
  have e := entry_append_eq (fwd k l pb i) (subRow k (pb.getD i []) (dotRows ((l.getD i []).take i) (fwd k l pb i) k)) c
  rw [fwd_length] at e
  rw [fwd_stable k l pb i c m hi, fwd_succ, e, vget_subRow _ _ _ _ hc, vget_dotRows _ _ _ _ hc, List.length_take,
    Nat.min_eq_left (hl i hi)]
  refine congrArg (entry pb i c - ·) (sumTo_congr _ _ _ fun t ht => ?_)
  rw [vget_take _ _ _ ht, fwd_stable k l pb t c m (Nat.lt_trans ht hi), ← fwd_stable k l pb t c i ht]
  rfl

/-! ### back substitution -/

/-- the rows `s, s+1, …, s+len-1` of the back substitution (computed last row first) -/
def bwd (k : Nat) (u y : Mat) (s len : Nat) : Mat :=
  (List.range' s len).foldr (fun i xs =>
    ((subRow k (y.getD i []) (dotRows ((u.getD i []).drop (i + 1)) xs k)).map (· / entry u i i)) :: xs) []

theorem backSubst_eq (n k : Nat) (u y : Mat) : backSubst n k u y = bwd k u y 0 n := by
  unfold backSubst bwd; rw [List.range_eq_range']

theorem bwd_succ (k : Nat) (u y : Mat) (s len : Nat) :
    bwd k u y s (len + 1) =
      ((subRow k (y.getD s []) (dotRows ((u.getD s []).drop (s + 1)) (bwd k u y (s + 1) len) k)).map
        (· / entry u s s)) :: bwd k u y (s + 1) len := by
  unfold bwd; rw [List.range'_succ, List.foldr_cons]

theorem bwd_rows (k : Nat) (u y : Mat) (len : Nat) :
    ∀ s, (bwd k u y s len).length = len ∧ ∀ row ∈ bwd k u y s len, row.length = k := by
  induction len with
  | zero => exact fun s => ⟨rfl, fun row hrow => absurd hrow List.not_mem_nil⟩
  | succ len ih =>
    intro s
    rw [bwd_succ]
    obtain ⟨h1, h2⟩ := ih (s + 1)
    refine ⟨congrArg (· + 1) h1, fun row hrow => ?_⟩
    rcases List.mem_cons.1 hrow with h | h
    · rw [h, List.length_map, subRow_length]
    · exact h2 row h

/-- row `t` of the back substitution, in terms of the rows computed before it (those after it in the list) -/
theorem bwd_row (k : Nat) (u y : Mat) (len : Nat) : ∀ s t c, t < len → c < k →
    entry (bwd k u y s len) t c =
      (entry y (s + t) c - vget (dotRows ((u.getD (s + t) []).drop (s + t + 1)) ((bwd k u y s len).drop (t + 1)) k) c)
        / entry u (s + t) (s + t) := by
  induction len with
  | zero => exact fun _ t _ ht _ => absurd ht (Nat.not_lt_zero t)
  | succ len ih =>
    intro s t c ht hc
    rw [bwd_succ]
    cases t with
    | zero =>
      rw [entry_cons_zero, vget_map_div _ _ _ (by rw [subRow_length]; exact hc), vget_subRow _ _ _ _ hc]
      rfl
    | succ t =>
      rw [entry_cons_succ, ih (s + 1) t c (Nat.lt_of_succ_lt_succ ht) hc, Nat.succ_add_eq_add_succ]
      rfl

theorem backSubst_recurrence (n k : Nat) (u y : Mat) (hu : ∀ i, i < n → (u.getD i []).length = n) :
    ∀ i c, i < n → c < k →
      entry (backSubst n k u y) i c =
        (entry y i c - sumTo (n - i - 1)
          (fun r => entry u i (i + 1 + r) * entry (backSubst n k u y) (i + 1 + r) c)) / entry u i i := by
  intro i c hi hc
  have h := bwd_row k u y n 0 i c hi hc
  rw [Nat.zero_add] at h
  rw [backSubst_eq, h, vget_dotRows _ _ _ _ hc, List.length_drop, hu i hi, Nat.sub_sub]
  refine congrArg (fun z => (entry y i c - z) / entry u i i) (sumTo_congr _ _ _ fun r _ => ?_)
  rw [vget_drop, entry_drop]
  rfl

/-- an upper-triangular row applied to the back-substituted unknowns gives back the right-hand side -/
theorem upper_row_apply (n k : Nat) (u y : Mat) (hu : ∀ i, i < n → (u.getD i []).length = n)
    (htri : ∀ i c, i < n → c < n → c < i → entry u i c = 0)
    (hpiv : ∀ i, i < n → entry u i i ≠ 0) :
    ∀ i c, i < n → c < k →
      sumTo n (fun t => entry u i t * entry (backSubst n k u y) t c) = entry y i c := by
  intro i c hi hc
  rw [sumTo_eq_sum, sum_split n i hi, Finset.sum_eq_zero (s := Finset.range i), zero_add,
    backSubst_recurrence n k u y hu i c hi hc, sumTo_eq_sum, mul_div_cancel₀ _ (hpiv i hi), sub_add_cancel]
  intro t ht
  have hti := Finset.mem_range.1 ht
  rw [htri i t hi (Nat.lt_trans hti hi) hti, zero_mul]

/-! ### the factorisation and the substitutions as matrix equations -/

/-- the `n × k` matrix read off a list of rows (`toM` is the square case) -/
def toMR (n k : Nat) (m : Mat) : Matrix (Fin n) (Fin k) ℚ := fun i j => entry m i j

/-- the unit lower-triangular factor read off the strictly lower part of the model's `L` -/
def lowerM (n : Nat) (l : Mat) : Matrix (Fin n) (Fin n) ℚ :=
  fun i t => if (t : Nat) < i then entry l i t else if t = i then 1 else 0

theorem toM_mul_apply {n k : Nat} (a x : Mat) (σ : Fin n → Fin n) (i : Fin n) (c : Fin k) :
    ((toM n a).submatrix σ id * toMR n k x) i c = sumTo n fun t => entry a (σ i) t * entry x t c := by
  rw [Matrix.mul_apply, sumTo_eq_sum, ← Fin.sum_univ_eq_sum_range (fun t => entry a (σ i) t * entry x t c) n]
  rfl

theorem lowerM_mul_apply {n k : Nat} (l x : Mat) (i : Fin n) (c : Fin k) :
    (lowerM n l * toMR n k x) i c = sumTo i (fun t => entry l i t * entry x t c) + entry x i c := by
  rw [Matrix.mul_apply, sumTo_eq_sum]
  have e : ∑ t : Fin n, lowerM n l i t * toMR n k x t c = ∑ t ∈ Finset.range n,
      (if t < (i : Nat) then entry l i t else if t = (i : Nat) then 1 else 0) * entry x t c := by
    rw [← Fin.sum_univ_eq_sum_range
      (fun t => (if t < (i : Nat) then entry l i t else if t = (i : Nat) then 1 else 0) * entry x t c) n]
    refine Finset.sum_congr rfl fun t _ => ?_
    simp only [lowerM, toMR, Fin.ext_iff]
  rw [e, sum_range_of_zero_above n i i.2 _ fun t hit _ => by
    rw [if_neg (Nat.lt_asymm hit), if_neg (Nat.ne_of_gt hit), zero_mul]]
  rw [if_neg (Nat.lt_irrefl _), if_pos rfl, one_mul]
  refine congrArg (· + entry x i c) (Finset.sum_congr rfl fun t ht => ?_)
  rw [if_pos (Finset.mem_range.1 ht)]

/-- `P · A = L̂ · U` -/
theorem factor_matrix {n : Nat} {a : Mat} {s : LU} {cnt : Nat} (h : Inv n a n s cnt)
    (σ : Equiv.Perm (Fin n)) (hσ : ∀ i : Fin n, s.perm.getD i 0 = (σ i : Nat)) :
    (toM n a).submatrix σ id = lowerM n s.l * toM n s.u := by
  funext i c
  rw [Matrix.submatrix_apply]
  show entry a (σ i) c = (lowerM n s.l * toMR n n s.u) i c
  rw [lowerM_mul_apply, ← hσ i, h.fact i c i.2 c.2, Nat.min_eq_left (le_of_lt i.2)]

/-- `L̂ · Y = B'` for the forward substitution `Y` of `B'` -/
theorem lower_mul_forwardSubst (n k : Nat) (l pb : Mat) (hl : ∀ i, i < n → (l.getD i []).length = n) :
    lowerM n l * toMR n k (forwardSubst n k l pb) = toMR n k pb := by
  funext i c
  rw [lowerM_mul_apply, forwardSubst_eq,
    fwd_recurrence k l pb n (fun i hi => by rw [hl i hi]; exact le_of_lt hi) i c i.2 c.2, add_sub_cancel]
  rfl

/-- `U · X = Y` for the back substitution `X` of `Y` -/
theorem upper_mul_backSubst (n k : Nat) (u y : Mat) (hu : ∀ i, i < n → (u.getD i []).length = n)
    (htri : ∀ i c, i < n → c < n → c < i → entry u i c = 0) (hpiv : ∀ i, i < n → entry u i i ≠ 0) :
    toM n u * toMR n k (backSubst n k u y) = toMR n k y := by
  funext i c
  exact (toM_mul_apply u _ id i c).trans (upper_row_apply n k u y hu htri hpiv i c i.2 c.2)

theorem lowerM_det (n : Nat) (l : Mat) : (lowerM n l).det = 1 := by
  rw [Matrix.det_of_isLowerTriangular]
  · refine Finset.prod_eq_one fun i _ => ?_
    show (if (i : Nat) < i then _ else if i = i then (1 : ℚ) else 0) = 1
    rw [if_neg (Nat.lt_irrefl _), if_pos rfl]
  · intro i j hij
    have hij' : (i : Nat) < j := hij
    show (if (j : Nat) < i then _ else if j = i then (1 : ℚ) else 0) = 0
    rw [if_neg (Nat.lt_asymm hij'), if_neg (fun e => Nat.ne_of_gt hij' (congrArg Fin.val e))]

theorem toM_u_det {n : Nat} {a : Mat} {s : LU} {cnt : Nat} (h : Inv n a n s cnt) :
    (toM n s.u).det = ∏ i ∈ Finset.range n, entry s.u i i := by
  rw [Matrix.det_of_isUpperTriangular]
  · exact Fin.prod_univ_eq_prod_range (fun i => entry s.u i i) n
  · intro i j hij
    exact h.tri i j i.2 j.2 (by rw [Nat.min_eq_left (le_of_lt i.2)]; exact hij)

/-- `sign(P) · det A = Π pivots` -/
theorem det_factor {n : Nat} {a : Mat} {s : LU} {cnt : Nat} (h : Inv n a n s cnt) :
    (-1 : ℚ) ^ cnt * (toM n a).det = ∏ i ∈ Finset.range n, entry s.u i i := by
  obtain ⟨σ, hσ, hs⟩ := h.perm
  have := congrArg Matrix.det (factor_matrix h σ hσ)
  rw [Matrix.det_permute, Matrix.det_mul, lowerM_det, toM_u_det h, one_mul, hs] at this
  rw [← this, Units.val_pow_eq_pow_val, Units.val_neg, Units.val_one, Int.cast_pow, Int.cast_neg, Int.cast_one]

theorem pivots_ne_zero {n : Nat} {a : Mat} {s : LU} {cnt : Nat} (h : Inv n a n s cnt)
    (hdet : (toM n a).det ≠ 0) : ∀ i, i < n → entry s.u i i ≠ 0 := by
  have hp : ∏ i ∈ Finset.range n, entry s.u i i ≠ 0 := by
    rw [← det_factor h]; exact mul_ne_zero (pow_ne_zero _ (neg_ne_zero.2 one_ne_zero)) hdet
  intro i hi
  exact (Finset.prod_ne_zero_iff.1 hp) i (Finset.mem_range.2 hi)

/-! ### `A · solveMat A b = b` -/

theorem solveMat_rows (n k : Nat) (a b : Mat) :
    (solveMat n k a b).length = n ∧ ∀ row ∈ solveMat n k a b, row.length = k := by
  unfold solveMat
  rw [backSubst_eq]; exact bwd_rows k _ _ n 0

theorem solveMat_apply (n k : Nat) (a b : Mat) (hn : 2 ≤ n)
    (hA : ∀ i, i < n → (a.getD i []).length = n) (hdet : detN n a ≠ 0) :
    ∀ r c, r < n → c < k →
      sumTo n (fun t => entry a r t * entry (solveMat n k a b) t c) = entry b r c := by
  intro r c hr hc
  have I := inv_lu n a hA
  rw [detN_eq_det n a hn] at hdet
  obtain ⟨σ, hσ, _⟩ := I.perm
  -- `P·A·X = L̂·(U·X) = L̂·Y = P·B`, read at the row of the permuted system that carries row `r`
  have h : (toM n a).submatrix σ id * toMR n k (solveMat n k a b) =
      toMR n k ((List.range n).map fun i => b.getD ((lu n a).perm.getD i 0) []) := by
    rw [factor_matrix I σ hσ, Matrix.mul_assoc]
    show lowerM n (lu n a).l * (toM n (lu n a).u * toMR n k (backSubst n k (lu n a).u _)) = _
    rw [upper_mul_backSubst n k _ _ I.urows (fun i c hi hc hlt => I.tri i c hi hc (by rw [Nat.min_eq_left (le_of_lt hi)]; exact hlt))
      (pivots_ne_zero I hdet), lower_mul_forwardSubst n k _ _ I.lrows]
  have h' := congrFun (congrFun h (σ.symm ⟨r, hr⟩)) ⟨c, hc⟩
  rw [toM_mul_apply, Equiv.apply_symm_apply] at h'
  rw [h']
  show entry ((List.range n).map fun i => b.getD ((lu n a).perm.getD i 0) []) (σ.symm ⟨r, hr⟩ : Fin n) c = _
  rw [entry, getD_map_range, if_pos (σ.symm ⟨r, hr⟩).2, hσ, Equiv.apply_symm_apply]
  rfl

end ArrModel.C15
