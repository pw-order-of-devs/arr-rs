import ArrProofs.Lemmas.C14Ext
import ArrProofs.Lemmas.Axis
import ArrProofs.Lemmas.C11Append
import ArrProofs.Lemmas.C11OneD
/-! `dot` with an operand of rank ≥ 3 (`ArrModel/C14Ext.lean`): `dot_1d` on a stack reads rows from the buffer and columns from
the all-axes-reversed transpose; `dot_nd` cuts both rotated operands into vectors (`dotSplitArray_spec`) and has the closed
form `dotNd_computes`; the dispatch of `dotFull` -/

namespace ArrModel
namespace C14
open Finset

/-! ### `dot_1d`, a stack on the left: `get_rows` reads `shape[0]` pieces of length `shape[1]` -/

theorem rows_le_stack {a : A} {s0 k : Nat} {rest : List Nat} (hwf : a.WF) (hs : a.shape = s0 :: k :: rest)
    (hr : 0 < rest.prod) : s0 * k ≤ a.elems.length := by
  rw [wf_len_stack hwf hs]
  exact Nat.mul_le_mul_left _ (Nat.le_mul_of_pos_right _ hr)

theorem dot1dNd_stackvec_eq {a b : A} {s0 s1 k : Nat} {rest : List Nat} (hsa : a.shape = s0 :: s1 :: rest)
    (hsb : b.shape = [k]) :
    dot1dNd a b = dotIterate ((List.range s0).map (fun i => Arr.flat (piece a.elems s1 i))) [b] := by
  have hnda : 1 < a.ndim := by rw [ndim_of_shape hsa]; exact Nat.succ_lt_succ (Nat.zero_lt_succ _)
  have hndb : b.ndim = 1 := ndim_of_shape hsb
  unfold dot1dNd
  simp only [gt_iff_lt, hnda, hndb, Nat.lt_irrefl, if_true, if_false, getRows_stack a s0 s1 rest hsa, Res.bind_ok, Res.pure_eq]

/-! ### the all-axes-reversed transpose used by `get_columns` -/

theorem permute_reverse (s : List Nat) : permute (List.range s.length).reverse s = s.reverse := by
  apply List.ext_getElem
  · simp [permute]
  · intro i h1 h2
    have hi : i < s.length := by simpa [permute] using h1
    simp only [permute, List.getElem_map, List.getElem_reverse, List.getElem_range, List.length_range,
      List.getD_eq_getElem?_getD]
    rw [List.getElem?_eq_getElem (by omega)]
    rfl

theorem permute_reverse_of_length (n : Nat) (c : List Nat) (h : c.length = n) :
    permute (List.range n).reverse c = c.reverse := by
  subst h; exact permute_reverse c

/-- the element buffer of `transpose(None)` -/
def revT (b : A) : List Int := transposeElems b.shape (List.range b.ndim).reverse b.elems 0

theorem length_revT (b : A) : (revT b).length = b.elems.length := transposeElems_length _ _ _ _

theorem transpose_none_ok (b : A) (hb : b.WF) : b.transpose 0 none = .ok ⟨revT b, b.shape.reverse⟩ := by
  unfold Arr.transpose
  simp only [axesOf]
  rw [(validAxes_ok_iff b.ndim _).2 (List.reverse_perm _)]
  simp only [Res.bind_ok, Arr.ndim, permute_reverse, Arr.new]
  rw [if_pos (by rw [transposeElems_length, List.prod_reverse]; exact hb.symm)]
  rfl

theorem revT_get (b : A) (hb : b.WF) (c : List Nat) (hc : inRange b.shape c = true) :
    (revT b)[ravel b.shape.reverse c.reverse]? = b.elems[ravel b.shape c]? := by
  have h := transposeElems_get b.shape (List.range b.shape.length).reverse b.elems 0 (List.reverse_perm _) hb c hc
  rwa [permute_reverse, permute_reverse_of_length _ c (inRange_length _ _ hc)] at h

theorem ravel_zeros (s : List Nat) : ravel s (List.replicate s.length 0) = 0 :=
  ravel_all_zero _ _ fun _ hx => (List.mem_replicate.1 hx).2

theorem inRange_zeros : ∀ (s : List Nat), 0 < s.prod → inRange s (List.replicate s.length 0) = true
  | [], _ => rfl
  | d :: ds, h => by
    rw [List.prod_cons] at h
    rw [List.length_cons, List.replicate_succ, inRange, inRange_zeros ds (Nat.pos_of_mul_pos_left h),
      decide_eq_true (Nat.pos_of_mul_pos_right h)]
    rfl

/-- position `j·s0 + i` of the reversed transpose of a stack `s0 :: s1 :: rest` is the entry `(i, j, 0, …, 0)` -/
theorem revT_col (b : A) (s0 s1 : Nat) (rest : List Nat) (hb : b.WF) (hsb : b.shape = s0 :: s1 :: rest)
    (hr : 0 < rest.prod) (i j : Nat) (hi : i < s0) (hj : j < s1) :
    (revT b).getD (j * s0 + i) 0 = b.ent (i :: j :: List.replicate rest.length 0) := by
  have hc : inRange b.shape (i :: j :: List.replicate rest.length 0) = true := by
    rw [hsb]; simp [inRange, hi, hj, inRange_zeros rest hr]
  have h := revT_get b hb _ hc
  have hrav : ravel b.shape.reverse (i :: j :: List.replicate rest.length 0).reverse = j * s0 + i := by
    rw [hsb]
    simp only [List.reverse_cons, List.append_assoc, List.cons_append, List.nil_append, List.reverse_replicate]
    rw [ravel_append_append rest.reverse (List.replicate rest.length 0) [s1, s0] [j, i] (by simp)]
    have hz := ravel_zeros rest.reverse
    rw [List.length_reverse] at hz
    rw [hz, ravel_mat, Nat.zero_mul, Nat.zero_add]
  rw [hrav] at h
  rw [List.getD_eq_getElem?_getD, h, ent_eq_getD, List.getD_eq_getElem?_getD]

theorem getColumnsNd_stack (b : A) (s0 s1 : Nat) (rest : List Nat) (hb : b.WF) (hsb : b.shape = s0 :: s1 :: rest) :
    getColumnsNd b = .ok ((List.range s1).map (fun j => Arr.flat (piece (revT b) s0 j))) := by
  rw [getColumnsNd, transpose_none_ok b hb, hsb]
  show Res.ok ((pieces s0 (revT b) s1).map Arr.flat) = _
  rw [pieces_eq_map, List.map_map]; rfl

theorem cols_le_stack {b : A} {s0 s1 : Nat} {rest : List Nat} (hb : b.WF) (hsb : b.shape = s0 :: s1 :: rest)
    (hr : 0 < rest.prod) : s1 * s0 ≤ (revT b).length := by
  rw [length_revT, wf_len_stack hb hsb, Nat.mul_comm s1 s0]
  exact Nat.mul_le_mul_left _ (Nat.le_mul_of_pos_right _ hr)

theorem dot1dNd_vecstack_eq {a b : A} {k s0 s1 : Nat} {rest : List Nat} (hb : b.WF) (hsa : a.shape = [k])
    (hsb : b.shape = s0 :: s1 :: rest) :
    dot1dNd a b = dotIterate [a] ((List.range s1).map (fun j => Arr.flat (piece (revT b) s0 j))) := by
  have hnda : a.ndim = 1 := ndim_of_shape hsa
  have hndb : 1 < b.ndim := by rw [ndim_of_shape hsb]; exact Nat.succ_lt_succ (Nat.zero_lt_succ _)
  unfold dot1dNd
  simp only [gt_iff_lt, hnda, hndb, Nat.lt_irrefl, if_true, if_false, getColumnsNd_stack b s0 s1 rest hb hsb, Res.bind_ok,
    Res.pure_eq]

theorem dot1dNd_wf {a b r : A} (h : dot1dNd a b = .ok r) : r.WF := by
  unfold dot1dNd at h
  split at h <;> split at h
  all_goals
    obtain ⟨v1, _, h⟩ := Res.bind_eq_ok h
    obtain ⟨v2, _, h⟩ := Res.bind_eq_ok h
    exact dotIterate_wf h

/-! ### `dot_split_array` -/

/-- `split(parts, None)` of a flat array of `parts · n` elements: the `parts` consecutive pieces of length `n` -/
theorem split_flat_pieces (S : List Int) (parts n : Nat) (hp : 0 < parts) (hn : 0 < n) (hl : S.length = parts * n) :
    (Arr.flat S).split 0 parts none = .ok ((List.range parts).map (fun c => Arr.flat (piece S n c))) := by
  have hpos : 0 < parts * n := Nat.mul_pos hp hn
  have hne : (Arr.flat S).isEmpty = false := by
    simp only [Arr.isEmpty, Arr.flat, beq_eq_false_iff_ne, ne_eq]
    rw [hl]; omega
  unfold Arr.split
  simp only [hne, Bool.false_eq_true, if_false]
  rw [if_neg (by simp [Arr.ndim, Arr.flat]), if_neg (by omega)]
  simp only [Arr.flat, Option.getD_none, Res.idx, List.getElem?_cons_zero, Res.bind_ok]
  rw [if_pos (by rw [hl]; exact Nat.mul_mod_right parts n)]
  have h0 : (⟨S, [S.length]⟩ : A).arraySplit 0 parts none = (⟨S, [S.length]⟩ : A).arraySplit 0 parts (some 0) := rfl
  rw [h0, C11.arraySplit_flat1d ⟨S, [S.length]⟩ 0 parts S.length (Arr.flat_wf S) rfl (by omega) hp]
  congr 1
  apply List.map_congr_left
  intro c hc
  have hc' : c < parts := List.mem_range.1 hc
  have hsz : sectionSizes S.length parts = List.replicate parts n := by
    rw [C11.sectionSizes_dvd _ _ (by rw [hl]; exact Nat.mul_mod_right parts n), hl, Nat.mul_div_cancel_left n hp]
  simp only [Arr.flat, C11.blockOf, hsz, piece]
  rw [List.take_replicate, List.sum_replicate_nat, Nat.min_eq_left hc'.le, List.getD_eq_getElem?_getD, List.getElem?_replicate,
    if_pos hc']
  rfl

/-- **`dot_split_array(x, axis)`** for `x.shape = P ++ n :: Q` (no zero-length axis): `prod(P)·prod(Q)` vectors of
length `n`, the consecutive pieces of the buffer `S` that holds `x` with the axis moved to the front. -/
theorem dotSplitArray_spec (x : A) (n : Nat) (P Q : List Nat) (hwf : x.WF) (hs : x.shape = P ++ n :: Q)
    (hnz : 0 ∉ x.shape) :
    ∃ S : List Int, S.length = P.prod * Q.prod * n ∧
      (∀ p q i, inRange P p = true → inRange Q q = true → i < n →
        S[(i * P.prod + ravel P p) * Q.prod + ravel Q q]? = x.get? (p ++ i :: q)) ∧
      dotSplitArray x P.length = .ok ((List.range (P.prod * Q.prod)).map (fun c => Arr.flat (piece S n c))) := by
  obtain ⟨ps, h1, h2, h3⟩ := C11.splitAxis_flat x 0 n P Q hwf hs
  have hnz' := (C11.mem_append_cons_iff P Q n).1 (hs ▸ hnz)
  have hn : 0 < n := Nat.pos_of_ne_zero hnz'.2.1
  have hP : 0 < P.prod := prod_pos_of_not_mem _ hnz'.1
  have hQ : 0 < Q.prod := prod_pos_of_not_mem _ hnz'.2.2
  refine ⟨ps.flatMap (·.elems), by rw [h2, Nat.mul_comm], h3, ?_⟩
  unfold dotSplitArray
  rw [h1, Res.bind_ok, removeAt, hs, if_pos (by rw [List.length_append, List.length_cons]; omega), C11.eraseIdx_mid,
    Res.bind_ok, List.prod_append]
  exact split_flat_pieces _ (P.prod * Q.prod) n (Nat.mul_pos hP hQ) hn (by rw [h2, Nat.mul_comm])

/-! ### `dot_nd` -/

/-- the untransposed result buffer of `dot_nd`: entry `(c, d)` is the flattened dot product of piece `c` of the first
rotated operand and piece `d` of the second (pieces of length `n`) -/
def dotU (S1 S2 : List Int) (n c1 c2 : Nat) : List Int :=
  (List.range c1).flatMap (fun c => (List.range c2).map (fun d =>
    ∑ x ∈ range n, S1.getD (c * n + x) 0 * S2.getD (d * n + x) 0))

theorem length_dotU (S1 S2 : List Int) (n c1 c2 : Nat) : (dotU S1 S2 n c1 c2).length = c1 * c2 :=
  length_flatMap_range c1 c2 _

theorem dotIterate_pieces (S1 S2 : List Int) (n c1 c2 : Nat) (hn : 0 < n)
    (h1 : S1.length = c1 * n) (h2 : S2.length = c2 * n) :
    dotIterate ((List.range c1).map (fun c => Arr.flat (piece S1 n c))) ((List.range c2).map (fun d => Arr.flat (piece S2 n d)))
      = .ok (Arr.flat (dotU S1 S2 n c1 c2)) := by
  rw [dotIterate_ok _ _ n (by omega) (fun x hx => length_of_mem_flats (fun _ hc => length_piece h1.ge hc) hx)
    (fun y hy => length_of_mem_flats (fun _ hd => length_piece h2.ge hd) hy)]
  simp only [List.flatMap_map, List.map_map, Function.comp_def, Arr.flat]
  refine congrArg (fun l => Res.ok (Arr.flat l)) (List.flatMap_congr fun c hc => List.map_congr_left fun d hd => ?_)
  exact sumProd_pieces h1.ge (List.mem_range.1 hc) h2.ge (List.mem_range.1 hd)

theorem dotIterate_pieces_refused (S1 S2 : List Int) (n p c1 c2 : Nat) (hc1 : 0 < c1) (hc2 : 0 < c2)
    (h1 : S1.length = c1 * n) (h2 : S2.length = c2 * p) (hne : n ≠ p) :
    dotIterate ((List.range c1).map (fun c => Arr.flat (piece S1 n c))) ((List.range c2).map (fun d => Arr.flat (piece S2 p d)))
      = .err .MustBeEqual :=
  dotIterate_refused _ _ n p hne (by rwa [List.length_map, List.length_range]) (by rwa [List.length_map, List.length_range])
    (fun x hx => length_of_mem_flats (fun _ hc => length_piece h1.ge hc) hx)
    (fun y hy => length_of_mem_flats (fun _ hd => length_piece h2.ge hd) hy)

/-! ### the operands of `dot_nd`: shapes `LA ++ [n, m]` and `LB ++ [m', p]` -/

theorem getElem?_append_pair (L : List Nat) (x y : Nat) :
    (L ++ [x, y])[L.length + 2 - 2]? = some x ∧ (L ++ [x, y])[L.length + 2 - 1]? = some y :=
  ⟨(List.getElem?_append_right (Nat.le_refl _)).trans (by rw [Nat.sub_self]; rfl),
   (List.getElem?_append_right (Nat.le_add_right _ 1)).trans (by rw [Nat.add_sub_cancel_left]; rfl)⟩

theorem removeAt_append_pair (L : List Nat) (x y : Nat) :
    removeAt (L ++ [x, y]) (L.length + 2 - 2) = .ok (L ++ [y]) ∧ removeAt (L ++ [x, y]) (L.length + 2 - 1) = .ok (L ++ [x]) := by
  constructor
  · rw [removeAt, if_pos (by rw [List.length_append]; exact Nat.lt_add_of_pos_right Nat.two_pos)]
    exact congrArg Res.ok (C11.eraseIdx_mid L [y] x)
  · rw [removeAt, if_pos (by rw [List.length_append]; exact Nat.lt_succ_self _)]
    have h := C11.eraseIdx_mid (L ++ [x]) [] y
    rw [List.append_assoc, List.length_append, List.append_nil] at h
    exact congrArg Res.ok h

/-- `dot_nd` on shapes `LA ++ [n, m]` and `LB ++ [m', p]`: the contracted lengths are compared, both operands are
rotated and cut into vectors, all pairs go through `dot_iterate`, and the result is reshaped and transposed -/
theorem dotNd_of_shapes {a b : A} {LA LB : List Nat} {n m m' p : Nat} (hsa : a.shape = LA ++ [n, m])
    (hsb : b.shape = LB ++ [m', p]) :
    dotNd a b = if m = m' then
        dotSplitArray a (LA.length + 2 - 2) >>= fun v1 => dotSplitArray b (LB.length + 2 - 1) >>= fun v2 =>
        dotIterate v1 v2 >>= fun d => reshape d.elems ((LA ++ [m]) ++ (LB ++ [m'])) >>= fun r =>
        r.transpose 0 (some (dotPairs ((LA ++ [m]) ++ (LB ++ [m'])).length (decide (b.len > a.len))))
      else .err .ParameterError := by
  have hnda : a.ndim = LA.length + 2 := by rw [ndim_of_shape hsa, List.length_append]; rfl
  have hndb : b.ndim = LB.length + 2 := by rw [ndim_of_shape hsb, List.length_append]; rfl
  rw [dotNd, hnda, hndb, hsa, hsb, shapesAlign_eq (getElem?_append_pair LA n m).2 (getElem?_append_pair LB m' p).1,
    (removeAt_append_pair LA n m).1, (removeAt_append_pair LB m' p).2]
  split <;> rfl

/-- rotated first operand: `split_axis(ndim-2)` of `LA ++ [n, m]` -/
theorem dotSplit_a (a : A) (LA : List Nat) (n m : Nat) (ha : a.WF) (hsa : a.shape = LA ++ [n, m]) (hnz : 0 ∉ a.shape) :
    ∃ S : List Int, S.length = LA.prod * m * n ∧
      (∀ l k t, inRange LA l = true → k < m → t < n → S[(t * LA.prod + ravel LA l) * m + k]? = a.get? (l ++ [t, k])) ∧
      dotSplitArray a (LA.length + 2 - 2) = .ok ((List.range (LA.prod * m)).map (fun c => Arr.flat (piece S n c))) := by
  obtain ⟨S, h1, h2, h3⟩ := dotSplitArray_spec a n LA [m] ha hsa hnz
  rw [List.prod_singleton] at h1 h3
  refine ⟨S, h1, fun l k t hl hk ht => ?_, h3⟩
  have := h2 l [k] t hl (inRange_vec hk) ht
  rwa [List.prod_singleton, ravel_vec] at this

/-- rotated second operand: `split_axis(ndim-1)` of `LB ++ [m, p]` -/
theorem dotSplit_b (b : A) (LB : List Nat) (m p : Nat) (hb : b.WF) (hsb : b.shape = LB ++ [m, p]) (hnz : 0 ∉ b.shape) :
    ∃ S : List Int, S.length = LB.prod * m * p ∧
      (∀ l k u, inRange LB l = true → k < m → u < p → S[u * (LB.prod * m) + (ravel LB l * m + k)]? = b.get? (l ++ [k, u])) ∧
      dotSplitArray b (LB.length + 2 - 1) = .ok ((List.range (LB.prod * m)).map (fun c => Arr.flat (piece S p c))) := by
  have hsb' : b.shape = (LB ++ [m]) ++ p :: [] := by rw [hsb, List.append_assoc]; rfl
  obtain ⟨S, h1, h2, h3⟩ := dotSplitArray_spec b p (LB ++ [m]) [] hb hsb' hnz
  rw [List.prod_append, List.prod_singleton, List.prod_nil, Nat.mul_one] at h1 h3
  rw [List.length_append] at h3
  refine ⟨S, h1, fun l k u hl hk hu => ?_, h3⟩
  have hlen := (inRange_length _ _ hl).symm
  have := h2 (l ++ [k]) [] u (by rw [inRange_append_append LB l [m] [k] hlen, hl, inRange_vec hk]; rfl) rfl hu
  have hz : ravel [] ([] : List Nat) = 0 := rfl
  rwa [ravel_append_append LB l [m] [k] hlen, List.prod_append, List.prod_singleton,
    ravel_vec, List.prod_nil, Nat.mul_one, hz, Nat.add_zero, List.append_assoc] at this

/-- **`dot_nd` in closed form** (contracted lengths agree, `n = p`, no zero-length axis): the result is the transpose,
by the axis list `dotPairs`, of the array `U` of shape `LA ++ [m] ++ LB ++ [m]` whose flat entry `(c, d)` is the
flattened dot product of piece `c` of the first operand rotated by `split_axis(ndim-2)` and piece `d` of the second
operand rotated by `split_axis(ndim-1)`. -/
theorem dotNd_computes (a b : A) (LA LB : List Nat) (n m : Nat) (ha : a.WF) (hb : b.WF)
    (hsa : a.shape = LA ++ [n, m]) (hsb : b.shape = LB ++ [m, n]) (hnza : 0 ∉ a.shape) (hnzb : 0 ∉ b.shape) :
    ∃ S1 S2 : List Int, S1.length = LA.prod * m * n ∧ S2.length = LB.prod * m * n ∧
      (∀ l k t, inRange LA l = true → k < m → t < n → S1[(t * LA.prod + ravel LA l) * m + k]? = a.get? (l ++ [t, k])) ∧
      (∀ l k u, inRange LB l = true → k < m → u < n → S2[u * (LB.prod * m) + (ravel LB l * m + k)]? = b.get? (l ++ [k, u])) ∧
      dotNd a b = (⟨dotU S1 S2 n (LA.prod * m) (LB.prod * m), (LA ++ [m]) ++ (LB ++ [m])⟩ : A).transpose 0
        (some (dotPairs ((LA ++ [m]) ++ (LB ++ [m])).length (decide (b.len > a.len)))) := by
  obtain ⟨S1, a1, a2, a3⟩ := dotSplit_a a LA n m ha hsa hnza
  obtain ⟨S2, b1, b2, b3⟩ := dotSplit_b b LB m n hb hsb hnzb
  have hn : 0 < n := Nat.pos_of_ne_zero ((C11.mem_append_cons_iff LA [m] n).1 (hsa ▸ hnza)).2.1
  refine ⟨S1, S2, a1, b1, a2, b2, ?_⟩
  rw [dotNd_of_shapes hsa hsb, if_pos rfl, a3, b3, Res.bind_ok, Res.bind_ok, dotIterate_pieces S1 S2 n _ _ hn a1 b1, Res.bind_ok,
    reshape_of_length (by
      rw [List.prod_append, List.prod_append, List.prod_append, List.prod_singleton]; exact (length_dotU ..).symm),
    Res.bind_ok]
  rfl

/-- `dot_nd` ends in `transpose`, whose last step is `Array::new` -/
theorem dotNd_wf {a b r : A} (h : dotNd a b = .ok r) : r.WF :=
  (Res.All.bind' fun _ => .bind' fun _ => .bind' fun _ => .bind' fun _ => .bind' fun _ => .bind' fun _ => .bind' fun _ =>
      .bind' fun _ _ h => Arr.new_wf h : Res.All Arr.WF (dotNd a b)) r h

/-- the axis list of `dot_nd` for a result of rank 4 (no reversal): each pair of axes is swapped -/
theorem dotPairs_4 : dotPairs 4 false = [1, 0, 3, 2].map Int.ofNat := by decide

/-! ### dispatch of `dotFull` -/

theorem dotFull_1d_stack (a b : A) (h1 : a.len ≠ 1) (h2 : b.len ≠ 1)
    (hnd : (a.ndim = 1 ∧ 3 ≤ b.ndim) ∨ (3 ≤ a.ndim ∧ b.ndim = 1)) : dotFull a b = dot1dNd a b := by
  have hd : dot a b = none := by
    rw [dot, if_neg (not_or.2 ⟨h1, h2⟩), if_neg (by omega), if_neg (by omega), if_pos (by omega), if_neg (by omega)]
  rw [dotFull, hd]
  exact if_pos (by omega)

theorem dotFull_nd (a b : A) (h1 : a.len ≠ 1) (h2 : b.len ≠ 1) (ha : 2 ≤ a.ndim) (hb : 2 ≤ b.ndim)
    (h3 : 3 ≤ a.ndim ∨ 3 ≤ b.ndim) : dotFull a b = dotNd a b := by
  have hd : dot a b = none := by
    rw [dot, if_neg (not_or.2 ⟨h1, h2⟩), if_neg (by omega), if_neg (by omega), if_neg (by omega)]
  rw [dotFull, hd]
  exact if_neg (by omega)

theorem dotFull_stack_vec {a b : A} {s0 s1 k : Nat} {rest : List Nat} (hsa : a.shape = s0 :: s1 :: rest)
    (hsb : b.shape = [k]) (hrest : rest ≠ []) (h1 : a.len ≠ 1) (h2 : b.len ≠ 1) : dotFull a b = dot1dNd a b := by
  have hrl : 0 < rest.length := List.length_pos_iff.2 hrest
  have hnda : a.ndim = rest.length + 2 := ndim_of_shape hsa
  exact dotFull_1d_stack a b h1 h2 (Or.inr ⟨by omega, ndim_of_shape hsb⟩)

theorem dotFull_vec_stack {a b : A} {k s0 s1 : Nat} {rest : List Nat} (hsa : a.shape = [k])
    (hsb : b.shape = s0 :: s1 :: rest) (hrest : rest ≠ []) (h1 : a.len ≠ 1) (h2 : b.len ≠ 1) : dotFull a b = dot1dNd a b := by
  have hrl : 0 < rest.length := List.length_pos_iff.2 hrest
  have hndb : b.ndim = rest.length + 2 := ndim_of_shape hsb
  exact dotFull_1d_stack a b h1 h2 (Or.inl ⟨ndim_of_shape hsa, by omega⟩)

/-- shapes `LA ++ [n, m]`, `LB ++ [m', p]` with a stack among them take the `dot_nd` arm -/
theorem dotFull_nd_of_shapes {a b : A} {LA LB : List Nat} {n m m' p : Nat} (hsa : a.shape = LA ++ [n, m])
    (hsb : b.shape = LB ++ [m', p]) (h1 : a.len ≠ 1) (h2 : b.len ≠ 1) (hrank : LA ≠ [] ∨ LB ≠ []) :
    dotFull a b = dotNd a b := by
  have hl : 0 < LA.length ∨ 0 < LB.length := hrank.imp List.length_pos_iff.2 List.length_pos_iff.2
  have hnda : a.ndim = LA.length + 2 := by rw [ndim_of_shape hsa, List.length_append]; rfl
  have hndb : b.ndim = LB.length + 2 := by rw [ndim_of_shape hsb, List.length_append]; rfl
  exact dotFull_nd a b h1 h2 (by omega) (by omega) (by omega)

end C14
end ArrModel
