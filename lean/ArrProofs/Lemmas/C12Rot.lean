import ArrProofs.Lemmas.C12Reads
import ArrProofs.Props.C06
/-!
# C12: quarter turns

`turn` = flip of the second axis followed by exchanging the two axes (`transpose` with `swapOrder`); `turns n` = `n`
successive turns.  Coordinate descriptions of 1, 2, 3 and 4 turns.
-/
namespace ArrModel
open Arr
variable {α : Type}

/-- the exchange of `i` and `j` on axis numbers -/
def swapIdx (i j m : Nat) : Nat := if m = i then j else if m = j then i else m

theorem swapIdx_lt (nd i j m : Nat) (hi : i < nd) (hj : j < nd) (hm : m < nd) : swapIdx i j m < nd := by
  unfold swapIdx; split; · exact hj
  split; · exact hi
  exact hm

theorem swapIdx_left (i j : Nat) : swapIdx i j i = j := if_pos rfl

theorem swapIdx_right (i j : Nat) : swapIdx i j j = i := by
  unfold swapIdx
  by_cases h : j = i
  · rw [if_pos h, h]
  · rw [if_neg h, if_pos rfl]

theorem swapIdx_swapIdx (i j m : Nat) : swapIdx i j (swapIdx i j m) = m := by
  by_cases h1 : m = i
  · rw [h1, swapIdx_left, swapIdx_right]
  · by_cases h2 : m = j
    · rw [h2, swapIdx_right, swapIdx_left]
    · have e : swapIdx i j m = m := by unfold swapIdx; rw [if_neg h1, if_neg h2]
      rw [e, e]

theorem swapIdx_eq_right_iff (i j m : Nat) : swapIdx i j m = j ↔ m = i :=
  ⟨fun h => by rw [← swapIdx_swapIdx i j m, h, swapIdx_right], fun h => h ▸ swapIdx_left i j⟩

theorem permute_swap_length (nd i j : Nat) (c : List Nat) : (permute (swapOrder nd i j) c).length = nd := by
  simp [permute, swapOrder]

theorem permute_swap_getD (nd i j : Nat) (c : List Nat) (m : Nat) (hm : m < nd) :
    (permute (swapOrder nd i j) c).getD m 0 = c.getD (swapIdx i j m) 0 := by
  simp only [permute, swapOrder, List.map_map, List.getD_eq_getElem?_getD, List.getElem?_map, List.getElem?_range hm,
    Option.map_some, Option.getD_some, Function.comp, swapIdx]

theorem permute_swap_swap (nd i j : Nat) (c : List Nat) (hi : i < nd) (hj : j < nd) (hc : c.length = nd) :
    permute (swapOrder nd i j) (permute (swapOrder nd i j) c) = c := by
  apply coord_ext _ _ (by rw [permute_swap_length, hc])
  intro m hm
  rw [permute_swap_length] at hm
  rw [permute_swap_getD _ _ _ _ _ hm, permute_swap_getD _ _ _ _ _ (swapIdx_lt nd i j m hi hj hm), swapIdx_swapIdx]

theorem inRange_permute_swap (nd i j : Nat) (s c : List Nat) (hi : i < nd) (hj : j < nd) (hs : s.length = nd)
    (h : inRange s c = true) : inRange (permute (swapOrder nd i j) s) (permute (swapOrder nd i j) c) = true := by
  apply inRange_permute _ _ _ _ h
  intro x hx
  have := (C06.swapOrder_perm nd i j hi hj).mem_iff.1 hx
  simp at this; omega

theorem inRange_of_permute_swap (nd i j : Nat) (s c : List Nat) (hi : i < nd) (hj : j < nd) (hs : s.length = nd)
    (h : inRange (permute (swapOrder nd i j) s) c = true) : inRange s (permute (swapOrder nd i j) c) = true := by
  have := inRange_permute_swap nd i j _ c hi hj (permute_swap_length _ _ _ _) h
  rwa [permute_swap_swap nd i j s hi hj hs] at this

/-- conjugation: exchanging, flipping the second axis, exchanging back = flipping the first axis -/
theorem swap_flip_swap (nd i j : Nat) (s c : List Nat) (hi : i < nd) (hj : j < nd) (hs : s.length = nd) (hc : c.length = nd) :
    permute (swapOrder nd i j) (flipCoord (permute (swapOrder nd i j) s) j (permute (swapOrder nd i j) c)) = flipCoord s i c := by
  apply coord_ext _ _ (by rw [permute_swap_length, flipCoord_length, hc])
  intro m hm
  rw [permute_swap_length] at hm
  have hσ := swapIdx_lt nd i j m hi hj hm
  rw [permute_swap_getD _ _ _ _ _ hm, getD_flipCoord _ _ _ _ (by rw [permute_swap_length]; exact hj),
    getD_flipCoord _ _ _ _ (by omega), permute_swap_getD _ _ _ _ _ hj, permute_swap_getD _ _ _ _ _ hj,
    permute_swap_getD _ _ _ _ _ hσ, swapIdx_swapIdx]
  rw [swapIdx_right]
  by_cases h : m = i
  · rw [if_pos ((swapIdx_eq_right_iff i j m).2 h), if_pos h]
  · rw [if_neg (fun h' => h ((swapIdx_eq_right_iff i j m).1 h')), if_neg h]

theorem pos_permute_swap (nd i j : Nat) (s : List Nat) (hi : i < nd) (hj : j < nd) (hs : s.length = nd)
    (hpos : ∀ d ∈ s, 0 < d) : ∀ d ∈ permute (swapOrder nd i j) s, 0 < d := by
  intro d hd
  have hp := permute_perm (swapOrder nd i j) s (by rw [hs]; exact C06.swapOrder_perm nd i j hi hj)
  exact hpos d (hp.mem_iff.1 hd)

namespace Arr

/-- one quarter turn in the plane of axes `(i, j)`: flip axis `j`, then exchange the two axes -/
def turn (a : Arr α) (zero : α) (i j : Nat) : Res (Arr α) :=
  a.flip (some [Int.ofNat j]) >>= fun r => r.transpose zero (some ((swapOrder a.ndim i j).map Int.ofNat))

/-- `n` successive quarter turns -/
def turns (a : Arr α) (zero : α) (i j : Nat) : Nat → Res (Arr α)
  | 0 => .ok a
  | n + 1 => turns a zero i j n >>= fun r => r.turn zero i j

end Arr

theorem turns_add (a : Arr α) (zero : α) (i j m : Nat) : ∀ n,
    a.turns zero i j (m + n) = a.turns zero i j m >>= fun r => r.turns zero i j n
  | 0 => (Res.bind_pure _).symm
  | n + 1 => by
    show Arr.turns a zero i j (m + n + 1) = _
    simp only [Arr.turns]
    rw [turns_add a zero i j m n, Res.bind_assoc]

/-- exchanging two axes, backward form -/
theorem swap_at (a : Arr α) (S : List Nat) (hS : a.shape = S) (zero : α) (nd i j : Nat) (hnd : S.length = nd) (hwf : a.WF)
    (hi : i < nd) (hj : j < nd) :
    Reads (a.transpose zero (some ((swapOrder nd i j).map Int.ofNat))) a (permute (swapOrder nd i j) S)
      (permute (swapOrder nd i j)) := by
  subst hS hnd
  have hax : axesOf a.ndim (some ((swapOrder a.ndim i j).map Int.ofNat)) = swapOrder a.ndim i j :=
    map_normalizeAxis_ofNat _ _
  obtain ⟨r, h1, h2, h3, h4⟩ := C06.transpose_spec a zero (some ((swapOrder a.ndim i j).map Int.ofNat)) hwf
    (by rw [hax]; exact C06.swapOrder_perm _ i j hi hj)
  rw [hax] at h2 h4
  refine ⟨r, h1, h2, h3, fun c hc => ?_⟩
  have hcl : c.length = a.ndim := (inRange_length _ _ hc).trans (permute_swap_length _ _ _ _)
  have := h4 _ (inRange_of_permute_swap a.ndim i j a.shape c hi hj rfl hc)
  rwa [permute_swap_swap a.ndim i j c hi hj hcl] at this

/-- **one turn in coordinates** -/
theorem turn_at (a : Arr α) (S : List Nat) (hS : a.shape = S) (zero : α) (nd i j : Nat) (hnd : S.length = nd) (hwf : a.WF)
    (hpos : ∀ d ∈ S, 0 < d) (hi : i < nd) (hj : j < nd) :
    Reads (a.turn zero i j) a (permute (swapOrder nd i j) S) (fun c => flipCoord S j (permute (swapOrder nd i j) c)) := by
  subst hS hnd
  exact (flip_int_at a a.shape rfl (Int.ofNat j) j (normalizeAxis_ofNat _ _) hj hwf hpos).bind
    (fun r hs hw => swap_at r a.shape hs zero a.ndim i j rfl hw hi hj)
    (fun c hc => inRange_of_permute_swap a.ndim i j a.shape c hi hj rfl hc)

/-- **two turns in coordinates**: both axes flipped, shape restored -/
theorem turns2_at (a : Arr α) (S : List Nat) (hS : a.shape = S) (zero : α) (nd i j : Nat) (hnd : S.length = nd) (hwf : a.WF)
    (hpos : ∀ d ∈ S, 0 < d) (hi : i < nd) (hj : j < nd) :
    Reads (a.turns zero i j 2) a S (fun c => flipCoord S j (flipCoord S i c)) := by
  have hlen := permute_swap_length nd i j S
  have t := (turn_at a S hS zero nd i j hnd hwf hpos hi hj).bind
    (fun r hs hw => turn_at r _ hs zero nd i j hlen hw (pos_permute_swap nd i j S hi hj hnd hpos) hi hj)
    (fun c hc => inRange_flipCoord _ _ j (inRange_of_permute_swap nd i j _ c hi hj hlen hc) (hlen.symm ▸ hj))
  rw [permute_swap_swap nd i j S hi hj hnd] at t
  exact t.congr fun c hc => congrArg (flipCoord S j) (swap_flip_swap nd i j S c hi hj hnd ((inRange_length _ _ hc).trans hnd))

/-- **three turns in coordinates** -/
theorem turns3_at (a : Arr α) (S : List Nat) (hS : a.shape = S) (zero : α) (nd i j : Nat) (hnd : S.length = nd) (hwf : a.WF)
    (hpos : ∀ d ∈ S, 0 < d) (hi : i < nd) (hj : j < nd) :
    Reads (a.turns zero i j 3) a (permute (swapOrder nd i j) S) (fun c => flipCoord S i (permute (swapOrder nd i j) c)) := by
  have t := (turns2_at a S hS zero nd i j hnd hwf hpos hi hj).bind
    (fun r hs hw => turn_at r S hs zero nd i j hnd hw hpos hi hj)
    (fun c hc => inRange_flipCoord S _ j (inRange_of_permute_swap nd i j S c hi hj hnd hc) (hnd.symm ▸ hj))
  refine t.congr fun c hc => ?_
  have hsc := inRange_of_permute_swap nd i j S c hi hj hnd hc
  show flipCoord S j (flipCoord S i (flipCoord S j _)) = _
  rw [flipCoord_comm S _ i j, flipCoord_flipCoord S _ j (inRange_flipCoord S _ i hsc (hnd.symm ▸ hi)) (hnd.symm ▸ hj)]

/-- every number of turns succeeds and keeps rank, well-formedness and non-emptiness -/
theorem turns_ok (a : Arr α) (zero : α) (i j : Nat) (hwf : a.WF) (hpos : ∀ d ∈ a.shape, 0 < d)
    (hi : i < a.ndim) (hj : j < a.ndim) :
    ∀ n, ∃ r, a.turns zero i j n = .ok r ∧ r.WF ∧ (∀ d ∈ r.shape, 0 < d) ∧ r.ndim = a.ndim
  | 0 => ⟨a, rfl, hwf, hpos, rfl⟩
  | n + 1 => by
    obtain ⟨r, h1, h2, h3, h4⟩ := turns_ok a zero i j hwf hpos hi hj n
    obtain ⟨r', g1, g2, g3, _⟩ := turn_at r r.shape rfl zero a.ndim i j h4 h2 h3 hi hj
    refine ⟨r', by rw [Arr.turns, h1, Res.bind_ok, g1], g3, ?_, ?_⟩
    · rw [g2]; exact pos_permute_swap a.ndim i j r.shape hi hj h4 h3
    · exact (congrArg List.length g2).trans (permute_swap_length _ _ _ _)

/-- **four turns restore the array** -/
theorem turns4 (a : Arr α) (zero : α) (i j : Nat) (hwf : a.WF) (hpos : ∀ d ∈ a.shape, 0 < d)
    (hi : i < a.ndim) (hj : j < a.ndim) : a.turns zero i j 4 = .ok a := by
  have t := (turns2_at a a.shape rfl zero a.ndim i j rfl hwf hpos hi hj).bind
    (fun r hs hw => turns2_at r a.shape hs zero a.ndim i j rfl hw hpos hi hj)
    (fun c hc => inRange_flipCoord _ _ j (inRange_flipCoord _ _ i hc hi) hj)
  rw [turns_add a zero i j 2 2]
  refine (t.congr fun c hc => ?_).eq_ok hwf
  show flipCoord a.shape j (flipCoord a.shape i (flipCoord a.shape j (flipCoord a.shape i c))) = c
  rw [flipCoord_comm a.shape (flipCoord a.shape i c) i j, flipCoord_flipCoord a.shape c i hc hi,
    flipCoord_flipCoord a.shape c j hc hj]

theorem turns_mod (a : Arr α) (zero : α) (i j : Nat) (hwf : a.WF) (hpos : ∀ d ∈ a.shape, 0 < d)
    (hi : i < a.ndim) (hj : j < a.ndim) (k : Nat) : a.turns zero i j k = a.turns zero i j (k % 4) := by
  have key : ∀ q r, a.turns zero i j (4 * q + r) = a.turns zero i j r := by
    intro q
    induction q with
    | zero => intro r; rw [Nat.mul_zero, Nat.zero_add]
    | succ q ih =>
      intro r
      rw [Nat.mul_succ, Nat.add_comm (4 * q) 4, Nat.add_assoc, turns_add a zero i j 4 (4 * q + r),
        turns4 a zero i j hwf hpos hi hj, Res.bind_ok, ih r]
  have := key (k / 4) (k % 4)
  rwa [Nat.div_add_mod] at this

/-- the half turn as the code computes it: flip the second axis, then the first -/
theorem rot2_at (a : Arr α) (a0 a1 : Int) (i j : Nat) (hwf : a.WF) (hpos : ∀ d ∈ a.shape, 0 < d)
    (ei : normalizeAxis a.ndim a0 = i) (ej : normalizeAxis a.ndim a1 = j) (hi : i < a.ndim) (hj : j < a.ndim) :
    Reads (a.flip (some [a1]) >>= fun r => r.flip (some [a0])) a a.shape
      (fun c => flipCoord a.shape j (flipCoord a.shape i c)) :=
  (flip_int_at a a.shape rfl a1 j ej hj hwf hpos).bind
    (fun r hs hw => flip_int_at r a.shape hs a0 i ei hi hw hpos)
    (fun _ hc => inRange_flipCoord _ _ i hc hi)

/-- the three-quarter turn as the code computes it: exchange the axes, then flip the second -/
theorem rot3_at (a : Arr α) (zero : α) (i j : Nat) (hwf : a.WF) (hpos : ∀ d ∈ a.shape, 0 < d)
    (hi : i < a.ndim) (hj : j < a.ndim) :
    Reads (a.transpose zero (some ((swapOrder a.ndim i j).map Int.ofNat)) >>= fun r => r.flip (some [Int.ofNat j])) a
      (permute (swapOrder a.ndim i j) a.shape) (fun c => flipCoord a.shape i (permute (swapOrder a.ndim i j) c)) := by
  have hlen := permute_swap_length a.ndim i j a.shape
  have t := (swap_at a a.shape rfl zero a.ndim i j rfl hwf hi hj).bind
    (fun r hs hw => flip_int_at r _ hs (Int.ofNat j) j (normalizeAxis_ofNat _ _) (hlen.symm ▸ hj) hw
      (pos_permute_swap a.ndim i j a.shape hi hj rfl hpos))
    (fun c hc => inRange_flipCoord _ _ j hc (hlen.symm ▸ hj))
  refine t.congr fun c hc => ?_
  have hcl : c.length = a.ndim := (inRange_length _ _ hc).trans hlen
  have := swap_flip_swap a.ndim i j a.shape (permute (swapOrder a.ndim i j) c) hi hj rfl (permute_swap_length _ _ _ _)
  rwa [permute_swap_swap a.ndim i j c hi hj hcl] at this

/-- a successful flip keeps the shape (every input) -/
theorem flip_shape (a : Arr α) (axes : Option (List Int)) (r : Arr α) (h : a.flip axes = .ok r) : r.shape = a.shape := by
  have hnew : ∀ es, Res.All (fun r : Arr α => r.shape = a.shape) (Arr.new es a.shape) :=
    fun es r hr => (Arr.new_eq_ok_iff.1 hr).2 ▸ rfl
  cases axes with
  | none => exact hnew _ r h
  | some l =>
    rw [Arr.flip_some_eq] at h
    exact Res.All.ite (fun _ => Res.All.err) (fun _ => Res.All.bind' hnew) r h

/-- a turn is: flip the second axis, then `swapaxes` of the two axes -/
theorem turn_eq_flip_swapaxes (a : Arr α) (zero : α) (a0 a1 : Int)
    (hi : normalizeAxis a.ndim a0 < a.ndim) (hj : normalizeAxis a.ndim a1 < a.ndim) :
    a.turn zero (normalizeAxis a.ndim a0) (normalizeAxis a.ndim a1)
      = a.flip (some [a1]) >>= fun r => r.swapaxes zero a0 a1 := by
  have e : a.flip (some [Int.ofNat (normalizeAxis a.ndim a1)]) = a.flip (some [a1]) :=
    a.flip_congr _ _ (congrArg (· :: []) (normalizeAxis_ofNat _ _))
  unfold Arr.turn; rw [e]
  cases h : a.flip (some [a1]) with
  | ok r =>
    have hs := flip_shape a _ r h
    have hnd : r.ndim = a.ndim := by simp only [Arr.ndim, hs]
    simp only [Res.bind_ok]
    rw [C06.swapaxes_eq_transpose r zero a0 a1 (by rw [hnd]; exact hi) (by rw [hnd]; exact hj), hnd]
  | err e => rfl
  | panic => rfl

/-- `rot90` on valid axes: the four arms, in the order the code tests `k % 4` -/
theorem rot90_unfold (a : Arr α) (zero : α) (k : Nat) (a0 a1 : Int) (hnd : 2 ≤ a.ndim)
    (h0 : -(a.ndim : Int) ≤ a0 ∧ a0 < a.ndim) (h1 : -(a.ndim : Int) ≤ a1 ∧ a1 < a.ndim) :
    a.rot90 zero k [a0, a1] =
      if k % 4 = 0 then .ok a
      else if k % 4 = 2 then a.flip (some [a1]) >>= fun r => r.flip (some [a0])
      else if k % 4 = 1 then a.turn zero (normalizeAxis a.ndim a0) (normalizeAxis a.ndim a1)
      else a.transpose zero (some ((swapOrder a.ndim (normalizeAxis a.ndim a0) (normalizeAxis a.ndim a1)).map Int.ofNat))
        >>= fun r => r.flip (some [Int.ofNat (normalizeAxis a.ndim a1)]) := by
  unfold Arr.rot90
  rw [if_neg (by omega)]
  simp only []
  rw [if_neg (by omega)]
  rfl

theorem mod_four_cases (k : Nat) : k % 4 = 0 ∨ k % 4 = 1 ∨ k % 4 = 2 ∨ k % 4 = 3 :=
  (by decide : ∀ m, m < 4 → m = 0 ∨ m = 1 ∨ m = 2 ∨ m = 3) (k % 4) (Nat.mod_lt k (by decide))

theorem rot90_k1 (a : Arr α) (zero : α) (k : Nat) (a0 a1 : Int) (hnd : 2 ≤ a.ndim)
    (h0 : -(a.ndim : Int) ≤ a0 ∧ a0 < a.ndim) (h1 : -(a.ndim : Int) ≤ a1 ∧ a1 < a.ndim) (hk : k % 4 = 1) :
    a.rot90 zero k [a0, a1] = a.turn zero (normalizeAxis a.ndim a0) (normalizeAxis a.ndim a1) := by
  rw [rot90_unfold a zero k a0 a1 hnd h0 h1, hk]; rfl

theorem rot90_k2 (a : Arr α) (zero : α) (k : Nat) (a0 a1 : Int) (hnd : 2 ≤ a.ndim)
    (h0 : -(a.ndim : Int) ≤ a0 ∧ a0 < a.ndim) (h1 : -(a.ndim : Int) ≤ a1 ∧ a1 < a.ndim) (hk : k % 4 = 2) :
    a.rot90 zero k [a0, a1] = a.flip (some [a1]) >>= fun r => r.flip (some [a0]) := by
  rw [rot90_unfold a zero k a0 a1 hnd h0 h1, hk]; rfl

theorem rot90_k3 (a : Arr α) (zero : α) (k : Nat) (a0 a1 : Int) (hnd : 2 ≤ a.ndim)
    (h0 : -(a.ndim : Int) ≤ a0 ∧ a0 < a.ndim) (h1 : -(a.ndim : Int) ≤ a1 ∧ a1 < a.ndim) (hk : k % 4 = 3) :
    a.rot90 zero k [a0, a1] =
      a.transpose zero (some ((swapOrder a.ndim (normalizeAxis a.ndim a0) (normalizeAxis a.ndim a1)).map Int.ofNat))
        >>= fun r => r.flip (some [Int.ofNat (normalizeAxis a.ndim a1)]) := by
  rw [rot90_unfold a zero k a0 a1 hnd h0 h1, hk]; rfl

theorem rot90_rejects_rank (a : Arr α) (zero : α) (k : Nat) (axes : List Int) (h : a.ndim < 2) :
    a.rot90 zero k axes = .err .UnsupportedDimension := by
  unfold Arr.rot90; rw [if_pos (by omega)]

theorem rot90_rejects_not_pair (a : Arr α) (zero : α) (k : Nat) (axes : List Int) (hnd : 2 ≤ a.ndim)
    (h : ∀ a0 a1, axes ≠ [a0, a1]) : a.rot90 zero k axes = .err .ParameterError := by
  unfold Arr.rot90; rw [if_neg (by omega)]
  split
  · next a0 a1 => exact absurd rfl (h a0 a1)
  · rfl

theorem rot90_rejects_axes (a : Arr α) (zero : α) (k : Nat) (a0 a1 : Int) (hnd : 2 ≤ a.ndim)
    (h : ¬ ((-(a.ndim : Int) ≤ a0 ∧ a0 < a.ndim) ∧ (-(a.ndim : Int) ≤ a1 ∧ a1 < a.ndim))) :
    a.rot90 zero k [a0, a1] = .err .ParameterError := by
  unfold Arr.rot90; rw [if_neg (by omega)]
  simp only []
  rw [if_pos (by omega)]

end ArrModel
