import ArrProofs.Lemmas.C01Basic
import ArrModel.AlongAxis
import ArrModel.Broadcast
/-!
# Lemmas.C01Core — well-formedness of the results of the axis permutations, `broadcast_to` and `apply_along_axis`
(the operations most other operations are built from).  None of them needs a well-formed input: every `ok` result
has passed `Array::new`.
-/
namespace ArrModel.C01
open ArrModel Res

variable {α β : Type}

theorem transpose_wf (a : Arr α) (zero : α) (axes : Option (List Int)) : All Arr.WF (a.transpose zero axes) :=
  All.bind' fun _ _ => Arr.new_wf

theorem moveaxis_wf (a : Arr α) (zero : α) (src dst : List Int) : All Arr.WF (a.moveaxis zero src dst) :=
  All.ite' All.err <| All.ite' All.err <| All.ite' All.err <| All.ite' All.err <| transpose_wf a zero _

theorem rollaxis_wf (a : Arr α) (zero : α) (axis : Int) (start : Option Int) : All Arr.WF (a.rollaxis zero axis start) :=
  All.ite' All.err <| All.ite' All.err <| transpose_wf a zero _

theorem swapaxes_wf (a : Arr α) (zero : α) (ax1 ax2 : Int) : All Arr.WF (a.swapaxes zero ax1 ax2) :=
  All.ite' All.err <| All.ite' All.err <| transpose_wf a zero _

theorem broadcastTo_wf (a : Arr α) (shape : List Nat) : All Arr.WF (a.broadcastTo shape) :=
  All.ite' All.err <| All.ite' (fun _ => Arr.reshape_wf) <| All.ite' All.err <| All.ite' All.err <|
  All.bind' fun _ _ => Arr.new_wf

theorem applyAlongAxis_wf (a : Arr α) (zero : α) (zb : β) (axis : Nat) (f : Arr α → Res (Arr β)) :
    All Arr.WF (a.applyAlongAxis zero zb axis f) :=
  All.ite' All.err <| All.bind' fun _ => All.bind' fun _ => All.bind' fun _ => All.bind' fun _ => All.bind' fun p =>
  All.ite' (rollaxis_wf p zb _ none) (moveaxis_wf p zb _ _)

end ArrModel.C01
