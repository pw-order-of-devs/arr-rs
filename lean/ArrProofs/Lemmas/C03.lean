import ArrProofs.Lemmas.C03Shape
import ArrProofs.Lemmas.Index
/-!
array-level lemmas for C03 (broadcasting): the coordinate facts about `bsrc`, the gather of `broadcast_to`,
the array of zipped elements (`new_zip`) and of mapped elements (`mapped`), and equations for the arms of
`Arr.broadcastTo` and `Arr.broadcast`, so that the property theorems rewrite with them and never unfold the two
definitions.
-/
namespace ArrModel

/-! ### coordinates: `bsrc` -/

/-- `bsrc` on already aligned lists -/
def bsrcA (s c : List Nat) : List Nat := (c.zip s).map (fun p => if p.2 = 1 then 0 else p.1)

theorem bsrc_eq (s c : List Nat) : bsrc s c = bsrcA s (c.drop (c.length - s.length)) := rfl

theorem inRange_bsrcA (s u c : List Nat) (h : stretchEq s u = true) (hr : inRange u c = true) :
    inRange s (bsrcA s c) = true := by
  induction s generalizing u c with
  | nil => cases u <;> cases c <;> simp_all [stretchEq, inRange, bsrcA]
  | cons d s ih =>
    cases u with
    | nil => simp [stretchEq] at h
    | cons e u =>
      cases c with
      | nil => simp [inRange] at hr
      | cons x c =>
        rw [stretchEq_cons] at h
        simp only [inRange, Bool.and_eq_true, decide_eq_true_eq] at hr
        have ih' := ih u c h.2.2.2 hr.2
        simp only [bsrcA] at ih' ⊢
        simp only [List.zip_cons_cons, List.map_cons, inRange, Bool.and_eq_true, decide_eq_true_eq]
        refine ⟨?_, ih'⟩
        split <;> omega

theorem bsrcA_of_inRange (s c : List Nat) (hr : inRange s c = true) : bsrcA s c = c := by
  induction s generalizing c with
  | nil => cases c <;> simp_all [inRange, bsrcA]
  | cons d s ih =>
    cases c with
    | nil => simp [inRange] at hr
    | cons x c =>
      simp only [inRange, Bool.and_eq_true, decide_eq_true_eq] at hr
      have ih' := ih c hr.2
      simp only [bsrcA] at ih' ⊢
      simp only [List.zip_cons_cons, List.map_cons, ih']
      congr 1
      split <;> omega

theorem bsrc_of_inRange (s c : List Nat) (h : inRange s c = true) : bsrc s c = c := by
  rw [bsrc_eq, inRange_length _ _ h, Nat.sub_self, List.drop_zero, bsrcA_of_inRange _ _ h]

theorem inRange_split (t c : List Nat) (k : Nat) (h : inRange t c = true) :
    inRange (t.take k) (c.take k) = true ∧ inRange (t.drop k) (c.drop k) = true := by
  have e := inRange_append_append (t.take k) (c.take k) (t.drop k) (c.drop k)
    (by rw [List.length_take, List.length_take, inRange_length _ _ h])
  rw [List.take_append_drop, List.take_append_drop, h] at e
  exact Bool.and_eq_true_iff.1 e.symm

theorem inRange_bsrc (s t c : List Nat) (hs : stretchable s t = true) (hr : inRange t c = true) :
    inRange s (bsrc s c) = true := by
  rw [bsrc_eq, inRange_length _ _ hr]
  exact inRange_bsrcA s _ _ ((stretchable_iff s t).1 hs).2 (inRange_split t c _ hr).2

theorem stretchable_prod_eq (s t : List Nat) (hs : stretchable s t = true) (hp : s.prod = t.prod) :
    t.drop (t.length - s.length) = s ∧ (t.take (t.length - s.length)).prod = 1 := by
  have hse := ((stretchable_iff s t).1 hs).2
  obtain ⟨hpos, hsu, heq⟩ := stretchEq_prod _ _ hse
  have htp : t.prod = (t.take (t.length - s.length)).prod * (t.drop (t.length - s.length)).prod := by
    rw [← List.prod_append, List.take_append_drop]
  generalize t.take (t.length - s.length) = pre at htp ⊢
  generalize t.drop (t.length - s.length) = u at htp hsu heq ⊢
  have hpre : pre.prod = 1 := by
    rcases Nat.lt_trichotomy pre.prod 1 with h | h | h
    · have : pre.prod = 0 := by omega
      rw [this] at htp; omega
    · exact h
    · have : 2 * u.prod ≤ pre.prod * u.prod := Nat.mul_le_mul_right _ h
      omega
  exact ⟨(heq (by rw [hp, htp, hpre]; omega)).symm, hpre⟩

theorem ravel_drop_of_take_prod_one (t c : List Nat) (n : Nat) (hr : inRange t c = true) (h1 : (t.take n).prod = 1) :
    ravel t c = ravel (t.drop n) (c.drop n) := by
  have hr1 := (inRange_split t c n hr).1
  have h0 : ravel (t.take n) (c.take n) = 0 := by
    have := ravel_lt _ _ hr1; omega
  conv => lhs; rw [← List.take_append_drop n t, ← List.take_append_drop n c]
  rw [ravel_append_append _ _ _ _ (inRange_length _ _ hr1).symm, h0]; omega

/-- the `reshape` arm of `broadcast_to` (equal element count) reads the same element as the gather would -/
theorem ravel_bsrc_of_prod_eq (s t c : List Nat) (hs : stretchable s t = true) (hp : s.prod = t.prod)
    (hr : inRange t c = true) : ravel t c = ravel s (bsrc s c) := by
  obtain ⟨hd, h1⟩ := stretchable_prod_eq s t hs hp
  have hr2 := (inRange_split t c (t.length - s.length) hr).2
  rw [hd] at hr2
  rw [ravel_drop_of_take_prod_one t c _ hr h1, hd, bsrc_eq, inRange_length _ _ hr, bsrcA_of_inRange _ _ hr2]

/-! ### array level -/
variable {α β : Type}

theorem get?_isSome (a : Arr α) (hwf : a.WF) (c : List Nat) (h : inRange a.shape c = true) :
    ∃ x, a.get? c = some x :=
  ⟨_, List.getElem?_eq_getElem (by rw [hwf]; exact ravel_lt _ _ h)⟩

/-- the gather of `broadcast_to`: every read succeeds and the list produced is described position by position -/
theorem gather_ok (a : Arr α) (hwf : a.WF) (t : List Nat) (hs : stretchable a.shape t = true) :
    ∃ es, Res.sequence ((List.range t.prod).map (fun idx => a.atc (bsrc a.shape (unravelFold t idx)))) = .ok es ∧
      es.length = t.prod ∧
      ∀ c, inRange t c = true → es[ravel t c]? = a.get? (bsrc a.shape c) := by
  have hread : ∀ idx, idx < t.prod → ∃ y, a.atc (bsrc a.shape (unravelFold t idx)) = .ok y ∧
      a.get? (bsrc a.shape (unravel t idx)) = some y := by
    intro idx hidx
    rw [unravelFold_eq _ _ hidx]
    exact Arr.atc_ok a hwf _ (inRange_bsrc _ _ _ hs (ravel_unravel t idx hidx).2)
  obtain ⟨es, hes⟩ := sequence_map_ok (fun idx => a.atc (bsrc a.shape (unravelFold t idx))) (List.range t.prod)
    (fun idx hidx => by
      obtain ⟨y, hy, _⟩ := hread idx (List.mem_range.1 hidx)
      exact ⟨y, hy⟩)
  obtain ⟨hlen, hval⟩ := (sequence_map_ok_iff _ _ _).1 hes
  refine ⟨es, hes, by simpa using hlen, ?_⟩
  intro c hc
  have hlt := ravel_lt _ _ hc
  obtain ⟨y, hy1, hy2⟩ := hval (ravel t c) (ravel t c) (List.getElem?_range hlt)
  obtain ⟨y', hy1', hy2'⟩ := hread _ hlt
  rw [hy1'] at hy2; cases hy2
  rw [unravel_ravel _ _ hc] at hy2'
  rw [hy1, hy2']

theorem new_zip (a : Arr α) (b : Arr β) (fs : List Nat) (h1 : a.shape = fs) (h2 : b.shape = fs)
    (w1 : a.WF) (w2 : b.WF) :
    ∃ r, Arr.new (a.elems.zip b.elems) fs = .ok r ∧ r.shape = fs ∧ r.WF ∧
      ∀ c x y, a.get? c = some x → b.get? c = some y → r.get? c = some (x, y) := by
  have hlen : (a.elems.zip b.elems).length = fs.prod := by
    rw [List.length_zip, w1, w2, h1, h2]; simp
  refine ⟨⟨a.elems.zip b.elems, fs⟩, Arr.new_of_prod hlen.symm, rfl, hlen, ?_⟩
  intro c x y hx hy
  unfold Arr.get? at hx hy
  rw [h1] at hx; rw [h2] at hy
  exact List.getElem?_zip_eq_some.2 ⟨hx, hy⟩

/-- mapped array: same shape, every element through `g` -/
def mapped (g : α → β) (z : Arr α) : Arr β := ⟨z.elems.map g, z.shape⟩

theorem mapped_wf (g : α → β) (z : Arr α) (hz : z.WF) : (mapped g z).WF := by
  show (z.elems.map g).length = z.shape.prod
  rw [List.length_map]; exact hz

theorem mapped_get (g : α → β) (z : Arr α) (c : List Nat) : (mapped g z).get? c = (z.get? c).map g := by
  show (z.elems.map g)[ravel z.shape c]? = (z.elems[ravel z.shape c]?).map g
  rw [List.getElem?_map]

theorem new_map_ok (g : α → β) (z : Arr α) (hz : z.WF) : Arr.new (z.elems.map g) z.shape = .ok (mapped g z) :=
  Arr.new_of_prod (by rw [List.length_map]; exact hz.symm)

/-! ### the arms of `broadcast_to` -/

/-- `broadcast_to` by element count: on an equal count `is_broadcastable` alone decides, and what is handed out is a
`reshape`; on a different count the rank test and the direction test make up the stretch rule, and what is handed out
is the gather -/
theorem broadcastTo_eq (a : Arr α) (t : List Nat) : a.broadcastTo t =
    if a.shape.prod = t.prod then
      if isBroadcastable a.shape t = true then a.reshape t else .err .BroadcastShapeMismatch
    else if stretchable a.shape t = true then
      Res.sequence ((List.range t.prod).map (fun idx => a.atc (bsrc a.shape (unravelFold t idx)))) >>= fun es =>
        Arr.new es t
    else .err .BroadcastShapeMismatch := by
  unfold Arr.broadcastTo
  cases hb : isBroadcastable a.shape t
  · have hs : ¬ stretchable a.shape t = true := fun hs => by
      rw [isBroadcastable_of_stretchable _ _ hs] at hb; cases hb
    rw [if_neg hs]
    simp only [Bool.not_false, if_true, Bool.false_eq_true, if_false, ite_self]
  · simp only [Bool.not_true, Bool.false_eq_true, if_false, if_true]
    split
    · rfl
    · have hiff := stretchable_iff_checks a.shape t hb
      by_cases h1 : t.length < a.shape.length
      · rw [if_pos h1, if_neg fun hs => (hiff.1 hs).1 h1]
      · rw [if_neg h1]
        cases h2 : (a.shape.zip (t.drop (t.length - a.shape.length))).any (fun p => p.1 != p.2 && p.1 != 1)
        · rw [if_pos (hiff.2 ⟨h1, h2⟩)]; rfl
        · have hs : ¬ stretchable a.shape t = true := fun hs => by
            rw [(hiff.1 hs).2] at h2; cases h2
          rw [if_neg hs]; rfl

theorem broadcastTo_of_not_broadcastable (a : Arr α) (t : List Nat) (h : isBroadcastable a.shape t = false) :
    a.broadcastTo t = .err .BroadcastShapeMismatch := by
  unfold Arr.broadcastTo
  rw [h]; rfl

theorem broadcastTo_shape (a : Arr α) (t : List Nat) (r : Arr α) (h : a.broadcastTo t = .ok r) : r.shape = t := by
  revert r
  rw [broadcastTo_eq]
  refine Res.All.ite (fun _ => .ite (fun _ r h => ?_) fun _ => .err) fun _ => .ite (fun _ => .bind' fun es r h => ?_) fun _ => .err
  · rw [(Arr.reshape_eq_ok_iff.1 h).2]
  · rw [(Arr.new_eq_ok_iff.1 h).2]

/-! ### the arms of `broadcast` -/

theorem broadcast_of_not_broadcastable (a : Arr α) (b : Arr β) (h : isBroadcastable a.shape b.shape = false) :
    a.broadcast b = .err .BroadcastShapeMismatch := by
  unfold Arr.broadcast
  rw [h]; rfl

theorem broadcast_of_shape_eq (a : Arr α) (b : Arr β) (hb : isBroadcastable a.shape b.shape = true)
    (h : a.shape = b.shape) : a.broadcast b = Arr.new (a.elems.zip b.elems) a.shape := by
  unfold Arr.broadcast
  rw [hb, if_pos h]; rfl

theorem broadcast_of_shape_ne (a : Arr α) (b : Arr β) (hb : isBroadcastable a.shape b.shape = true)
    (h : a.shape ≠ b.shape) : a.broadcast b =
      broadcastShape a.shape b.shape >>= fun fs => a.broadcastTo fs >>= fun a' => b.broadcastTo fs >>= fun b' =>
        Arr.new (a'.elems.zip b'.elems) fs := by
  unfold Arr.broadcast
  rw [hb, if_neg h]; rfl

theorem broadcast_err_of_shape_err (a : Arr α) (b : Arr β) (e : Err)
    (h : broadcastShape a.shape b.shape = .err e) : a.broadcast b = .err .BroadcastShapeMismatch := by
  cases hb : isBroadcastable a.shape b.shape
  · exact broadcast_of_not_broadcastable a b hb
  · have hne : a.shape ≠ b.shape := fun heq => by
      rw [heq, broadcastShape_self] at h; cases h
    rw [broadcast_of_shape_ne a b hb hne]
    rcases broadcastShape_ok_or_err a.shape b.shape with ⟨r, hr⟩ | hr
    · rw [hr] at h; cases h
    · rw [hr]; rfl

end ArrModel
