import ArrProofs.Lemmas.C08AlongAxis
import ArrProofs.Lemmas.C11Sizes
/-!
C11: one axis singled out.  A shape is written `P ++ n :: Q`, a coordinate `p ++ j :: q`, a flat position
`(ravel P p * n + j) * Q.prod + ravel Q q`; the joining and splitting functions are specified in this form, and the
statements in whole coordinates (`c.set k …`) are obtained from it at the end (`exists_cut`, `shift_of_cut`).  The file
holds the list, `ravel` and `inRange` facts of this form, and the two transpositions `array_split` / `append` use: axis `k`
to the front (`toFront_spec`) and the front axis to position `k` (`frontTo_spec`; `moveFront_flat` is the same on a flat
buffer, by positions).
-/
namespace ArrModel.C11
open ArrModel Arr
variable {α : Type}

/-! ### lists cut at one position -/

theorem insertIdx_mid {β} (p q : List β) (j : β) : (p ++ q).insertIdx p.length j = p ++ j :: q := by
  induction p with
  | nil => simp
  | cons x xs ih => simp [List.insertIdx_succ_cons, ih]

theorem eraseIdx_mid {β} (p q : List β) (j : β) : (p ++ j :: q).eraseIdx p.length = p ++ q := by
  induction p with
  | nil => simp
  | cons x xs ih => simp [ih]

theorem getD_mid (p q : List Nat) (j : Nat) : (p ++ j :: q).getD p.length 0 = j := by
  rw [List.getD_eq_getElem?_getD, List.getElem?_append_right (Nat.le_refl _), Nat.sub_self]; rfl

theorem set_mid {β} (p q : List β) (j x : β) : (p ++ j :: q).set p.length x = p ++ x :: q := by
  induction p with
  | nil => simp
  | cons y ys ih => simp [ih]

theorem exists_cut (s : List Nat) (k : Nat) (hk : k < s.length) :
    ∃ P Q, P.length = k ∧ s = P ++ s.getD k 0 :: Q ∧ s.eraseIdx k = P ++ Q := by
  refine ⟨s.take k, s.drop (k + 1), by rw [List.length_take]; exact Nat.min_eq_left (Nat.le_of_lt hk), ?_,
    List.eraseIdx_eq_take_drop_succ s k⟩
  have : s.getD k 0 = s[k] := by rw [List.getD_eq_getElem?_getD, List.getElem?_eq_getElem hk]; rfl
  rw [this, List.getElem_cons_drop hk, List.take_append_drop]

theorem shape_cut_of_eraseIdx (s : List Nat) (k : Nat) (P Q : List Nat) (hk : k < s.length) (hPl : P.length = k)
    (h : s.eraseIdx k = P ++ Q) : s = P ++ s.getD k 0 :: Q := by
  obtain ⟨P', Q', hl, hs, he⟩ := exists_cut s k hk
  obtain ⟨rfl, rfl⟩ := List.append_inj (he.symm.trans h) (hl.trans hPl.symm)
  exact hs

theorem not_mem_take (s : List Nat) (k : Nat) (h : 0 ∉ s) : 0 ∉ s.take k := fun hm => h (List.mem_of_mem_take hm)
theorem not_mem_drop (s : List Nat) (k : Nat) (h : 0 ∉ s) : 0 ∉ s.drop k := fun hm => h (List.mem_of_mem_drop hm)

theorem not_mem_of_eraseIdx (s : List Nat) (k : Nat) (h : 0 ∉ s.eraseIdx k) : 0 ∉ s.take k ∧ 0 ∉ s.drop (k + 1) := by
  rw [List.eraseIdx_eq_take_drop_succ] at h
  simp only [List.mem_append, not_or] at h
  exact h

theorem ndim_cut (a : Arr α) (P Q : List Nat) (n : Nat) (hs : a.shape = P ++ n :: Q) : a.ndim = P.length + Q.length + 1 := by
  rw [Arr.ndim, hs, List.length_append, List.length_cons, Nat.add_assoc]

theorem lt_ndim_cut (a : Arr α) (P Q : List Nat) (n : Nat) (hs : a.shape = P ++ n :: Q) : P.length < a.ndim := by
  rw [ndim_cut a P Q n hs]; exact Nat.lt_succ_of_le (Nat.le_add_right _ _)

/-! ### ravel / inRange of cut coordinates -/

theorem ravel_mid (P Q p q : List Nat) (n j : Nat) (h : P.length = p.length) :
    ravel (P ++ n :: Q) (p ++ j :: q) = (ravel P p * n + j) * Q.prod + ravel Q q := by
  rw [ravel_append_append _ _ _ _ h, ravel, List.prod_cons, Nat.add_mul, Nat.mul_assoc, Nat.add_assoc]

theorem inRange_mid (P Q p q : List Nat) (n j : Nat) (h : P.length = p.length) :
    inRange (P ++ n :: Q) (p ++ j :: q) = (inRange P p && (decide (j < n) && inRange Q q)) := by
  rw [inRange_append_append _ _ _ _ h, inRange]

theorem inRange_mid_true (P Q p q : List Nat) (n j : Nat) (hp : inRange P p = true) (hj : j < n) (hq : inRange Q q = true) :
    inRange (P ++ n :: Q) (p ++ j :: q) = true := by
  rw [inRange_mid _ _ _ _ _ _ (inRange_length _ _ hp).symm, hp, hq, decide_eq_true hj]; rfl

theorem ravel_front (P Q p q : List Nat) (j : Nat) (h : P.length = p.length) :
    ravel (n :: P ++ Q) (j :: p ++ q) = (j * P.prod + ravel P p) * Q.prod + ravel Q q := by
  rw [List.cons_append, List.cons_append, ravel, List.prod_append, ravel_append_append _ _ _ _ h, Nat.add_mul, Nat.mul_assoc,
    Nat.add_assoc]

theorem inRange_front_true (P Q p q : List Nat) (n j : Nat) (hp : inRange P p = true) (hj : j < n) (hq : inRange Q q = true) :
    inRange (n :: P ++ Q) (j :: p ++ q) = true := by
  rw [List.cons_append, List.cons_append, inRange, inRange_append_append _ _ _ _ (inRange_length _ _ hp).symm, hp, hq,
    decide_eq_true hj]; rfl

theorem inRange_cut (P Q : List Nat) (n : Nat) (c : List Nat) (h : inRange (P ++ n :: Q) c = true) :
    ∃ p j q, c = p ++ j :: q ∧ inRange P p = true ∧ j < n ∧ inRange Q q = true := by
  obtain ⟨p, q, hpl, hc, _⟩ := exists_cut c P.length (by
    rw [inRange_length _ _ h, List.length_append, List.length_cons]; exact Nat.lt_add_of_pos_right (Nat.succ_pos _))
  rw [hc, inRange_mid _ _ _ _ _ _ hpl.symm] at h
  simp only [Bool.and_eq_true, decide_eq_true_eq] at h
  exact ⟨p, _, q, hc, h.1, h.2.1, h.2.2⟩

/-- **from cut coordinates to whole coordinates**: a statement about the coordinates `p ++ j :: q` whose entry on the axis
is moved by `σ` holds of every in-range `c`, with `c.getD k 0` for `j` and `c.set k …` for the replaced entry -/
theorem shift_of_cut {β : Type} (f g : List Nat → β) (σ : Nat → Nat) (P Q : List Nat) (n : Nat)
    (h : ∀ p q j, inRange P p = true → inRange Q q = true → j < n → f (p ++ σ j :: q) = g (p ++ j :: q))
    (c : List Nat) (hc : inRange (P ++ n :: Q) c = true) : f (c.set P.length (σ (c.getD P.length 0))) = g c := by
  obtain ⟨p, j, q, rfl, hp, hj, hq⟩ := inRange_cut P Q n c hc
  rw [← inRange_length _ _ hp, set_mid, getD_mid]
  exact h p q j hp hq hj

/-! ### the two axis orders -/

theorem map_getD_range'_one (j : Nat) (c : List Nat) (m : Nat) (h : c.length = m) :
    (List.range' 1 m).map (fun ax => (j :: c).getD ax 0) = c := by
  rw [List.range'_eq_map_range, List.map_map]
  refine (List.map_congr_left fun i _ => ?_).trans (map_getD_range' c m h)
  show (j :: c).getD (1 + i) 0 = c.getD i 0
  rw [Nat.add_comm]; rfl

/-- moving the front axis to position `k`, on a coordinate vector -/
theorem permute_frontTo (c : List Nat) (j m k : Nat) (h : c.length = m) :
    permute ((List.range' 1 m).insertIdx k 0) (j :: c) = c.insertIdx k j := by
  simp only [permute, map_insertIdx', map_getD_range'_one j c m h]
  rfl

/-- rolling axis `k` to the front, on a coordinate vector -/
theorem permute_toFront (c : List Nat) (n k : Nat) (h : c.length = n) :
    permute (k :: (List.range n).eraseIdx k) c = c.getD k 0 :: c.eraseIdx k := by
  simp only [permute, List.map_cons, map_eraseIdx', map_getD_range' c n h]

theorem eraseIdx_range_zero (n : Nat) : (List.range n).eraseIdx 0 = List.range' 1 (n - 1) := by
  cases n with
  | zero => rfl
  | succ n => rw [List.range_eq_range', List.range'_succ]; rfl

theorem frontTo_perm (m k : Nat) (hk : k ≤ m) : ((List.range' 1 m).insertIdx k 0).Perm (List.range (m + 1)) := by
  refine (List.perm_insertIdx 0 (List.range' 1 m) (by rw [List.length_range']; exact hk)).trans ?_
  rw [List.range_eq_range', List.range'_succ]

theorem moveaxisOrder_frontTo (nd k : Nat) (hk : k < nd) :
    Arr.moveaxisOrder nd [0] [k] = (List.range' 1 (nd - 1)).insertIdx k 0 := by
  rw [moveaxisOrder_single, eraseIdx_range_zero]
  simp only [List.length_range']
  rw [Nat.min_eq_left (Nat.le_sub_one_of_lt hk)]

theorem rollaxisOrder_front (nd k : Nat) : Arr.rollaxisOrder nd k 0 = k :: (List.range nd).eraseIdx k := by
  simp [Arr.rollaxisOrder]

/-! ### the two transpositions, in cut coordinates -/

theorem moveaxis_frontTo (t : Arr α) (zero : α) (k : Nat) (hk : k < t.ndim) :
    t.moveaxis zero [0] [Int.ofNat k] =
      t.transpose zero (some (((List.range' 1 (t.ndim - 1)).insertIdx k 0).map Int.ofNat)) := by
  rw [C06.moveaxis_eq_transpose t zero [0] [Int.ofNat k] (List.nodup_singleton _) rfl (List.nodup_singleton _)
    (List.nodup_singleton _)]
  have h0 : normalizeAxis t.ndim 0 = 0 := normalizeAxis_ofNat t.ndim 0
  simp only [List.map_cons, List.map_nil, normalizeAxis_ofNat, h0, moveaxisOrder_frontTo _ _ hk]

theorem lt_ndim_front (t : Arr α) (N : Nat) (P Q : List Nat) (hs : t.shape = N :: P ++ Q) : P.length < t.ndim := by
  rw [Arr.ndim, hs, List.cons_append, List.length_cons, List.length_append]
  exact Nat.lt_succ_of_le (Nat.le_add_right _ _)

/-- **`moveaxis([0], [k])`**: the front axis to position `k = P.length` -/
theorem frontTo_spec (t : Arr α) (zero : α) (N : Nat) (P Q : List Nat) (hwf : t.WF) (hs : t.shape = N :: P ++ Q) :
    ∃ r, t.moveaxis zero [0] [Int.ofNat P.length] = .ok r ∧ r.shape = P ++ N :: Q ∧ r.WF ∧
      ∀ p q j, inRange P p = true → inRange Q q = true → j < N → r.get? (p ++ j :: q) = t.get? (j :: p ++ q) := by
  have hnd : t.ndim = (P ++ Q).length + 1 := by rw [Arr.ndim, hs, List.cons_append, List.length_cons]
  rw [moveaxis_frontTo t zero P.length (lt_ndim_front t N P Q hs), hnd, Nat.add_sub_cancel]
  obtain ⟨r, h1, h2, h3, h4⟩ := C06.transpose_nat_spec t zero ((List.range' 1 (P ++ Q).length).insertIdx P.length 0) hwf
    (by rw [hnd]; exact frontTo_perm _ _ (by rw [List.length_append]; exact Nat.le_add_right _ _))
  refine ⟨r, h1, ?_, h3, ?_⟩
  · rw [h2, hs, List.cons_append, permute_frontTo (P ++ Q) N _ _ rfl, insertIdx_mid]
  · intro p q j hp hq hj
    have hin : inRange t.shape (j :: p ++ q) = true := by rw [hs]; exact inRange_front_true _ _ _ _ _ _ hp hj hq
    have hpl := inRange_length _ _ hp
    have hql := inRange_length _ _ hq
    have := h4 _ hin
    rw [List.cons_append, permute_frontTo (p ++ q) j (P ++ Q).length _ (by rw [List.length_append, List.length_append, hpl, hql]),
      ← hpl, insertIdx_mid] at this
    exact this

/-- **`moveaxis([0], [k])` on a flat buffer** read under a shape `N :: P ++ Q`: position `(x, j, y)` of the result, of shape
`P ++ N :: Q` (`x < P.prod` counts through the leading axes, `y < Q.prod` through the trailing ones), holds what the
buffer has at `(j, x, y)`.  Of `P` only its product enters, so the leading axes may be any rearrangement. -/
theorem moveFront_flat (E : List α) (zero : α) (N : Nat) (P Q : List Nat) (hE : E.length = N * (P.prod * Q.prod)) :
    ∃ r, (⟨E, N :: P ++ Q⟩ : Arr α).moveaxis zero [0] [Int.ofNat P.length] = .ok r ∧ r.shape = P ++ N :: Q ∧ r.WF ∧
      ∀ x y j, x < P.prod → y < Q.prod → j < N →
        r.elems[(x * N + j) * Q.prod + y]? = E[(j * P.prod + x) * Q.prod + y]? := by
  have hwf : (⟨E, N :: P ++ Q⟩ : Arr α).WF := by
    show E.length = (N :: P ++ Q).prod
    rw [hE, List.cons_append, List.prod_cons, List.prod_append]
  obtain ⟨r, h1, h2, h3, h4⟩ := frontTo_spec ⟨E, N :: P ++ Q⟩ zero N P Q hwf rfl
  refine ⟨r, h1, h2, h3, fun x y j hx hy hj => ?_⟩
  obtain ⟨ex, hxr⟩ := ravel_unravel P x hx
  obtain ⟨ey, hyr⟩ := ravel_unravel Q y hy
  have hl := (inRange_length _ _ hxr).symm
  have := h4 (unravel P x) (unravel Q y) j hxr hyr hj
  rw [Arr.get?, Arr.get?, h2] at this
  rwa [ravel_mid _ _ _ _ _ _ hl, ravel_front _ _ _ _ _ hl, ex, ey] at this

/-- `rollaxis(k, None)`: axis `k` to the front -/
theorem toFront_spec (a : Arr α) (zero : α) (n : Nat) (P Q : List Nat) (hwf : a.WF) (hs : a.shape = P ++ n :: Q) :
    ∃ arr, a.rollaxis zero (Int.ofNat P.length) none = .ok arr ∧ arr.shape = n :: P ++ Q ∧ arr.WF ∧
      ∀ p q j, inRange P p = true → inRange Q q = true → j < n → arr.get? (j :: p ++ q) = a.get? (p ++ j :: q) := by
  have hnd := ndim_cut a P Q n hs
  have hk : P.length < a.ndim := lt_ndim_cut a P Q n hs
  have h0 : 0 < a.ndim := Nat.lt_of_le_of_lt (Nat.zero_le _) hk
  have hm : a.rollaxis zero (Int.ofNat P.length) none =
      a.transpose zero (some ((P.length :: (List.range a.ndim).eraseIdx P.length).map Int.ofNat)) := by
    rw [C06.rollaxis_eq_transpose a zero _ none (by rw [normalizeAxis_ofNat]; exact hk) h0]
    simp only [normalizeAxis_ofNat, startOf, rollaxisOrder_front]
  obtain ⟨r, h1, h2, h3, h4⟩ := C06.transpose_nat_spec a zero (P.length :: (List.range a.ndim).eraseIdx P.length) hwf
    (by have := C06.rollaxisOrder_perm a.ndim P.length 0 hk h0; rwa [rollaxisOrder_front] at this)
  refine ⟨r, hm.trans h1, ?_, h3, ?_⟩
  · rw [h2, permute_toFront a.shape a.ndim _ rfl, hs, getD_mid, eraseIdx_mid]; rfl
  · intro p q j hp hq hj
    have hin : inRange a.shape (p ++ j :: q) = true := by rw [hs]; exact inRange_mid_true _ _ _ _ _ _ hp hj hq
    have hpl := inRange_length _ _ hp
    have hql := inRange_length _ _ hq
    have := h4 _ hin
    rw [permute_toFront (p ++ j :: q) a.ndim _ (by rw [hnd, List.length_append, List.length_cons, hpl, hql, Nat.add_assoc]),
      ← hpl, getD_mid, eraseIdx_mid] at this
    exact this

end ArrModel.C11
