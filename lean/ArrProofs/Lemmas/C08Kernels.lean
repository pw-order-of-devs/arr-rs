import ArrModel.C08Kernels
import ArrProofs.Lemmas.C08Reduce
import ArrProofs.Lemmas.C10Query
/-!
# The 1-D kernels of `ArrModel/C08Kernels.lean`

The laws the kernel theorems of `Props/C08.lean` assume (`IsMonoid`, `Elem.LawfulOrd`, `Elem.NanLaws`) with their instances
for `Elem.int` and `Elem.nanInt`; lemmas about left folds, running folds (`runAcc`) and extrema (`foldFirst`, `extremeK`: what
`max` / `min` and, on the lane without its NaNs, `nanmax` / `nanmin` have in common); the lane bodies `RedOp.lane`, `ScanOp.lane`,
`CntOp.lane` on a lane, in the form the axis theorems take as hypothesis; the sample arrays of the examples.
-/
namespace ArrModel.C08K
open ArrModel ArrModel.Sort Arr

variable {α : Type}

/-! ## laws (hypotheses of the theorems; instances below) -/

/-- `(f, e)` is a monoid: what turns "left fold" into "sum of the parts" -/
structure IsMonoid (f : α → α → α) (e : α) : Prop where
  assoc : ∀ a b c, f (f a b) c = f a (f b c)
  left_id : ∀ a, f e a = a
  right_id : ∀ a, f a e = a

/-- the comparison operators describe one linear order without NaN (what the integer types provide) -/
structure Elem.LawfulOrd (E : Elem α) : Prop where
  cmp : E.cmp.Lawful
  gt_iff : ∀ a b, E.gt a b = E.lt b a

/-- the IEEE rules the propagation statements need -/
structure Elem.NanLaws (E : Elem α) : Prop where
  zero_not_nan : E.isNan E.zero = false
  one_not_nan : E.isNan E.one = false
  add_nan : ∀ a b, E.isNan (E.add a b) = (E.isNan a || E.isNan b)
  mul_nan : ∀ a b, E.isNan (E.mul a b) = (E.isNan a || E.isNan b)
  beq_nan : ∀ a b, E.isNan a = true → E.beq a b = false

theorem Elem.int_lawfulOrd : Elem.int.LawfulOrd where
  cmp := Cmp.int_lawful
  gt_iff _ _ := rfl

theorem Elem.int_add_monoid : IsMonoid Elem.int.add Elem.int.zero where
  assoc := Int.add_assoc
  left_id := Int.zero_add
  right_id := Int.add_zero

theorem Elem.int_mul_monoid : IsMonoid Elem.int.mul Elem.int.one where
  assoc := Int.mul_assoc
  left_id := Int.one_mul
  right_id := Int.mul_one

theorem Elem.int_nanLaws : Elem.int.NanLaws where
  zero_not_nan := rfl
  one_not_nan := rfl
  add_nan _ _ := rfl
  mul_nan _ _ := rfl
  beq_nan _ _ h := nomatch h

/- `Elem.nanInt`: every case is decided by which arguments are `none`; the all-`some` case is the law on `Int` -/

theorem Elem.nanInt_add_monoid : IsMonoid Elem.nanInt.add Elem.nanInt.zero where
  assoc
    | none, _, _ => rfl
    | some _, none, _ => rfl
    | some _, some _, none => rfl
    | some x, some y, some z => congrArg some (Int.add_assoc x y z)
  left_id
    | none => rfl
    | some x => congrArg some (Int.zero_add x)
  right_id
    | none => rfl
    | some x => congrArg some (Int.add_zero x)

theorem Elem.nanInt_mul_monoid : IsMonoid Elem.nanInt.mul Elem.nanInt.one where
  assoc
    | none, _, _ => rfl
    | some _, none, _ => rfl
    | some _, some _, none => rfl
    | some x, some y, some z => congrArg some (Int.mul_assoc x y z)
  left_id
    | none => rfl
    | some x => congrArg some (Int.one_mul x)
  right_id
    | none => rfl
    | some x => congrArg some (Int.mul_one x)

theorem Elem.nanInt_nanLaws : Elem.nanInt.NanLaws where
  zero_not_nan := rfl
  one_not_nan := rfl
  add_nan
    | none, _ => rfl
    | some _, none => rfl
    | some _, some _ => rfl
  mul_nan
    | none, _ => rfl
    | some _, none => rfl
    | some _, some _ => rfl
  beq_nan
    | none, _, _ => rfl
    | some _, _, h => nomatch h

/-- what `nansum` / `nanprod` put in the place of a NaN is not a NaN, so no replaced element is -/
theorem Elem.isNan_replace (E : Elem α) {e : α} (he : E.isNan e = false) (x : α) :
    E.isNan (if E.isNan x then e else x) = false := by
  cases hx : E.isNan x
  · exact hx
  · exact he

/-! ## left folds -/

theorem foldl_monoid_init {f : α → α → α} {e : α} (h : IsMonoid f e) :
    ∀ (ys : List α) (a : α), ys.foldl f a = f a (ys.foldl f e) := by
  intro ys
  induction ys with
  | nil => intro a; simp [h.right_id]
  | cons y ys ih =>
    intro a
    rw [List.foldl_cons, List.foldl_cons, ih (f a y), ih (f e y), h.left_id, h.assoc]

theorem foldl_append_monoid {f : α → α → α} {e : α} (h : IsMonoid f e) (xs ys : List α) :
    (xs ++ ys).foldl f e = f (xs.foldl f e) (ys.foldl f e) := by
  rw [List.foldl_append, foldl_monoid_init h]

/-- replacing by the neutral element = leaving out -/
theorem foldl_replace_eq_filter {f : α → α → α} {e : α} (h : IsMonoid f e) (p : α → Bool) :
    ∀ (xs : List α) (a : α), xs.foldl (fun acc x => f acc (if p x then e else x)) a = (xs.filter (fun x => !p x)).foldl f a := by
  intro xs
  induction xs with
  | nil => intro a; rfl
  | cons x xs ih =>
    intro a
    by_cases hp : p x = true
    · simp [hp, h.right_id, ih]
    · simp [hp, ih]

theorem foldl_replace_eq_map (f : α → α → α) (g : α → α) (xs : List α) (a : α) :
    xs.foldl (fun acc x => f acc (g x)) a = (xs.map g).foldl f a := by
  rw [List.foldl_map]

theorem isNan_foldl (isNan : α → Bool) (f : α → α → α) (hf : ∀ a b, isNan (f a b) = (isNan a || isNan b)) :
    ∀ (xs : List α) (a : α), isNan (xs.foldl f a) = (isNan a || xs.any isNan) := by
  intro xs
  induction xs with
  | nil => intro a; simp
  | cons x xs ih => intro a; simp [ih, hf, Bool.or_assoc]

/-! ## running folds -/

@[simp] theorem runAcc_length (step : α → α → α) : ∀ (xs : List α) (acc : α), (runAcc step acc xs).length = xs.length := by
  intro xs
  induction xs with
  | nil => intro acc; rfl
  | cons x xs ih => intro acc; simp [runAcc, ih]

theorem runAcc_getElem? (step : α → α → α) : ∀ (xs : List α) (acc : α) (i : Nat),
    (runAcc step acc xs)[i]? = if i < xs.length then some ((xs.take (i + 1)).foldl step acc) else none := by
  intro xs
  induction xs with
  | nil => intro acc i; simp [runAcc]
  | cons x xs ih =>
    intro acc i
    cases i with
    | zero => simp [runAcc]
    | succ i => simp [runAcc, ih]

theorem runAcc_getLast? (step : α → α → α) (xs : List α) (acc : α) :
    (runAcc step acc xs).getLast? = if xs = [] then none else some (xs.foldl step acc) := by
  rw [List.getLast?_eq_getElem?, runAcc_getElem?, runAcc_length]
  cases xs with
  | nil => simp
  | cons x xs => simp

theorem runAcc_append (step : α → α → α) : ∀ (xs ys : List α) (acc : α),
    runAcc step acc (xs ++ ys) = runAcc step acc xs ++ runAcc step (xs.foldl step acc) ys := by
  intro xs
  induction xs with
  | nil => intro ys acc; rfl
  | cons x xs ih => intro ys acc; simp [runAcc, ih]

theorem runAcc_replace_eq_map (f : α → α → α) (g : α → α) : ∀ (xs : List α) (a : α),
    runAcc (fun acc x => f acc (g x)) a xs = runAcc f a (xs.map g) := by
  intro xs
  induction xs with
  | nil => intro a; rfl
  | cons x xs ih => intro a; simp [runAcc, ih]

/-! ## extrema -/

/-- a left fold with step `fun a b => if t a b then b else a`, where `t a b` gives `R a b` and its negation `R b a` for a
preorder `R`: the result is the start value or a member of the list, and is `R`-above the start value and every member
(`max`: `R = ≤`, `t = <`; `min`: `R = ≥`, `t = >`) -/
theorem foldl_pick {R : α → α → Prop} {t : α → α → Bool} (hrefl : ∀ a, R a a) (htrans : ∀ a b c, R a b → R b c → R a c)
    (ht : ∀ a b, t a b = true → R a b) (hf : ∀ a b, t a b = false → R b a) (xs : List α) (x0 : α) :
    (xs.foldl (fun a b => if t a b then b else a) x0 = x0 ∨ xs.foldl (fun a b => if t a b then b else a) x0 ∈ xs) ∧
      R x0 (xs.foldl (fun a b => if t a b then b else a) x0) ∧
      ∀ y ∈ xs, R y (xs.foldl (fun a b => if t a b then b else a) x0) := by
  induction xs generalizing x0 with
  | nil => exact ⟨Or.inl rfl, hrefl x0, nofun⟩
  | cons x xs ih =>
    rw [List.foldl_cons]
    obtain ⟨h1, h2, h3⟩ := ih (if t x0 x then x else x0)
    -- the step returns one of its arguments, above both
    have hstep : ((if t x0 x then x else x0) = x0 ∨ (if t x0 x then x else x0) = x) ∧
        R x0 (if t x0 x then x else x0) ∧ R x (if t x0 x then x else x0) := by
      cases htx : t x0 x
      · exact ⟨Or.inl rfl, hrefl x0, hf x0 x htx⟩
      · exact ⟨Or.inr rfl, ht x0 x htx, hrefl x⟩
    refine ⟨?_, htrans _ _ _ hstep.2.1 h2, fun y hy => ?_⟩
    · rcases h1 with h1 | h1
      · rcases hstep.1 with s1 | s1
        · exact Or.inl (h1.trans s1)
        · exact Or.inr (by rw [h1, s1]; exact List.mem_cons_self)
      · exact Or.inr (List.mem_cons_of_mem _ h1)
    · rcases List.mem_cons.1 hy with rfl | hy
      · exact htrans _ _ _ hstep.2.2 h2
      · exact h3 y hy

/-- `fold(self[0], step)` -/
def foldFirst (step : α → α → α) (xs : List α) : Res α := Res.idx xs 0 >>= fun x0 => .ok (xs.foldl step x0)

/-- the common shape of `max(None)` and `min(None)` -/
def extremeK (E : Elem α) (step : α → α → α) (xs : List α) : Res α :=
  if xs.isEmpty then .err .ParameterError
  else if xs.any E.isNan then .ok E.nan
  else foldFirst step xs

theorem nanmaxK_def (E : Elem α) (xs : List α) :
    nanmaxK E xs = if xs.all E.isNan then .ok E.nan else foldFirst E.maxStep (xs.filter (fun i => !E.isNan i)) := rfl
theorem nanminK_def (E : Elem α) (xs : List α) :
    nanminK E xs = if xs.all E.isNan then .ok E.nan else foldFirst E.minStep (xs.filter (fun i => !E.isNan i)) := rfl

theorem extremeK_of_nan (E : Elem α) (step : α → α → α) (xs : List α) (h : xs.any E.isNan = true) :
    extremeK E step xs = .ok E.nan := by
  cases xs with
  | nil => cases h
  | cons x t => exact (if_neg Bool.false_ne_true).trans (if_pos h)

theorem extremeK_of_noNan (E : Elem α) (step : α → α → α) (x : α) (t : List α) (h : (x :: t).any E.isNan = false) :
    extremeK E step (x :: t) = .ok ((x :: t).foldl step x) :=
  (if_neg Bool.false_ne_true).trans (if_neg (h ▸ Bool.false_ne_true))

theorem extremeK_ok (E : Elem α) (step : α → α → α) (xs : List α) (hne : xs ≠ []) : ∃ v, extremeK E step xs = .ok v := by
  obtain ⟨x, t, rfl⟩ := List.exists_cons_of_ne_nil hne
  cases h : (x :: t).any E.isNan
  · exact ⟨_, extremeK_of_noNan E step x t h⟩
  · exact ⟨_, extremeK_of_nan E step _ h⟩

section order
variable {E : Elem α}

theorem any_isNan_false (h : E.cmp.Lawful) (xs : List α) : xs.any E.isNan = false :=
  List.any_eq_false.2 fun x _ hx => Bool.false_ne_true ((h.not_nan x).symm.trans hx)

/-- without NaN the extreme of a non-empty lane is the fold of `foldl_pick` from its first element -/
theorem extremeK_spec {R : α → α → Prop} {t : α → α → Bool} (hrefl : ∀ a, R a a) (htrans : ∀ a b c, R a b → R b c → R a c)
    (ht : ∀ a b, t a b = true → R a b) (hf : ∀ a b, t a b = false → R b a) (xs : List α) (hnan : xs.any E.isNan = false)
    (hne : xs ≠ []) : ∃ m, extremeK E (fun a b => if t a b then b else a) xs = .ok m ∧ m ∈ xs ∧ ∀ y ∈ xs, R y m := by
  obtain ⟨x, l, rfl⟩ := List.exists_cons_of_ne_nil hne
  obtain ⟨h1, _, h3⟩ := foldl_pick hrefl htrans ht hf (x :: l) x
  exact ⟨_, extremeK_of_noNan E _ x l hnan, h1.elim (fun h => by rw [h]; exact List.mem_cons_self) id, h3⟩

theorem maxK_lawful (h : E.cmp.Lawful) (xs : List α) (hne : xs ≠ []) :
    ∃ m, maxK E xs = .ok m ∧ m ∈ xs ∧ ∀ y ∈ xs, E.le y m = true :=
  extremeK_spec (R := fun a b => E.cmp.le a b = true) (t := E.lt) h.le_refl h.le_trans (fun _ _ => h.le_of_lt)
    (fun _ _ => h.le_of_not_lt) xs (any_isNan_false h xs) hne

theorem minK_lawful (h : E.LawfulOrd) (xs : List α) (hne : xs ≠ []) :
    ∃ m, minK E xs = .ok m ∧ m ∈ xs ∧ ∀ y ∈ xs, E.le m y = true :=
  extremeK_spec (R := fun a b => E.cmp.le b a = true) (t := E.gt) h.cmp.le_refl (fun a b c hab hbc => h.cmp.le_trans c b a hbc hab)
    (fun a b hab => h.cmp.le_of_lt ((h.gt_iff a b).symm.trans hab)) (fun a b hab => h.cmp.le_of_not_lt ((h.gt_iff a b).symm.trans hab))
    xs (any_isNan_false h.cmp xs) hne

end order

/-- the non-NaN elements of a lane that is not all NaN: not empty, no NaN -/
theorem filter_notNan_facts (E : Elem α) (xs : List α) (h : xs.all E.isNan = false) :
    xs.filter (fun i => !E.isNan i) ≠ [] ∧ (xs.filter (fun i => !E.isNan i)).any E.isNan = false := by
  constructor
  · obtain ⟨x, hx, hn⟩ := List.all_eq_false.1 h
    exact List.ne_nil_of_mem (List.mem_filter.2 ⟨hx, by rw [Bool.not_eq_true] at hn; rw [hn]; rfl⟩)
  · refine List.any_eq_false.2 fun x hx hn => ?_
    have := (List.mem_filter.1 hx).2
    rw [hn] at this
    cases this

/-- the NaN-ignoring extreme of a lane that is not all NaN is the plain one on the lane without its NaNs -/
theorem foldFirst_filter_eq (E : Elem α) (step : α → α → α) (xs : List α) (h : xs.all E.isNan = false) :
    foldFirst step (xs.filter (fun i => !E.isNan i)) = extremeK E step (xs.filter (fun i => !E.isNan i)) := by
  obtain ⟨h1, h2⟩ := filter_notNan_facts E xs h
  obtain ⟨x, t, hxt⟩ := List.exists_cons_of_ne_nil h1
  rw [hxt] at h2 ⊢
  exact (extremeK_of_noNan E step x t h2).symm

theorem nanmaxK_eq (E : Elem α) (xs : List α) (h : xs.all E.isNan = false) :
    nanmaxK E xs = maxK E (xs.filter (fun i => !E.isNan i)) := by
  rw [nanmaxK_def, if_neg (h ▸ Bool.false_ne_true)]
  exact foldFirst_filter_eq E _ xs h

theorem nanminK_eq (E : Elem α) (xs : List α) (h : xs.all E.isNan = false) :
    nanminK E xs = minK E (xs.filter (fun i => !E.isNan i)) := by
  rw [nanminK_def, if_neg (h ▸ Bool.false_ne_true)]
  exact foldFirst_filter_eq E _ xs h

/-- `nanmax` / `nanmin` have no emptiness test: they answer on every lane -/
theorem nanExtreme_ok (E : Elem α) (step : α → α → α) (xs : List α) :
    ∃ v, (if xs.all E.isNan then Res.ok E.nan else foldFirst step (xs.filter (fun i => !E.isNan i))) = .ok v := by
  cases h : xs.all E.isNan
  · rw [if_neg Bool.false_ne_true, foldFirst_filter_eq E step xs h]
    exact extremeK_ok E step _ (filter_notNan_facts E xs h).1
  · exact ⟨_, if_pos rfl⟩

/-! ## the lane bodies on a lane (what the axis theorems are instantiated with) -/

theorem RedOp.kernel_ok (E : Elem α) (op : RedOp) (xs : List α) (hne : xs ≠ []) : ∃ v, op.kernel E xs = .ok v := by
  cases op with
  | sum | prod | nansum | nanprod => exact ⟨_, rfl⟩
  | max => exact extremeK_ok E E.maxStep xs hne
  | min => exact extremeK_ok E E.minStep xs hne
  | nanmax => exact nanExtreme_ok E E.maxStep xs
  | nanmin => exact nanExtreme_ok E E.minStep xs

theorem RedOp.lane_flat (E : Elem α) (op : RedOp) (xs : List α) (v : α) (h : op.kernel E xs = .ok v) :
    op.lane E (Arr.flat xs) = .ok (Arr.single v) :=
  congrArg (· >>= fun v => Res.ok (Arr.single v)) h

theorem RedOp.lane_ne_panic (E : Elem α) (op : RedOp) (x : Arr α) : op.lane E x ≠ .panic := by
  refine Res.bind_ne_panic ?_ fun _ _ => nofun
  by_cases hx : x.elems = []
  · rw [hx]; cases op <;> exact nofun
  · obtain ⟨v, hv⟩ := RedOp.kernel_ok E op x.elems hx
    rw [hv]; exact nofun

theorem ScanOp.kernel_eq_runAcc (E : Elem α) (op : ScanOp) (xs : List α) :
    op.kernel E xs = runAcc (op.step E) (op.init E) xs := by
  cases op <;> rfl

@[simp] theorem ScanOp.kernel_length (E : Elem α) (op : ScanOp) (xs : List α) : (op.kernel E xs).length = xs.length := by
  rw [ScanOp.kernel_eq_runAcc, runAcc_length]

theorem ScanOp.lane_flat (E : Elem α) (op : ScanOp) (xs : List α) :
    op.lane E (Arr.flat xs) = .ok ⟨op.kernel E xs, [xs.length]⟩ :=
  Arr.new_of_prod (List.prod_singleton.trans (ScanOp.kernel_length E op xs).symm)

theorem ScanOp.lane_ne_panic (E : Elem α) (op : ScanOp) (x : Arr α) : op.lane E x ≠ .panic := Arr.reshape_ne_panic _ _

/-- the reduction whose running values a scan lists -/
def ScanOp.total : ScanOp → RedOp
  | .cumsum => .sum | .cumprod => .prod | .nancumsum => .nansum | .nancumprod => .nanprod

theorem ScanOp.total_kernel (E : Elem α) (op : ScanOp) (xs : List α) :
    op.total.kernel E xs = .ok (xs.foldl (op.step E) (op.init E)) := by
  cases op <;> rfl

theorem argExtremePos_ok {c : Cmp α} (h : c.Lawful) (isMax : Bool) (xs : List α) (hne : xs ≠ []) :
    ∃ p, argExtremePos c isMax xs = .ok p := by
  obtain ⟨p, _, hp, _⟩ := argExtremePos_spec h isMax xs hne
  exact ⟨p, hp⟩

theorem CntOp.kernel_ok (E : Elem α) (op : CntOp) (hop : op = .countNonzero ∨ E.cmp.Lawful) (xs : List α) (hne : xs ≠ []) :
    ∃ v, op.kernel E xs = .ok v := by
  have hemp : ¬ xs.isEmpty = true := fun h => hne (List.isEmpty_iff.1 h)
  cases op with
  | countNonzero => exact ⟨_, rfl⟩
  | argmax => exact (argExtremePos_ok (hop.resolve_left nofun) true xs hne).imp fun _ hp => (if_neg hemp).trans hp
  | argmin => exact (argExtremePos_ok (hop.resolve_left nofun) false xs hne).imp fun _ hp => (if_neg hemp).trans hp

/-- `argmax(None, keepdims)` / `argmin(None, keepdims)` on a rank-1 array: the position, whatever `keepdims` -/
theorem argExtremeLane_flat (c : Cmp α) (isMax : Bool) (xs : List α) (kd : Option Bool) (v : Nat)
    (h : (if xs.isEmpty then Res.err .ParameterError else argExtremePos c isMax xs) = .ok v) :
    argExtremeLane c isMax (Arr.flat xs) kd = .ok (Arr.single v) := by
  cases xs with
  | nil => cases h
  | cons x t =>
    have h' : argExtremePos c isMax (x :: t) = .ok v := h
    exact (congrArg (· >>= fun i => Arr.keepdimsTail 1 kd (Arr.single i)) h').trans (keepdimsTail_one kd _)

theorem CntOp.lane_flat (E : Elem α) (op : CntOp) (xs : List α) (kd : Option Bool) (v : Nat) (h : op.kernel E xs = .ok v) :
    op.lane E (Arr.flat xs) kd = .ok (Arr.single v) := by
  cases op with
  | countNonzero => cases h; exact keepdimsTail_one kd _
  | argmax => exact argExtremeLane_flat E.cmp true xs kd v h
  | argmin => exact argExtremeLane_flat E.cmp false xs kd v h

/-- passes from `reduce_spec` / `count_spec`, which describe the one element `v` of the lane body's answer `x`, to the kernel
`k`: the lane body answers `single` of the kernel's value (`RedOp.lane_flat`, `CntOp.lane_flat`), so `v` is that value -/
theorem kernel_of_single {β : Type} {x : Res (Arr β)} {k : Res β} {P : β → Prop} (hb : ∃ v, k = .ok v ∧ x = .ok (Arr.single v))
    (h : ∃ y v, x = .ok y ∧ y.elems = [v] ∧ P v) : ∃ v, k = .ok v ∧ P v := by
  obtain ⟨v', hk, hs⟩ := hb
  obtain ⟨y, v, hy, hv, hp⟩ := h
  rw [hy] at hs
  cases hs
  exact ⟨v', hk, List.head_eq_of_cons_eq hv ▸ hp⟩

/-- the lane through a position of the remaining axes has the length of the processed axis -/
theorem laneOf_reduced_length (a : Arr α) (axis : Nat) (c : List Nat) (hwf : a.WF) (hax : axis < a.shape.length)
    (hc : inRange (a.shape.eraseIdx axis) c = true) :
    (laneOf a axis (c.insertIdx axis 0)).length = a.shape.getD axis 0 := by
  refine laneOf_length a axis 1 _ hwf ?_
  rw [← insertIdx_eraseIdx_self _ _ _ hax]
  exact inRange_insertIdx _ _ _ _ _ hc Nat.one_pos

theorem length_pos_ne_nil {β : Type} (l : List β) (n : Nat) (h : l.length = n) (hn : 0 < n) : l ≠ [] :=
  List.ne_nil_of_length_pos (h ▸ hn)

/-! ## integer and NaN-tagged instances -/

theorem foldl_add_int (xs : List Int) (a : Int) : xs.foldl (fun acc x => acc + x) a = a + xs.sum := by
  induction xs generalizing a with
  | nil => exact (Int.add_zero a).symm
  | cons x xs ih => rw [List.foldl_cons, ih, List.sum_cons, Int.add_assoc]

/-- NaN-free lanes of the NaN-tagged instance behave like the integer instance -/
theorem foldl_nanInt_some (f : Int → Int → Int) (g : Option Int → Option Int → Option Int)
    (hg : ∀ x y, g (some x) (some y) = some (f x y)) :
    ∀ (xs : List Int) (a : Int), (xs.map some).foldl g (some a) = some (xs.foldl f a) := by
  intro xs
  induction xs with
  | nil => exact fun _ => rfl
  | cons x xs ih => intro a; rw [List.map_cons, List.foldl_cons, hg, ih, List.foldl_cons]

/-! sample arrays for the non-vacuity examples of `Props/C08.lean` -/
def sampleI : Arr Int := ⟨[3, -1, 4, 1, -5, 9, 2, 6, 5, 3, 5, 0], [2, 3, 2]⟩
def sampleN : Arr (Option Int) := ⟨[some 3, none, some 4, some 1, some (-5), some 9, none, some 6, some 5, none, some 5, some 0], [2, 3, 2]⟩

end ArrModel.C08K
