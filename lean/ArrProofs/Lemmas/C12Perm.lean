import ArrProofs.Lemmas.C12Axis
/-!
# C12: the two list permutations (`reverse`, `rotate_right(shift mod len)`) and the coordinate maps of flip/roll
-/
namespace ArrModel
variable {α : Type}

theorem reverse_permSpec : PermSpec (fun _ => List.reverse) (fun n i => n - 1 - i) where
  length := fun _ l => List.length_reverse
  get := fun _ l i hi => List.getElem?_reverse hi
  lt := fun n i h => by omega

/-- a list cut at `d` with the two parts exchanged holds, at `i`, the element `d` places further on, cyclically -/
theorem getElem?_drop_append_take {β : Type} (l : List β) (d i : Nat) (hd : d ≤ l.length) (hi : i < l.length) :
    (l.drop d ++ l.take d)[i]? = l[(i + d) % l.length]? := by
  by_cases h : i + d < l.length
  · rw [List.getElem?_append_left (by rw [List.length_drop]; exact Nat.lt_sub_of_add_lt h), List.getElem?_drop,
      Nat.mod_eq_of_lt h, Nat.add_comm]
  · have h' : l.length ≤ i + d := Nat.le_of_not_lt h
    have e : i - (l.length - d) = i + d - l.length := by omega
    rw [List.getElem?_append_right (by rw [List.length_drop]; exact Nat.sub_le_of_le_add h'), List.length_drop,
      List.getElem?_take, e, if_pos (by omega), Nat.mod_eq_sub_mod h', Nat.mod_eq_of_lt (by omega)]

theorem rotateRight_eq {β : Type} (l : List β) (k : Nat) :
    rotateRight l k = l.drop (l.length - k % l.length) ++ l.take (l.length - k % l.length) := by
  unfold rotateRight
  cases l with
  | nil => rw [List.isEmpty_nil, if_pos rfl, List.drop_nil, List.take_nil]; rfl
  | cons x xs =>
    rw [List.isEmpty_cons, if_neg Bool.false_ne_true]
    unfold List.rotateRight
    dsimp only
    rw [Nat.mod_mod]
    split
    · next h =>
      have : xs = [] := List.eq_nil_of_length_eq_zero (Nat.le_zero.1 (Nat.le_of_succ_le_succ h))
      subst this
      rw [List.length_singleton, Nat.mod_one]; rfl
    · rfl

theorem rotateRight_length {β : Type} (l : List β) (k : Nat) : (rotateRight l k).length = l.length := by
  rw [rotateRight_eq, List.length_append, List.length_drop, List.length_take, Nat.min_eq_left (Nat.sub_le _ _),
    Nat.sub_add_cancel (Nat.sub_le _ _)]

/-- the source index of `roll` by `sh` on a length `n`: `(i − sh) mod n` (Euclidean remainder) -/
def rollIdx (sh : Int) (n i : Nat) : Nat := (((i : Int) - sh) % (n : Int)).toNat

theorem rollIdx_lt (sh : Int) (n i : Nat) (h : i < n) : rollIdx sh n i < n := by
  unfold rollIdx
  have h1 := Int.emod_nonneg ((i : Int) - sh) (b := (n : Int)) (by omega)
  have h2 := Int.emod_lt_of_pos ((i : Int) - sh) (b := (n : Int)) (by omega)
  omega

/-- `rotate_right((sh mod n) mod n)` moves the cut to `n − sh mod n`; read cyclically that is `rollIdx` -/
theorem rollIdx_eq (sh : Int) (n i : Nat) (hn : 0 < n) :
    (i + (n - (sh % (n : Int)).toNat % n)) % n = rollIdx sh n i := by
  have hn' : (0 : Int) < n := Int.natCast_pos.2 hn
  have h2 := Int.emod_lt_of_pos sh hn'
  have hm : ((sh % (n : Int)).toNat : Int) = sh % n := Int.toNat_of_nonneg (Int.emod_nonneg sh (Int.ne_of_gt hn'))
  unfold rollIdx
  generalize (sh % (n : Int)).toNat = m at hm
  have hmn : m < n := by omega
  have e : ((i : Int) - m) % n = ((i + (n - m) : Nat) : Int) % n := by
    rw [← Int.add_emod_right]; congr 1; omega
  rw [Nat.mod_eq_of_lt hmn, ← Int.sub_emod_emod, ← hm, e, ← Int.natCast_emod, Int.toNat_natCast]

theorem rollPerm_permSpec (sh : Int) : PermSpec (rollPerm sh) (rollIdx sh) where
  length := fun _ l => rotateRight_length l _
  get := fun _ l i hi => by
    rw [rollPerm, rotateRight_eq, getElem?_drop_append_take l _ i (Nat.sub_le _ _) hi,
      rollIdx_eq sh l.length i (Nat.zero_lt_of_lt hi)]
  lt := rollIdx_lt sh

theorem rollIdx_rollIdx (s t : Int) (n i : Nat) (hn : 0 < n) : rollIdx s n (rollIdx t n i) = rollIdx (s + t) n i := by
  unfold rollIdx
  have h1 := Int.emod_nonneg ((i : Int) - t) (b := (n : Int)) (by omega)
  rw [Int.toNat_of_nonneg h1, Int.emod_sub_emod]
  congr 2; omega

theorem rollIdx_zero (n i : Nat) (h : i < n) : rollIdx 0 n i = i := by
  unfold rollIdx
  rw [Int.sub_zero, Int.emod_eq_of_lt (Int.natCast_nonneg i) (Int.ofNat_lt.2 h), Int.toNat_natCast]

/-- rotating by `s` and then by `−s` restores the list -/
theorem rollPerm_neg_rollPerm {β : Type} (s : Int) (l : List β) : rollPerm (-s) β (rollPerm s β l) = l := by
  have hl : (rollPerm s β l).length = l.length := (rollPerm_permSpec s).length β l
  apply List.ext_getElem?
  intro i
  by_cases hi : i < l.length
  · rw [(rollPerm_permSpec (-s)).get β _ i (hl.symm ▸ hi), hl, (rollPerm_permSpec s).get β l _ (rollIdx_lt (-s) _ i hi),
      rollIdx_rollIdx s (-s) _ i (Nat.zero_lt_of_lt hi), Int.add_right_neg, rollIdx_zero _ _ hi]
  · rw [List.getElem?_eq_none (by rw [(rollPerm_permSpec (-s)).length, hl]; omega), List.getElem?_eq_none (by omega)]

/-- coordinate map of a flip along axis `k` -/
def flipCoord (shape : List Nat) (k : Nat) (c : List Nat) : List Nat := c.set k (shape.getD k 0 - 1 - c.getD k 0)

/-- coordinate map of a roll by `s` along axis `k`: `c[k] ↦ (c[k] − s) mod n` -/
def rollCoord (shape : List Nat) (k : Nat) (s : Int) (c : List Nat) : List Nat :=
  c.set k (rollIdx s (shape.getD k 0) (c.getD k 0))

theorem coord_ext (c c' : List Nat) (hl : c.length = c'.length) (h : ∀ m, m < c.length → c.getD m 0 = c'.getD m 0) : c = c' := by
  apply List.ext_getElem hl
  intro m h1 h2
  have := h m h1
  rwa [List.getD_eq_getElem?_getD, List.getD_eq_getElem?_getD, List.getElem?_eq_getElem h1, List.getElem?_eq_getElem h2] at this

/-- both maps change position `k` through a function of its present value; doing so twice composes the functions -/
theorem set_set_getD (c : List Nat) (k v : Nat) (g : Nat → Nat) (hk : k < c.length) :
    (c.set k v).set k (g ((c.set k v).getD k 0)) = c.set k (g v) := by
  rw [getD_set_self c k v hk, List.set_set]

theorem flipCoord_length (s : List Nat) (k : Nat) (c : List Nat) : (flipCoord s k c).length = c.length := List.length_set
theorem rollCoord_length (s : List Nat) (k : Nat) (sh : Int) (c : List Nat) : (rollCoord s k sh c).length = c.length :=
  List.length_set

theorem getD_flipCoord (s : List Nat) (k : Nat) (c : List Nat) (m : Nat) (hk : k < c.length) :
    (flipCoord s k c).getD m 0 = if m = k then s.getD k 0 - 1 - c.getD k 0 else c.getD m 0 := getD_set c k _ m hk

theorem getD_rollCoord (s : List Nat) (k : Nat) (sh : Int) (c : List Nat) (m : Nat) (hk : k < c.length) :
    (rollCoord s k sh c).getD m 0 = if m = k then rollIdx sh (s.getD k 0) (c.getD k 0) else c.getD m 0 := getD_set c k _ m hk

theorem inRange_flipCoord (s c : List Nat) (k : Nat) (h : inRange s c = true) (hk : k < s.length) :
    inRange s (flipCoord s k c) = true := by
  have := inRange_getD_lt s c k h hk
  exact inRange_set s c h k _ (by omega)

theorem inRange_rollCoord (s c : List Nat) (k : Nat) (sh : Int) (h : inRange s c = true) (hk : k < s.length) :
    inRange s (rollCoord s k sh c) = true :=
  inRange_set s c h k _ (rollIdx_lt sh _ _ (inRange_getD_lt s c k h hk))

theorem flipCoord_flipCoord (s c : List Nat) (k : Nat) (h : inRange s c = true) (hk : k < s.length) :
    flipCoord s k (flipCoord s k c) = c := by
  have hkc : k < c.length := inRange_length s c h ▸ hk
  have hlt := inRange_getD_lt s c k h hk
  unfold flipCoord
  rw [set_set_getD c k _ (fun x => s.getD k 0 - 1 - x) hkc,
    Nat.sub_sub_self (Nat.le_sub_one_of_lt hlt), set_getD_self c k]

theorem flipCoord_comm (s c : List Nat) (i j : Nat) : flipCoord s i (flipCoord s j c) = flipCoord s j (flipCoord s i c) := by
  by_cases e : i = j
  · rw [e]
  · unfold flipCoord
    rw [getD_set_ne c j _ i e, getD_set_ne c i _ j (Ne.symm e), List.set_comm _ _ (Ne.symm e)]

theorem rollCoord_rollCoord (s c : List Nat) (k : Nat) (a b : Int) (hk : k < c.length) (hpos : 0 < s.getD k 0) :
    rollCoord s k a (rollCoord s k b c) = rollCoord s k (a + b) c := by
  unfold rollCoord
  rw [set_set_getD c k _ (fun x => rollIdx a (s.getD k 0) x) hk, rollIdx_rollIdx a b _ _ hpos]

theorem rollCoord_zero (s c : List Nat) (k : Nat) (h : inRange s c = true) (hk : k < s.length) :
    rollCoord s k 0 c = c := by
  unfold rollCoord
  rw [rollIdx_zero _ _ (inRange_getD_lt s c k h hk), set_getD_self c k]

end ArrModel
