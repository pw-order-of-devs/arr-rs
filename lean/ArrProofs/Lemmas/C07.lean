import ArrModel.Manip
import ArrProofs.Lemmas.Res
import ArrProofs.Lemmas.Index
/-!
# Lemmas for C07 — the reshape family

`reshape` and the relation `Arr.Rewrap` that every operation of the family establishes; products under insertion, removal and
filtering of unit entries; `sortNat`; the insertion fold of `expand_dims` (`insertAll`, with the position check `okPos`); the
checks and the removal fold of `squeeze`; `dropIdx`, the specification of multi-axis removal; `cycleTake`.
-/
namespace ArrModel
variable {α β : Type}

/-! ### reshape, and what the whole family guarantees -/

theorem Arr.reshape_elems {a r : Arr α} {s : List Nat} (h : a.reshape s = .ok r) : r.elems = a.elems := by
  rw [(Arr.reshape_eq_ok_iff.mp h).2]

/-- `r` re-wraps the elements of `a`: the same flat element list, and well formed if `a` was.
Every path through `atleast`, `expand_dims` and `squeeze` ends in a `reshape` of the receiver or returns it untouched. -/
def Arr.Rewrap (a r : Arr α) : Prop := r.elems = a.elems ∧ (a.WF → r.WF)

theorem Arr.Rewrap.refl (a : Arr α) : a.Rewrap a := ⟨rfl, id⟩

theorem Arr.Rewrap.trans {a b c : Arr α} (h₁ : a.Rewrap b) (h₂ : b.Rewrap c) : a.Rewrap c :=
  ⟨h₂.1.trans h₁.1, fun h => h₂.2 (h₁.2 h)⟩

theorem Arr.reshape_rewrap (a : Arr α) (s : List Nat) : Res.All a.Rewrap (a.reshape s) :=
  fun _ h => ⟨Arr.reshape_elems h, fun _ => Arr.reshape_wf h⟩

theorem Arr.atleast_rewrap (a : Arr α) (n : Nat) : Res.All a.Rewrap (a.atleast n) := by
  unfold Arr.atleast
  split
  · exact .ok (.refl a)
  · exact .ok (.refl a)
  · unfold Arr.atleast2d
    refine .ite (fun _ => .ok (.refl a)) fun _ => ?_
    split
    · exact a.reshape_rewrap _
    · exact .bind' fun _ => a.reshape_rewrap _
    · exact .bind' fun _ => a.reshape_rewrap _
  · unfold Arr.atleast3d
    refine .ite (fun _ => .ok (.refl a)) fun _ => ?_
    split
    · exact a.reshape_rewrap _
    · exact .bind' fun _ => a.reshape_rewrap _
    · exact .bind' fun _ => .bind' fun _ => a.reshape_rewrap _
    · exact .ok (.refl a)
  · exact .err

theorem Arr.expandDims_rewrap (a : Arr α) (axes : List Int) : Res.All a.Rewrap (a.expandDims axes) :=
  .ite (fun _ => .err) fun _ => .bind' fun _ => a.reshape_rewrap _

theorem Arr.squeeze_rewrap (a : Arr α) (axes : Option (List Int)) : Res.All a.Rewrap (a.squeeze axes) := by
  unfold Arr.squeeze
  split
  · exact .ite (fun _ => .err) fun _ => .ite (fun _ => .err) fun _ => .bind' fun _ =>
      .ite (fun _ => .err) fun _ => .bind' fun _ => a.reshape_rewrap _
  · exact a.reshape_rewrap _

/-! ### products under unit insertion / removal / filtering -/

theorem prod_eraseIdx_one : ∀ (l : List Nat) (i : Nat), l[i]? = some 1 → (l.eraseIdx i).prod = l.prod
  | [], _, h => by simp at h
  | x :: xs, 0, h => by
    simp only [List.getElem?_cons_zero, Option.some.injEq] at h
    simp [h]
  | x :: xs, i + 1, h => by
    simp only [List.getElem?_cons_succ] at h
    simp only [List.eraseIdx_cons_succ, List.prod_cons, prod_eraseIdx_one xs i h]

theorem prod_filter_ne_one : ∀ (l : List Nat), (l.filter (fun d => d != 1)).prod = l.prod
  | [] => rfl
  | x :: xs => by
    by_cases h : x = 1
    · subst h; simp [prod_filter_ne_one xs]
    · have : (x != 1) = true := by simp [h]
      simp only [List.filter_cons, this, if_true, List.prod_cons, prod_filter_ne_one xs]

theorem prod_replicate_one (n : Nat) : (List.replicate n 1).prod = 1 := by
  rw [List.prod_replicate_nat, Nat.one_pow]

/-! ### `sortNat` -/

theorem sortNat_perm (l : List Nat) : (sortNat l).Perm l := List.mergeSort_perm _ _

theorem sortNat_sorted (l : List Nat) : (sortNat l).Pairwise (· ≤ ·) := by
  have h := List.pairwise_mergeSort (le := fun (a b : Nat) => decide (a ≤ b))
    (by intro a b c; simp only [decide_eq_true_eq]; omega)
    (by intro a b; simp only [Bool.or_eq_true, decide_eq_true_eq]; omega) l
  exact h.imp (by intro a b; simp)

theorem mem_sortNat {l : List Nat} {x : Nat} : x ∈ sortNat l ↔ x ∈ l := (sortNat_perm l).mem_iff

theorem mem_sortNat_map {ι : Type} {f : ι → Nat} {l : List ι} {i : ι} (hi : i ∈ l) : f i ∈ sortNat (l.map f) :=
  mem_sortNat.2 (List.mem_map_of_mem hi)

theorem length_sortNat_map {ι : Type} (f : ι → Nat) (l : List ι) : (sortNat (l.map f)).length = l.length :=
  (sortNat_perm _).length_eq.trans (List.length_map f)

theorem sortNat_strict {l : List Nat} (h : l.Nodup) : (sortNat l).Pairwise (· < ·) := by
  have hn : (sortNat l).Nodup := (sortNat_perm l).nodup_iff.2 h
  exact ((sortNat_sorted l).and hn).imp (by intro a b ⟨h1, h2⟩; omega)

theorem sortNat_reverse_nodup {l : List Nat} : (sortNat l).reverse.Nodup ↔ l.Nodup :=
  ((List.reverse_perm _).trans (sortNat_perm l)).nodup_iff

theorem sortNat_reverse_desc {l : List Nat} (h : l.Nodup) : (sortNat l).reverse.Pairwise (· > ·) := by
  rw [List.pairwise_reverse]; exact sortNat_strict h

theorem sortNat_eq_of_perm_sorted {l m : List Nat} (hp : l.Perm m) (hs : m.Pairwise (· ≤ ·)) : sortNat l = m :=
  List.Perm.eq_of_pairwise (le := (· ≤ ·)) (fun _ _ _ _ h1 h2 => Nat.le_antisymm h1 h2)
    (sortNat_sorted l) hs ((sortNat_perm l).trans hp)

/-! ### `expand_dims`: the insertion fold -/

/-- insert a unit axis at each position in turn -/
def insertAll (sh : List Nat) (ps : List Nat) : List Nat := ps.foldl (fun s p => s.insertIdx p 1) sh

theorem insertAll_cons (sh : List Nat) (p : Nat) (ps : List Nat) :
    insertAll sh (p :: ps) = insertAll (sh.insertIdx p 1) ps := rfl

/-- position `k` of the request list is at most `n + k` (what `expand_dims` checks) -/
def okPos : Nat → List Nat → Prop
  | _, [] => True
  | n, p :: ps => p ≤ n ∧ okPos (n + 1) ps

theorem okPos_iff : ∀ (n : Nat) (ps : List Nat), okPos n ps ↔ ∀ k (h : k < ps.length), ps[k] ≤ n + k
  | _, [] => by simp [okPos]
  | n, p :: ps => by
    simp only [okPos, okPos_iff (n + 1) ps]
    constructor
    · rintro ⟨h0, h1⟩ k hk
      cases k with
      | zero => simpa using h0
      | succ k => have := h1 k (by simpa using hk); simp only [List.getElem_cons_succ]; omega
    · intro h
      refine ⟨by have := h 0 (by simp); simp only [List.getElem_cons_zero] at this; omega, fun k hk => ?_⟩
      have := h (k + 1) (by simpa using hk); simp only [List.getElem_cons_succ] at this; omega

theorem zipIdx_check : ∀ (ps : List Nat) (n k : Nat),
    (ps.zipIdx k).any (fun p => decide (p.1 > n + p.2)) = false ↔ okPos (n + k) ps
  | [], _, _ => by simp [okPos]
  | p :: ps, n, k => by
    simp only [List.zipIdx_cons, List.any_cons, Bool.or_eq_false_iff, okPos, zipIdx_check ps n (k + 1),
      decide_eq_false_iff_not, Nat.add_assoc, gt_iff_lt]
    rw [Nat.not_lt]

/-- once the first request has been served, the remaining ones are checked against the grown shape -/
theorem okPos.tail {sh : List Nat} {p : Nat} {ps : List Nat} (h : okPos sh.length (p :: ps)) :
    okPos (sh.insertIdx p 1).length ps := by
  rw [List.length_insertIdx, if_pos h.1]; exact h.2

/-- strictly ascending requests that all fit in the final rank pass the `expand_dims` check -/
theorem okPos_of_strict_bounded : ∀ (ps : List Nat) (n : Nat), ps.Pairwise (· < ·) →
    (∀ p ∈ ps, p < n + ps.length) → okPos n ps
  | [], _, _, _ => trivial
  | p :: ps, n, hs, hb => by
    rw [List.pairwise_cons] at hs
    have ih := okPos_of_strict_bounded ps (n + 1) hs.2 (fun q hq => by
      have := hb q (List.mem_cons_of_mem _ hq); simp only [List.length_cons] at this; omega)
    refine ⟨?_, ih⟩
    cases ps with
    | nil => have := hb p List.mem_cons_self; simp only [List.length_cons, List.length_nil] at this; omega
    | cons q qs =>
      have h1 := hs.1 q List.mem_cons_self
      have h2 := ih.1
      omega

theorem insertAll_length : ∀ (ps sh : List Nat), okPos sh.length ps → (insertAll sh ps).length = sh.length + ps.length
  | [], _, _ => rfl
  | p :: ps, sh, h => by
    rw [insertAll_cons, insertAll_length ps _ h.tail, List.length_insertIdx, if_pos h.1, List.length_cons]
    omega

theorem insertAll_prod : ∀ (ps sh : List Nat), (insertAll sh ps).prod = sh.prod
  | [], _ => rfl
  | p :: ps, sh => by rw [insertAll_cons, insertAll_prod ps, prod_insertIdx_one]

/-- under the position check the fold of `Vec::insert` answers `ok` (no panic) -/
theorem insert_fold_ok : ∀ (ps sh : List Nat), okPos sh.length ps →
    ps.foldl (fun (acc : Res (List Nat)) item => acc >>= fun sh => Arr.vecInsert sh item 1) (.ok sh)
      = .ok (insertAll sh ps)
  | [], _, _ => rfl
  | p :: ps, sh, h => by
    have hv : Arr.vecInsert sh p 1 = .ok (sh.insertIdx p 1) := if_neg (Nat.not_lt.2 h.1)
    rw [List.foldl_cons, Res.bind_ok, hv]
    exact insert_fold_ok ps _ h.tail

/-- after all insertions a position holds a `1` if it is one of the requests (sorted ascending, repetitions allowed),
or if it held a `1` before and no request lies below it -/
theorem insertAll_one : ∀ (ps sh : List Nat) (p : Nat), ps.Pairwise (· ≤ ·) → okPos sh.length ps →
    p ∈ ps ∨ (sh[p]? = some 1 ∧ ∀ q ∈ ps, p ≤ q) → (insertAll sh ps)[p]? = some 1
  | [], _, _, _, _, h => h.elim nofun (·.1)
  | q :: ps, sh, p, hs, hok, h => by
    rw [List.pairwise_cons] at hs
    have hq : (sh.insertIdx q 1)[q]? = some 1 := by rw [List.getElem?_insertIdx_self, if_pos hok.1]
    refine insertAll_one ps _ p hs.2 hok.tail ?_
    rcases h with h | ⟨h1, hle⟩
    · rcases List.mem_cons.1 h with rfl | h
      · exact .inr ⟨hq, hs.1⟩
      · exact .inl h
    · refine .inr ⟨?_, fun x hx => hle x (List.mem_cons_of_mem _ hx)⟩
      rcases Nat.lt_or_eq_of_le (hle q List.mem_cons_self) with hlt | rfl
      · rw [List.getElem?_insertIdx_of_lt hlt]; exact h1
      · exact hq

/-- erasing the requested positions in the reverse of the order they were inserted undoes the insertions -/
theorem erase_insertAll : ∀ (ps sh : List Nat), ps.foldr (fun p s => s.eraseIdx p) (insertAll sh ps) = sh
  | [], _ => rfl
  | p :: ps, sh => by rw [insertAll_cons, List.foldr_cons, erase_insertAll ps, List.eraseIdx_insertIdx_self]

theorem Arr.expandDims_ok (a : Arr α) (axes : List Int) (hwf : a.WF)
    (hok : okPos a.ndim (sortNat (axes.map (fun i => normalizeAxisDim a.ndim i axes.length)))) :
    a.expandDims axes
      = .ok ⟨a.elems, insertAll a.shape (sortNat (axes.map (fun i => normalizeAxisDim a.ndim i axes.length)))⟩ := by
  unfold Arr.expandDims
  simp only [(zipIdx_check _ a.ndim 0).2 hok, Bool.false_eq_true, if_false, insert_fold_ok _ a.shape hok, Res.bind_ok]
  exact Arr.reshape_of_prod hwf (insertAll_prod _ _)

theorem Arr.expandDims_err (a : Arr α) (axes : List Int)
    (hok : ¬ okPos a.ndim (sortNat (axes.map (fun i => normalizeAxisDim a.ndim i axes.length)))) :
    a.expandDims axes = .err .AxisOutOfBounds :=
  if_pos (eq_true_of_ne_false fun h => hok ((zipIdx_check _ a.ndim 0).1 h))

/-! ### `squeeze`: its position list, and the checks and the removal fold for any position list -/

/-- the positions `squeeze(Some(axes))` works on (normalised, sorted, largest first) are the named axes -/
theorem mem_squeezePos {nd : Nat} {axes : List Int} {x : Nat} :
    x ∈ (sortNat (axes.map (normalizeAxis nd))).reverse ↔ ∃ i ∈ axes, normalizeAxis nd i = x := by
  rw [List.mem_reverse, mem_sortNat, List.mem_map]

theorem squeezePos_lt {nd n : Nat} {axes : List Int} (hin : ∀ i ∈ axes, normalizeAxis nd i < n) :
    ∀ x ∈ (sortNat (axes.map (normalizeAxis nd))).reverse, x < n :=
  fun _ hx => have ⟨i, hi, e⟩ := mem_squeezePos.1 hx; e ▸ hin i hi

theorem not_any_ge {ax : List Nat} {n : Nat} (h : ∀ x ∈ ax, x < n) : ¬ ax.any (fun x => decide (x ≥ n)) = true :=
  fun hc => have ⟨x, hx, hd⟩ := List.any_eq_true.1 hc; Nat.lt_irrefl _ (Nat.lt_of_lt_of_le (h x hx) (of_decide_eq_true hd))

theorem mapM'_idx_ok (sh : List Nat) (l : List Nat) (h : ∀ i ∈ l, i < sh.length) :
    Res.mapM' (fun i => Res.idx sh i) l = .ok (l.map (fun i => sh.getD i 0)) :=
  Res.mapM'_ok fun i hi => by
    rw [Res.idx_of_lt (h i hi), List.getD_eq_getElem?_getD, List.getElem?_eq_getElem (h i hi), Option.getD_some]

/-- the unit-length test of `squeeze` on positions inside the shape -/
theorem any_ne_one_iff {sh ax : List Nat} (h : ∀ x ∈ ax, x < sh.length) :
    (ax.map (fun i => sh.getD i 0)).any (fun d => d != 1) = true ↔ ∃ x ∈ ax, sh[x]? ≠ some 1 := by
  rw [List.any_map, List.any_eq_true]
  refine exists_congr fun x => and_congr_right fun hx => ?_
  rw [Function.comp_apply, List.getD_eq_getElem?_getD, List.getElem?_eq_getElem (h x hx), Option.getD_some, bne_iff_ne,
    ne_eq, ne_eq, Option.some.injEq]

/-- the fold of `Vec::remove` over strictly descending in-range unit positions: no panic, product kept -/
theorem remove_fold_ok : ∀ (ds sh : List Nat), ds.Pairwise (· > ·) → (∀ d ∈ ds, sh[d]? = some 1) →
    ds.foldl (fun (acc : Res (List Nat)) item => acc >>= fun sh => Arr.vecRemove sh item) (.ok sh)
      = .ok (ds.foldl (fun s d => s.eraseIdx d) sh) ∧ (ds.foldl (fun s d => s.eraseIdx d) sh).prod = sh.prod
  | [], _, _, _ => ⟨rfl, rfl⟩
  | d :: ds, sh, hs, h1 => by
    rw [List.pairwise_cons] at hs
    have hd := h1 d List.mem_cons_self
    have ⟨hdl, _⟩ := List.getElem?_eq_some_iff.1 hd
    have hv : Arr.vecRemove sh d = .ok (sh.eraseIdx d) := if_neg (Nat.not_le.2 hdl)
    have ih := remove_fold_ok ds (sh.eraseIdx d) hs.2 fun x hx => by
      rw [List.getElem?_eraseIdx_of_lt (hs.1 x hx)]; exact h1 x (List.mem_cons_of_mem _ hx)
    rw [List.foldl_cons, List.foldl_cons, Res.bind_ok, hv]
    exact ⟨ih.1, ih.2.trans (prod_eraseIdx_one _ _ hd)⟩

/-- drop the entries whose index satisfies `P` (specification of multi-axis removal) -/
def dropIdx (P : Nat → Bool) : List β → List β
  | [] => []
  | x :: xs => if P 0 then dropIdx (fun i => P (i + 1)) xs else x :: dropIdx (fun i => P (i + 1)) xs

theorem dropIdx_congr {P Q : Nat → Bool} (h : ∀ i, P i = Q i) (l : List β) : dropIdx P l = dropIdx Q l := by
  rw [funext h]

theorem dropIdx_sortNat_reverse (l : List Nat) (sh : List β) :
    dropIdx (fun p => decide (p ∈ (sortNat l).reverse)) sh = dropIdx (fun p => decide (p ∈ l)) sh :=
  dropIdx_congr (fun p => by simp only [List.mem_reverse, mem_sortNat]) sh

theorem dropIdx_false : ∀ (l : List α) (P : Nat → Bool), (∀ i, P i = false) → dropIdx P l = l
  | [], _, _ => rfl
  | x :: xs, P, h => by
    simp only [dropIdx, h 0, Bool.false_eq_true, if_false]
    rw [dropIdx_false xs _ (fun i => h (i + 1))]

theorem dropIdx_eq_filter : ∀ (l : List α) (P : Nat → Bool) (k : Nat),
    dropIdx (fun i => P (i + k)) l = ((l.zipIdx k).filter (fun p => !P p.2)).map (·.1)
  | [], _, _ => rfl
  | x :: xs, P, k => by
    have ih := dropIdx_eq_filter xs P (k + 1)
    have e : (fun i => P (i + 1 + k)) = (fun i => P (i + (k + 1))) := by
      funext i; congr 1; omega
    simp only [dropIdx, List.zipIdx_cons, List.filter_cons, Nat.zero_add, e, ih]
    cases P k <;> simp

/-- erasing one position beyond every dropped one = dropping one more position -/
theorem dropIdx_eraseIdx : ∀ (l : List α) (P : Nat → Bool) (d : Nat), (∀ j, d ≤ j → P j = false) →
    dropIdx P (l.eraseIdx d) = dropIdx (fun j => P j || j == d) l
  | [], _, _, _ => rfl
  | x :: xs, P, 0, h => by
    simp only [List.eraseIdx_cons_zero, dropIdx, h 0 (Nat.le_refl _), Bool.false_or, beq_self_eq_true, if_true]
    rw [dropIdx_false xs P (fun i => h i (Nat.zero_le _)), dropIdx_false]
    intro i; simp [h (i + 1) (Nat.zero_le _)]
  | x :: xs, P, d + 1, h => by
    have ih := dropIdx_eraseIdx xs (fun i => P (i + 1)) d (fun j hj => h (j + 1) (by omega))
    have e : (fun i => (P (i + 1) || (i + 1 == d + 1))) = (fun j => P (j + 1) || j == d) := by
      funext i; simp
    simp only [List.eraseIdx_cons_succ, dropIdx, ih, e]
    simp

/-- `Vec::remove` over a strictly descending list of positions drops exactly those positions -/
theorem eraseFold_eq_dropIdx : ∀ (ds : List Nat) (l : List α), ds.Pairwise (· > ·) →
    ds.foldl (fun es i => es.eraseIdx i) l = dropIdx (fun i => decide (i ∈ ds)) l
  | [], l, _ => by simp [dropIdx_false]
  | d :: ds, l, hs => by
    rw [List.pairwise_cons] at hs
    rw [List.foldl_cons, eraseFold_eq_dropIdx ds _ hs.2, dropIdx_eraseIdx]
    · apply dropIdx_congr
      intro i
      by_cases h : i = d <;> simp [h]
    · intro j hj
      simp only [decide_eq_false_iff_not]
      intro hm; have := hs.1 j hm; omega

/-! ### `cycleTake` -/

theorem cycleTake_nil (n : Nat) : cycleTake ([] : List α) n = [] := rfl

theorem cycleTake_eq_map (l : List α) (h : l ≠ []) (n : Nat) :
    cycleTake l n = (List.range n).map fun i => l[i % l.length]'(Nat.mod_lt _ (List.length_pos_iff.2 h)) := by
  have hget : (fun i => l[i % l.length]?) = fun i => some (l[i % l.length]'(Nat.mod_lt _ (List.length_pos_iff.2 h))) :=
    funext fun i => List.getElem?_eq_getElem _
  rw [cycleTake, if_neg (by simpa using h), hget, List.filterMap_eq_map']

theorem cycleTake_length (l : List α) (h : l ≠ []) (n : Nat) : (cycleTake l n).length = n := by
  rw [cycleTake_eq_map l h, List.length_map, List.length_range]

theorem cycleTake_getElem? (l : List α) (h : l ≠ []) (n i : Nat) (hi : i < n) :
    (cycleTake l n)[i]? = l[i % l.length]? := by
  rw [cycleTake_eq_map l h, List.getElem?_map, List.getElem?_range hi, Option.map_some, List.getElem?_eq_getElem]

end ArrModel
