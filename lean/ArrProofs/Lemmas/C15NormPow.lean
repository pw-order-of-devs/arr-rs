import ArrProofs.Lemmas.C15NormMat
import ArrProofs.Lemmas.Res
/-!
# Lemmas for C15: the general integer orders of the one-axis arm (`float_power`), negative orders included
-/
namespace ArrModel.C15
open ArrModel Arr

theorem ratPow_eq_pow (x : Rat) (p : Nat) : ratPow x p = x ^ p := by
  have : ∀ (p : Nat) (acc : Rat), (List.replicate p x).foldl (· * ·) acc = acc * x ^ p := by
    intro p; induction p with
    | zero => intro acc; rw [pow_zero, mul_one]; rfl
    | succ k ih => intro acc; rw [List.replicate_succ, List.foldl_cons, ih, pow_succ, mul_assoc, mul_comm x]
  rw [ratPow, this, one_mul]

theorem powE_of_nonneg (p : Int) (hp : 0 ≤ p) (x : Rat) : powE p x = .fin (|x| ^ p.natAbs) := by
  rw [powE, if_neg (not_lt.2 hp), ratPow_eq_pow, absR_eq_abs]

theorem powE_neg_zero (p : Int) (hp : p < 0) : powE p 0 = .inf := by
  rw [powE, if_pos hp, if_pos rfl]

theorem powE_neg (p : Int) (hp : p < 0) {x : Rat} (hx : x ≠ 0) : powE p x = .fin (1 / |x| ^ p.natAbs) := by
  rw [powE, if_pos hp, if_neg hx, ratPow_eq_pow, absR_eq_abs]

theorem sumE_fold_fin (l : List Rat) (f : Rat → Rat) : ∀ q : Rat,
    (l.map fun x => ERat.fin (f x)).foldl ERat.add (.fin q) = .fin (q + (l.map f).sum) := by
  induction l with
  | nil => intro q; exact congrArg ERat.fin (add_zero q).symm
  | cons x xs ih => intro q; rw [List.map_cons, List.foldl_cons, List.map_cons, List.sum_cons, ← add_assoc, ← ih]; rfl

theorem sumE_fold_inf (l : List ERat) : l.foldl ERat.add .inf = .inf := by
  induction l with
  | nil => rfl
  | cons x xs ih => exact ih

/-- positive order: the lane sum of `|x|^p` is finite -/
theorem sumE_pow_pos (p : Int) (hp : 0 ≤ p) (l : List Rat) :
    sumE (l.map (powE p)) = .fin ((l.map fun x => |x| ^ p.natAbs).sum) := by
  rw [List.map_congr_left (fun x _ => powE_of_nonneg p hp x), sumE, sumE_fold_fin l (fun x => |x| ^ p.natAbs) 0, zero_add]

/-- a fold of `ERat.add` over values that are `+inf` exactly at `0` -/
theorem sumE_fold_zero (pw : Rat → ERat) (f : Rat → Rat) (h0 : pw 0 = .inf) (hf : ∀ x, x ≠ 0 → pw x = .fin (f x)) (l : List Rat) :
    ∀ q : Rat, (l.map pw).foldl ERat.add (.fin q) = if (0 : Rat) ∈ l then .inf else .fin (q + (l.map f).sum) := by
  induction l with
  | nil => intro q; rw [if_neg List.not_mem_nil]; exact congrArg ERat.fin (add_zero q).symm
  | cons x xs ih =>
    intro q
    rw [List.map_cons, List.foldl_cons]
    by_cases hx : x = 0
    · rw [hx, h0, if_pos List.mem_cons_self]
      exact sumE_fold_inf _
    · have hmem : (0 : Rat) ∈ x :: xs ↔ 0 ∈ xs := by rw [List.mem_cons]; exact or_iff_right (Ne.symm hx)
      rw [hf x hx]
      show (xs.map pw).foldl ERat.add (.fin (q + f x)) = _
      rw [ih, List.map_cons, List.sum_cons, add_assoc]
      simp only [hmem]

/-- negative order: `+inf` as soon as the lane holds a zero, otherwise the finite sum of the reciprocal powers -/
theorem sumE_pow_neg (p : Int) (hp : p < 0) (l : List Rat) :
    sumE (l.map (powE p)) = if (0 : Rat) ∈ l then .inf else .fin ((l.map fun x => 1 / |x| ^ p.natAbs).sum) := by
  rw [sumE, sumE_fold_zero (powE p) _ (powE_neg_zero p hp) (fun x hx => powE_neg p hp hx) l 0, zero_add]

theorem rootE_of_nonneg (p : Int) (hp : 0 ≤ p) (q : Rat) : rootE p (.fin q) = .root p.natAbs q := if_neg (not_lt.2 hp)

theorem rootE_of_neg (p : Int) (hp : p < 0) (q : Rat) :
    rootE p (.fin q) = if p = -1 then .rat (1 / q) else .root p.natAbs (1 / q) := if_pos hp

/-- the value of one lane for an order `p ≥ 0`: the `p`-th root of `Σ |x|^p` -/
theorem rootE_sumE_nat (p : Nat) (l : List Rat) :
    rootE (p : Int) (sumE (l.map (powE (p : Int)))) = .root p ((l.map fun x => |x| ^ p).sum) := by
  rw [sumE_pow_pos (p : Int) (Int.natCast_nonneg p), rootE_of_nonneg _ (Int.natCast_nonneg p), Int.natAbs_natCast]

/-- the value of one lane for an order `-p < 0`: `0` when the lane holds a zero, otherwise `(1 / Σ 1/|x|^p)^(1/p)` -/
theorem rootE_sumE_neg (p : Nat) (hp : 1 ≤ p) (l : List Rat) :
    rootE (-(p : Int)) (sumE (l.map (powE (-(p : Int))))) =
      if (0 : Rat) ∈ l then .rat 0
      else if p = 1 then .rat (1 / (l.map fun x => 1 / |x| ^ p).sum) else .root p (1 / (l.map fun x => 1 / |x| ^ p).sum) := by
  have hneg : (-(p : Int)) < 0 := Int.neg_neg_of_pos (Int.natCast_pos.2 hp)
  have hna : (-(p : Int)).natAbs = p := by rw [Int.natAbs_neg, Int.natAbs_natCast]
  rw [sumE_pow_neg _ hneg, hna]
  by_cases h0 : (0 : Rat) ∈ l
  · rw [if_pos h0, if_pos h0]; rfl
  · rw [if_neg h0, if_neg h0, rootE_of_neg _ hneg, hna]
    by_cases hp1 : p = 1
    · rw [if_pos hp1, if_pos (by rw [hp1]; rfl)]
    · rw [if_neg hp1, if_neg (fun h => hp1 (by omega))]

theorem powArr_shape (p : Int) (a : Arr Rat) (hne : a.shape ≠ []) : (powArr p a).shape = a.shape := if_neg hne

/-- the general integer order along an axis: the entry at `c` is `rootE v` of the lane sum of the powers -/
theorem pow_arm_spec (a : Arr Rat) (ax : Int) (v : Int) (hv0 : v ≠ 0) (hv1 : v ≠ 1) (hv2 : v ≠ 2)
    (hwf : a.WF) (hnz : 0 ∉ a.shape) (hax : normalizeAxis a.ndim ax < a.ndim) :
    ∃ r, normVecX a (.int v) ax = .ok r ∧
      r.shape = (if a.ndim > 1 then a.shape.eraseIdx (normalizeAxis a.ndim ax) else [1]) ∧ r.WF ∧
      ∀ c, inRange (a.shape.eraseIdx (normalizeAxis a.ndim ax)) c = true →
        r.get? (if a.ndim > 1 then c else [0]) =
          some (rootE v (sumE ((laneOf a (normalizeAxis a.ndim ax) (c.insertIdx (normalizeAxis a.ndim ax) 0)).map (powE v)))) := by
  have hne : a.shape ≠ [] := fun h => by rw [Arr.ndim, h] at hax; exact Nat.not_lt_zero _ hax
  obtain ⟨r, h1, h2⟩ := arm_spec a (powArr v a) (powE v) (powArr_shape v a hne) rfl (.fin 0) (.fin 0) ax sumBodyE sumE (rootE v)
    (fun _ _ => rfl) hwf hnz hax
  refine ⟨r, ?_, h2⟩
  rw [← h1, ← Res.bind_ok_eq_map]
  unfold normVecX
  dsimp only
  rw [if_neg hv0, if_neg hv1, if_neg hv2, bcastGuard_ok a hnz, Res.bind_ok]

end ArrModel.C15
