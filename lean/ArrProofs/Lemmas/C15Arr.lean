import ArrProofs.Lemmas.C15Solve
/-!
# Lemmas for C15: flat (row-major) views, products and exchanges as `Matrix` operations, 1-D reductions, the shape
validators in front of `solve` / `det` / `qr`, and `solveArr` / `normArr` up to the arm that does the work
-/
namespace ArrModel.C15
open ArrModel

/-! ### flatten / row-major reads -/

theorem flatten_length (k : Nat) (x : Mat) (h : ∀ row ∈ x, row.length = k) : x.flatten.length = x.length * k :=
  List.flatMap_id ▸ length_flatMap_uniform id k _ h

theorem vget_flatten (k : Nat) (x : Mat) (h : ∀ row ∈ x, row.length = k) : ∀ t c, c < k →
    vget x.flatten (t * k + c) = entry x t c := by
  induction x with
  | nil => intro t c _; rfl
  | cons r rest ih =>
    intro t c hc
    have hr : r.length = k := h r List.mem_cons_self
    rw [List.flatten_cons, vget, List.getD_eq_getElem?_getD]
    cases t with
    | zero => rw [Nat.zero_mul, Nat.zero_add, List.getElem?_append_left (hr.symm ▸ hc)]; rfl
    | succ t =>
      -- `(t + 1) * k + c` lies `t * k + c` places behind the first row
      rw [Nat.succ_mul, Nat.add_right_comm, List.getElem?_append_right (hr ▸ Nat.le_add_left _ _), hr, Nat.add_sub_cancel,
        ← List.getD_eq_getElem?_getD]
      exact ih (fun row hm => h row (List.mem_cons_of_mem _ hm)) t c hc

theorem entry_toMat {r c : Nat} (e : List Rat) {i j : Nat} (hi : i < r) (hj : j < c) :
    entry (toMat r c e) i j = vget e (i * c + j) := by
  unfold toMat; rw [entry_build_lt _ hi hj]

theorem toMat_rows (r c : Nat) (e : List Rat) : ∀ i, i < r → ((toMat r c e).getD i []).length = c :=
  fun _ hi => build_row_length _ _ _ _ hi

/-! ### products and exchanges as `Matrix` operations -/

theorem toM_matMul (n : Nat) (a b : Mat) : toM n (matMul n a b) = toM n a * toM n b := by
  funext i j
  show entry (matMul n a b) i j = _
  rw [matMul, entry_build_lt _ i.2 j.2]
  exact (toM_mul_apply a b id i j).symm

theorem toM_swapRows (n : Nat) (a : Mat) (i j : Nat) (hi : i < n) (hj : j < n) :
    toM n (swapRows n n a i j) = (toM n a).submatrix (Equiv.swap (⟨i, hi⟩ : Fin n) ⟨j, hj⟩) id := by
  funext r c
  show entry (swapRows n n a i j) r c = entry a ((Equiv.swap (⟨i, hi⟩ : Fin n) ⟨j, hj⟩ r : Fin n) : Nat) c
  rw [entry_swapRows _ _ _ r.2 c.2, sw_eq_swap hi hj]

/-! ### reductions of a vector -/

theorem reduceAxis_vec (f : List Rat → Rat) (a : Arr Rat) (m : Nat) (hs : a.shape = [m]) (hw : a.elems.length = m)
    (ax : Int) (hax : ax = 0 ∨ ax = -1) :
    reduceAxis f a ax = .ok ⟨[f a.elems], [1]⟩ := by
  have hlane : (List.range m).map (fun t => vget a.elems (ravelC [m] (insertAt [] 0 t))) = a.elems := by
    apply List.ext_getElem
    · rw [List.length_map, List.length_range, hw]
    · intro i _ h2
      rw [List.getElem_map, List.getElem_range]
      show vget a.elems (i * 1 + 0) = _
      rw [Nat.add_zero, Nat.mul_one, vget_eq_getElem _ _ h2]
  have hnd : a.ndim = 1 := by rw [Arr.ndim, hs]; rfl
  have hax0 : normAxis 1 ax = 0 := by rcases hax with h | h <;> subst h <;> rfl
  unfold reduceAxis
  simp only [hnd, hax0]
  rw [if_neg (by decide), hs]
  show Res.ok (⟨[f ((List.range m).map fun t => vget a.elems (ravelC [m] (insertAt [] 0 t)))], [1]⟩ : Arr Rat) = _
  rw [hlane]

theorem sumL_eq_sum (l : List Rat) : sumL l = l.sum := by
  unfold sumL
  have : ∀ (l : List Rat) (acc : Rat), l.foldl (· + ·) acc = acc + l.sum := by
    intro l; induction l with
    | nil => intro acc; exact (add_zero acc).symm
    | cons x xs ih => intro acc; rw [List.foldl_cons, ih, List.sum_cons]; ring
  rw [this]; ring

theorem abs_lane_sum (l : List Rat) : sumL (l.map absR) = (l.map fun x => |x|).sum := by
  rw [sumL_eq_sum]; congr 1; apply List.map_congr_left; intro x _; exact absR_eq_abs x

theorem sq_lane_sum (l : List Rat) : sumL (l.map fun x => absR (x * x)) = (l.map fun x => x * x).sum := by
  rw [sumL_eq_sum]; congr 1; apply List.map_congr_left; intro x _
  rw [absR_eq_abs, abs_of_nonneg (mul_self_nonneg x)]

theorem sumL_indicator (l : List Rat) :
    sumL (l.map fun x => if x = 0 then (0 : Rat) else 1) = ((l.filter fun x => decide (x ≠ 0)).length : Rat) := by
  rw [sumL_eq_sum]
  induction l with
  | nil => rfl
  | cons x xs ih =>
    rw [List.map_cons, List.sum_cons, ih, List.filter_cons]
    by_cases h : x = 0
    · rw [if_pos h, zero_add, if_neg (by rw [decide_eq_true_eq]; exact not_not.2 h)]
    · rw [if_neg h, if_pos (decide_eq_true h), List.length_cons, Nat.cast_succ, add_comm]

theorem maxL_spec (l : List Rat) (hne : l ≠ []) : maxL l ∈ l ∧ ∀ x ∈ l, x ≤ maxL l := by
  obtain ⟨y, ys, rfl⟩ := List.exists_cons_of_ne_nil hne
  obtain ⟨h1, h2⟩ := foldl_pick_spec (· < ·) (fun _ _ h => not_lt.2 (le_of_lt h))
    (fun _ _ _ h1 h2 => not_lt.2 (le_trans (not_lt.1 h2) (not_lt.1 h1))) (y :: ys) y
  exact ⟨(List.mem_cons.1 h1).elim (fun h => List.mem_cons.2 (Or.inl h)) id, fun x hx => not_lt.1 (h2 x (List.mem_cons_of_mem _ hx))⟩

theorem minL_spec (l : List Rat) (hne : l ≠ []) : minL l ∈ l ∧ ∀ x ∈ l, minL l ≤ x := by
  obtain ⟨y, ys, rfl⟩ := List.exists_cons_of_ne_nil hne
  obtain ⟨h1, h2⟩ := foldl_pick_spec (· > ·) (fun _ _ h => not_lt.2 (le_of_lt h))
    (fun _ _ _ h1 h2 => not_lt.2 (le_trans (not_lt.1 h1) (not_lt.1 h2))) (y :: ys) y
  exact ⟨(List.mem_cons.1 h1).elim (fun h => List.mem_cons.2 (Or.inl h)) id, fun x hx => not_lt.1 (h2 x (List.mem_cons_of_mem _ hx))⟩

/-! ### the validation in front of `solve`, `det`, `qr` -/

theorem isSquare2_ok (n : Nat) (rest : List Nat) (hn : 2 ≤ n) : isSquare2 (n :: n :: rest) = .ok () := by
  unfold isSquare2
  dsimp only
  rw [if_neg (by omega), if_neg (by omega), if_neg (not_not.2 rfl)]

theorem isSquareLast_ok (shape : List Nat) (n : Nat) (hn : 2 ≤ n) (hlen : 2 ≤ shape.length)
    (hlast : shape.getD (shape.length - 1) 0 = n) (hprev : shape.getD (shape.length - 2) 0 = n) :
    isSquareLast shape = .ok () := by
  unfold isSquareLast
  simp only [hlast, hprev]
  rw [if_neg (by omega), if_neg (by omega), if_neg (by omega), if_neg (not_not.2 rfl)]

theorem stack_count (s n : Nat) (a : Arr Rat) (hn : 2 ≤ n) (ha : a.shape = [s, n, n]) (hw : a.WF) :
    a.elems.length / (n * n) = s := by
  have hlen : a.elems.length = s * (n * n) := by rw [hw, ha, List.prod_cons, List.prod_cons, List.prod_singleton]
  rw [hlen]
  exact Nat.mul_div_cancel _ (Nat.mul_pos (by omega) (by omega))

/-! ### `solveArr` -/

theorem singTol_pos : 0 < singTol := by unfold singTol; norm_num

theorem ne_zero_of_singTol_le {d : Rat} (h : singTol ≤ absR d) : d ≠ 0 := by
  intro h0
  rw [h0, absR, if_neg (lt_irrefl 0)] at h
  exact absurd singTol_pos (not_lt.2 h)

theorem solveArr_of_square (n k : Nat) (a b : Arr Rat) (rest : List Nat) (hn : 2 ≤ n) (ha : a.shape = [n, n])
    (hb : b.shape = n :: rest) (hk : (if b.ndim = 1 then 1 else b.shape.getD 1 0) = k) :
    solveArr a b =
      if absR (detN n (toMat n n a.elems)) < singTol then .err .SingularMatrix else
      if k = 0 then .err .BroadcastShapeMismatch else
      if b.shape.prod = n * k then .ok ⟨flatten (solveMat n k (toMat n n a.elems) (toMat n k b.elems)), b.shape⟩
      else .err .ShapeMustMatchValuesLength := by
  have hnd : ¬ a.ndim ≠ 2 := by rw [Arr.ndim, ha]; exact not_not.2 rfl
  unfold solveArr
  rw [if_neg hnd]
  simp only [hk]
  rw [ha, hb]
  simp only [isSquare2_ok n [] hn, List.getD_cons_zero, Res.bind_ok]
  show (Res.ok n >>= _) = _
  rw [Res.bind_ok, if_neg (not_not.2 rfl)]

/-- `solve` on a square system that passes the singularity test, for a right-hand side `b` of shape `n :: rest` read as `k`
columns: the answer has the shape of `b` and satisfies `A · x = b` in row-major coordinates -/
theorem solveArr_spec (n k : Nat) (a b : Arr Rat) (rest : List Nat) (hn : 2 ≤ n) (hk : 0 < k) (ha : a.shape = [n, n])
    (hb : b.shape = n :: rest) (hcols : (if b.ndim = 1 then 1 else b.shape.getD 1 0) = k) (hprod : b.shape.prod = n * k)
    (hdet : singTol ≤ absR (detN n (toMat n n a.elems))) :
    ∃ x, solveArr a b = .ok x ∧ x.shape = b.shape ∧ x.WF ∧
      ∀ r c, r < n → c < k →
        sumTo n (fun t => vget a.elems (r * n + t) * vget x.elems (t * k + c)) = vget b.elems (r * k + c) := by
  obtain ⟨hrows1, hrows2⟩ := solveMat_rows n k (toMat n n a.elems) (toMat n k b.elems)
  refine ⟨⟨flatten (solveMat n k (toMat n n a.elems) (toMat n k b.elems)), b.shape⟩, ?_, rfl, ?_, ?_⟩
  · rw [solveArr_of_square n k a b rest hn ha hb hcols, if_neg (not_lt.2 hdet), if_neg (by omega), if_pos hprod]
  · show (flatten _).length = b.shape.prod
    rw [flatten, flatten_length k _ hrows2, hrows1, hprod]
  · intro r c hr hc
    rw [← entry_toMat b.elems hr hc, ← solveMat_apply n k (toMat n n a.elems) (toMat n k b.elems) hn (toMat_rows n n _)
      (ne_zero_of_singTol_le hdet) r c hr hc]
    apply sumTo_congr; intro t ht
    rw [entry_toMat _ hr ht]
    show _ * vget (List.flatten _) (t * k + c) = _
    rw [vget_flatten k _ hrows2 t c hc]

/-! ### the dispatch of `normArr` -/

theorem normSimple_false (a : Arr Rat) :
    normSimple a false = .ok ⟨[.root 2 ((a.elems.map fun x => x * x).sum)], [1]⟩ := by
  rw [← sumL_eq_sum]; rfl

theorem normSimple_true (a : Arr Rat) : normSimple a true =
    if a.ndim = 1 then .ok ⟨[.root 2 ((a.elems.map fun x => x * x).sum)], [1]⟩ else .err .ShapeMustMatchValuesLength := by
  rw [← sumL_eq_sum]; rfl

theorem ite_decide_eq {α : Type} (p : Prop) [Decidable p] (x y : α) :
    (if decide p = true then x else y) = if p then x else y := by
  by_cases h : p
  · rw [if_pos h, if_pos (decide_eq_true h)]
  · rw [if_neg h, if_neg (by rw [decide_eq_false h]; exact Bool.false_ne_true)]

theorem normArr_axis_none (a : Arr Rat) (o : Ord) (keep : Bool) :
    normArr a (some o) none keep =
      if (a.ndim = 2 ∧ o = .fro) ∨ (a.ndim = 1 ∧ o = .int 2) then normSimple a keep
      else normArr a (some o) (some ((List.range a.ndim).map Int.ofNat)) keep :=
  ite_decide_eq _ _ _

theorem two_axes_checks_err {α : Type} (row col : Int) (nd : Nat) (x : Res α)
    (h : row = col ∨ row < 0 ∨ row ≥ nd ∨ col < 0 ∨ col ≥ nd) :
    (if row = col then .err .ParameterError else if row < 0 ∨ row ≥ nd then .err .AxisOutOfBounds
      else if col < 0 ∨ col ≥ nd then .err .AxisOutOfBounds else x) = .err .ParameterError ∨
    (if row = col then .err .ParameterError else if row < 0 ∨ row ≥ nd then .err .AxisOutOfBounds
      else if col < 0 ∨ col ≥ nd then .err .AxisOutOfBounds else x) = .err .AxisOutOfBounds := by
  by_cases heq : row = col
  · left; rw [if_pos heq]
  · right
    rw [if_neg heq]
    by_cases hr : row < 0 ∨ row ≥ nd
    · rw [if_pos hr]
    · rw [if_neg hr, if_pos (by omega)]

end ArrModel.C15
