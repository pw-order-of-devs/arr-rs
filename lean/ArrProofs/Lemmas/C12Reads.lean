import ArrProofs.Lemmas.C12Arr
/-!
# C12: results described by a coordinate map

`Reads x a S φ`: the computation `x` answers a well-formed array of shape `S` whose element at `c` is the element of `a`
at `φ c`.  Such descriptions compose along `>>=`, and two computations with the same description agree (coordinates
determine a well-formed array).  The coordinate theorem of `flip` along a list of axes is the first instance.
-/
namespace ArrModel
variable {α : Type}

/-- `x` answers a well-formed array of shape `S` that holds at `c` what `a` holds at `φ c`: the form of the coordinate
theorems of flip, roll and the quarter turns -/
def Reads (x : Res (Arr α)) (a : Arr α) (S : List Nat) (φ : List Nat → List Nat) : Prop :=
  ∃ r, x = .ok r ∧ r.shape = S ∧ r.WF ∧ ∀ c, inRange S c = true → r.get? c = a.get? (φ c)

/-- a second step that reads the result of the first: the coordinate maps compose, the later step outermost -/
theorem Reads.bind {x : Res (Arr α)} {a : Arr α} {S S' : List Nat} {φ ψ : List Nat → List Nat} {f : Arr α → Res (Arr α)}
    (hx : Reads x a S φ) (hf : ∀ r, r.shape = S → r.WF → Reads (f r) r S' ψ)
    (hin : ∀ c, inRange S' c = true → inRange S (ψ c) = true) : Reads (x >>= f) a S' (fun c => φ (ψ c)) := by
  obtain ⟨r, h1, h2, h3, h4⟩ := hx
  obtain ⟨r', g1, g2, g3, g4⟩ := hf r h2 h3
  exact ⟨r', by rw [h1, Res.bind_ok, g1], g2, g3, fun c hc => by rw [g4 c hc, h4 _ (hin c hc)]⟩

theorem Reads.congr {x : Res (Arr α)} {a : Arr α} {S : List Nat} {φ φ' : List Nat → List Nat}
    (hx : Reads x a S φ) (h : ∀ c, inRange S c = true → φ c = φ' c) : Reads x a S φ' := by
  obtain ⟨r, h1, h2, h3, h4⟩ := hx
  exact ⟨r, h1, h2, h3, fun c hc => by rw [h4 c hc, h c hc]⟩

/-- two computations with the same coordinate description have the same outcome -/
theorem Reads.eq {x y : Res (Arr α)} {a : Arr α} {S : List Nat} {φ : List Nat → List Nat}
    (hx : Reads x a S φ) (hy : Reads y a S φ) : x = y := by
  obtain ⟨r, h1, h2, h3, h4⟩ := hx
  obtain ⟨r', g1, g2, g3, g4⟩ := hy
  rw [h1, g1]
  exact congrArg Res.ok (Arr.ext_get r r' h3 g3 (h2.trans g2.symm) fun c hc => by rw [h4 c (h2 ▸ hc), g4 c (h2 ▸ hc)])

/-- the identity map on coordinates describes the array itself -/
theorem Reads.eq_ok {x : Res (Arr α)} {a : Arr α} (hx : Reads x a a.shape (fun c => c)) (hwf : a.WF) : x = .ok a :=
  hx.eq ⟨a, rfl, rfl, hwf, fun _ _ => rfl⟩

/-- flip along a list of valid axes: shape kept, composed coordinate map -/
theorem flip_list_spec (a : Arr α) (axes : List Int) (hwf : a.WF) (hpos : ∀ d ∈ a.shape, 0 < d)
    (hv : ∀ x ∈ axes, normalizeAxis a.ndim x < a.ndim) :
    Reads (a.flip (some axes)) a a.shape (fun c => (axes.map (normalizeAxis a.ndim)).foldr (flipCoord a.shape) c) := by
  obtain ⟨es, h1, h2, h3⟩ := stepFold_at (fun x es => flipAxis x a.shape es) (flipCoord a.shape) a.shape (fun x => x < a.shape.length)
    (fun x hx es hl => flipAxis_spec x a.shape es hpos hl hx) (fun x hx c hc => inRange_flipCoord a.shape c x hc hx)
    (axes.map (normalizeAxis a.ndim)) (List.forall_mem_map.2 hv) a.elems hwf
  have hl : a.shape.prod = es.length := (h2.trans hwf).symm
  refine ⟨⟨es, a.shape⟩, ?_, rfl, hl.symm, h3⟩
  rw [Arr.flip_of_valid a axes hv, h1]
  exact Arr.new_of_prod hl

/-- flip along one axis named by an integer, on an array whose shape is known to be `S` -/
theorem flip_int_at (a : Arr α) (S : List Nat) (hS : a.shape = S) (x : Int) (k : Nat) (hk : normalizeAxis S.length x = k)
    (hlt : k < S.length) (hwf : a.WF) (hpos : ∀ d ∈ S, 0 < d) : Reads (a.flip (some [x])) a S (flipCoord S k) := by
  subst hS hk
  exact flip_list_spec a [x] hwf hpos (List.forall_mem_singleton.2 hlt)

end ArrModel
