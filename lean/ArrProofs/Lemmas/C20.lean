import ArrModel.C20
import ArrProofs.Lemmas.Res
/-!
# Lemmas for C20 (operator overloads)

Each operator form on operands it accepts is a closed form (`binop_eq`, `scalarop_eq`, …: the receiver's shape around a
`zipWith` / `map` of the elements); `zip_reading` / `map_reading` turn such a closed form into the positional statement.
`==` is a test of all aligned pairs (`all_zip_iff`).  The ordering operators go through `slicePartialCmp`, whose answer on
equally long slices is `Equal` iff all aligned pairs are (`AllEq`) and otherwise the comparison at the first pair that is
not (`FirstAt`); on integers it is Lean's `<` on lists.
-/
namespace ArrModel.C20
open ArrModel

variable {α β : Type}

/-! ### the helpers of the operator bodies -/

theorem newUnwrap_ok (elems : List α) (shape : List Nat) (h : shape.prod = elems.length) :
    newUnwrap elems shape = .ok ⟨elems, shape⟩ := by
  rw [newUnwrap, Arr.new_of_prod h]

theorem newUnwrap_panic (elems : List α) (shape : List Nat) (h : shape.prod ≠ elems.length) :
    newUnwrap elems shape = .panic := by
  rw [newUnwrap, Arr.new_of_not_prod h]

theorem newUnwrap_ok_iff (elems : List α) (shape : List Nat) (r : Arr α) :
    newUnwrap elems shape = .ok r ↔ shape.prod = elems.length ∧ r = ⟨elems, shape⟩ := by
  by_cases h : shape.prod = elems.length
  · rw [newUnwrap_ok _ _ h]
    exact ⟨fun e => ⟨h, (Res.ok.inj e).symm⟩, fun e => e.2 ▸ rfl⟩
  · rw [newUnwrap_panic _ _ h]
    exact ⟨nofun, fun e => absurd e.1 h⟩

theorem newUnwrap_ne_err (elems : List α) (shape : List Nat) (e : Err) : newUnwrap elems shape ≠ .err e := by
  by_cases h : shape.prod = elems.length
  · rw [newUnwrap_ok _ _ h]; exact nofun
  · rw [newUnwrap_panic _ _ h]; exact nofun

theorem collectArr_ok (elems : List α) : collectArr elems = .ok ⟨elems, [elems.length]⟩ :=
  newUnwrap_ok _ _ List.prod_singleton

theorem reshape_ok (a : Arr α) (shape : List Nat) (h : shape.prod = a.elems.length) :
    reshape a shape = .ok ⟨a.elems, shape⟩ := by
  rw [reshape, if_pos h, Arr.new_of_prod h]

theorem reshape_err (a : Arr α) (shape : List Nat) (h : shape.prod ≠ a.elems.length) :
    reshape a shape = .err .ShapeMustMatchValuesLength := by
  rw [reshape, if_neg h]

theorem mapArr_ok (f : α → β) (a : Arr α) (h : a.WF) : mapArr f a = .ok ⟨a.elems.map f, a.shape⟩ := by
  rw [mapArr, collectArr_ok, Res.bind_ok, reshape_ok _ _ (h.symm.trans (List.length_map _).symm)]

theorem mapArr_err (f : α → β) (a : Arr α) (h : ¬ a.WF) : mapArr f a = .err .ShapeMustMatchValuesLength := by
  rw [mapArr, collectArr_ok, Res.bind_ok, reshape_err _ _ fun e => h ((e.trans (List.length_map _)).symm)]

/-- on equally long lists the in-place zip rewrites every slot -/
theorem zipAssign_eq_zipWith (g : α → α → α) : ∀ (xs ys : List α), xs.length ≤ ys.length →
    zipAssign g xs ys = List.zipWith g xs ys
  | [], _, _ => by rw [zipAssign, List.zipWith_nil_left]
  | x :: xs, [], h => nomatch h
  | x :: xs, y :: ys, h => by
    rw [zipAssign, List.zipWith_cons_cons, zipAssign_eq_zipWith g xs ys (Nat.le_of_succ_le_succ h)]

theorem length_zipAssign (g : α → α → α) : ∀ (xs ys : List α), (zipAssign g xs ys).length = xs.length
  | [], _ => by rw [zipAssign]
  | x :: xs, [] => by simp [zipAssign]
  | x :: xs, y :: ys => by rw [zipAssign, List.length_cons, List.length_cons, length_zipAssign g xs ys]

/-- positional reading of a zip -/
theorem getElem?_zipWith_some (f : α → α → α) (xs ys : List α) (i : Nat) (x y : α)
    (hx : xs[i]? = some x) (hy : ys[i]? = some y) : (List.zipWith f xs ys)[i]? = some (f x y) := by
  rw [List.getElem?_zipWith, hx, hy]

/-! ### closed forms of the operator forms -/

theorem length_eq_of_shape {a b : Arr α} (ha : a.WF) (hb : b.WF) (hs : a.shape = b.shape) :
    a.elems.length = b.elems.length :=
  ha.trans (hs ▸ hb.symm)

theorem binop_eq (f : α → α → α) (a b : Arr α) (ha : a.WF) (hb : b.WF) (hs : a.shape = b.shape) :
    binop f a b = .ok ⟨List.zipWith f a.elems b.elems, a.shape⟩ := by
  rw [binop, if_neg (not_not_intro hs), newUnwrap_ok]
  rw [List.length_zipWith, ← length_eq_of_shape ha hb hs, Nat.min_self]
  exact ha.symm

theorem assignop_eq (g : α → α → α) (a b : Arr α) (hl : a.elems.length ≤ b.elems.length) (hs : a.shape = b.shape) :
    assignop g a b = .ok ⟨List.zipWith g a.elems b.elems, a.shape⟩ := by
  rw [assignop, if_neg (not_not_intro hs), zipAssign_eq_zipWith _ _ _ hl]

theorem bitop_eq (f : α → α → α) (a b : Arr α) (hs : a.shape = b.shape) :
    bitop f a b = .ok ⟨List.zipWith f a.elems b.elems, a.shape⟩ := by
  rw [bitop, if_neg (not_not_intro hs)]

theorem scalarop_eq (f : α → α → α) (a : Arr α) (s : α) (ha : a.WF) :
    scalarop f a s = .ok ⟨a.elems.map (fun x => f x s), a.shape⟩ := by
  rw [scalarop, mapArr_ok _ _ ha, Res.bind_ok, reshape_ok _ _ (ha.symm.trans (List.length_map _).symm)]

theorem unop_eq (f : α → α) (a : Arr α) (ha : a.WF) : unop f a = .ok ⟨a.elems.map f, a.shape⟩ :=
  newUnwrap_ok _ _ (ha.symm.trans (List.length_map _).symm)

/-- what the `∃ r, … = .ok r ∧ …` statements say of a zipped answer -/
theorem zip_reading (f : α → α → α) (a b : Arr α) (ha : a.WF) (hb : b.WF) (hs : a.shape = b.shape) :
    (⟨List.zipWith f a.elems b.elems, a.shape⟩ : Arr α).WF ∧
    (List.zipWith f a.elems b.elems).length = a.elems.length ∧
    ∀ (i : Nat) (x y : α), a.elems[i]? = some x → b.elems[i]? = some y →
      (List.zipWith f a.elems b.elems)[i]? = some (f x y) := by
  have hl : (List.zipWith f a.elems b.elems).length = a.elems.length := by
    rw [List.length_zipWith, ← length_eq_of_shape ha hb hs, Nat.min_self]
  exact ⟨hl.trans ha, hl, getElem?_zipWith_some f _ _⟩

/-- … and of a mapped answer -/
theorem map_reading (g : α → α) (a : Arr α) (ha : a.WF) :
    (⟨a.elems.map g, a.shape⟩ : Arr α).WF ∧ (a.elems.map g).length = a.elems.length ∧
    ∀ (i : Nat) (x : α), a.elems[i]? = some x → (a.elems.map g)[i]? = some (g x) :=
  ⟨(List.length_map _).trans ha, List.length_map _, fun i x hx => by rw [List.getElem?_map, hx]; rfl⟩

/-! ### `==` on the element lists -/

/-- a property of all aligned pairs of `x :: xs` and `y :: ys`: of the heads, and of all aligned pairs of the tails -/
theorem aligned_cons {P : α → α → Prop} (x y : α) (xs ys : List α) :
    (∀ (j : Nat) (u v : α), (x :: xs)[j]? = some u → (y :: ys)[j]? = some v → P u v) ↔
      P x y ∧ ∀ (j : Nat) (u v : α), xs[j]? = some u → ys[j]? = some v → P u v := by
  constructor
  · exact fun h => ⟨h 0 x y rfl rfl, fun j => h (j + 1)⟩
  · rintro ⟨h0, h⟩ j u v hu hv
    cases j with
    | zero => exact Option.some.inj hu ▸ Option.some.inj hv ▸ h0
    | succ j => exact h j u v hu hv

/-- `zip(..).all(|(a, b)| a == b)`, read by position (any lengths) -/
theorem all_zip_iff (eq : α → α → Bool) : ∀ (xs ys : List α),
    ((xs.zip ys).all fun p => eq p.1 p.2) = true ↔
      ∀ (i : Nat) (x y : α), xs[i]? = some x → ys[i]? = some y → eq x y = true
  | [], _ => by simp
  | _ :: _, [] => by simp
  | x :: xs, y :: ys => by
    rw [List.zip_cons_cons, List.all_cons, Bool.and_eq_true, all_zip_iff eq xs ys]
    exact (aligned_cons (P := fun u v => eq u v = true) x y xs ys).symm

/-- with a lawful `==`, equally long lists pass the test exactly when they are the same list -/
theorem all_zip_beq_iff [BEq α] [LawfulBEq α] : ∀ (xs ys : List α), xs.length = ys.length →
    (((xs.zip ys).all fun p => p.1 == p.2) = true ↔ xs = ys)
  | [], [], _ => by simp
  | [], _ :: _, h => nomatch h
  | _ :: _, [], h => nomatch h
  | x :: xs, y :: ys, h => by
    rw [List.zip_cons_cons, List.all_cons, Bool.and_eq_true, all_zip_beq_iff xs ys (Nat.succ.inj h), beq_iff_eq,
      List.cons.injEq]

/-! ### slice comparison -/

/-- every aligned pair compares `Equal` -/
def AllEq (pcmp : α → α → Option Ordering) (xs ys : List α) : Prop :=
  ∀ (j : Nat) (u v : α), xs[j]? = some u → ys[j]? = some v → pcmp u v = some .eq

/-- the first aligned pair that does not compare `Equal` is at `k` and compares as `r` -/
def FirstAt (pcmp : α → α → Option Ordering) (r : Option Ordering) (xs ys : List α) : Prop :=
  ∃ (k : Nat) (x y : α), xs[k]? = some x ∧ ys[k]? = some y ∧ pcmp x y = r ∧ r ≠ some .eq ∧
    ∀ j : Nat, j < k → ∀ u v, xs[j]? = some u → ys[j]? = some v → pcmp u v = some .eq

theorem allEq_nil (pcmp : α → α → Option Ordering) : AllEq pcmp [] [] :=
  fun _ _ _ h => nomatch h

theorem allEq_cons (pcmp : α → α → Option Ordering) (x y : α) (xs ys : List α) :
    AllEq pcmp (x :: xs) (y :: ys) ↔ pcmp x y = some .eq ∧ AllEq pcmp xs ys :=
  aligned_cons x y xs ys

theorem firstAt_cons (pcmp : α → α → Option Ordering) (r : Option Ordering) (x y : α) (xs ys : List α) :
    FirstAt pcmp r (x :: xs) (y :: ys) ↔
      (pcmp x y = r ∧ r ≠ some .eq) ∨ (pcmp x y = some .eq ∧ FirstAt pcmp r xs ys) := by
  constructor
  · rintro ⟨k, u, v, hu, hv, hr, hne, hpre⟩
    cases k with
    | zero => exact .inl ⟨Option.some.inj hu ▸ Option.some.inj hv ▸ hr, hne⟩
    | succ k =>
      exact .inr ⟨hpre 0 (Nat.zero_lt_succ k) x y rfl rfl, k, u, v, hu, hv, hr, hne,
        fun j hj => hpre (j + 1) (Nat.succ_lt_succ hj)⟩
  · rintro (⟨hr, hne⟩ | ⟨h0, k, u, v, hu, hv, hr, hne, hpre⟩)
    · exact ⟨0, x, y, rfl, rfl, hr, hne, fun j hj => nomatch hj⟩
    · refine ⟨k + 1, u, v, hu, hv, hr, hne, fun j hj u' v' hu' hv' => ?_⟩
      cases j with
      | zero => exact Option.some.inj hu' ▸ Option.some.inj hv' ▸ h0
      | succ j => exact hpre j (Nat.lt_of_succ_lt_succ hj) u' v' hu' hv'

theorem not_firstAt_nil (pcmp : α → α → Option Ordering) (r : Option Ordering) (ys : List α) :
    ¬ FirstAt pcmp r [] ys :=
  fun ⟨_, _, _, hx, _⟩ => nomatch hx

/-- the comparison of two non-empty slices: past a pair that compares `Equal`, otherwise that pair's answer -/
theorem slicePartialCmp_cons_eq {pcmp : α → α → Option Ordering} {x y : α} (xs ys : List α)
    (h : pcmp x y = some .eq) : slicePartialCmp pcmp (x :: xs) (y :: ys) = slicePartialCmp pcmp xs ys := by
  rw [slicePartialCmp, h]

theorem slicePartialCmp_cons_ne {pcmp : α → α → Option Ordering} {x y : α} (xs ys : List α)
    (h : pcmp x y ≠ some .eq) : slicePartialCmp pcmp (x :: xs) (y :: ys) = pcmp x y := by
  rw [slicePartialCmp]
  split
  · exact absurd ‹_› h
  · rfl

/-- on equally long slices: the answer is `Equal` iff all aligned pairs are -/
theorem slicePartialCmp_eq_iff (pcmp : α → α → Option Ordering) : ∀ (xs ys : List α), xs.length = ys.length →
    (slicePartialCmp pcmp xs ys = some .eq ↔ AllEq pcmp xs ys)
  | [], [], _ => ⟨fun _ => allEq_nil pcmp, fun _ => rfl⟩
  | [], _ :: _, h => nomatch h
  | _ :: _, [], h => nomatch h
  | x :: xs, y :: ys, h => by
    rw [allEq_cons]
    by_cases hp : pcmp x y = some .eq
    · rw [slicePartialCmp_cons_eq xs ys hp, slicePartialCmp_eq_iff pcmp xs ys (Nat.succ.inj h)]
      exact ⟨fun h => ⟨hp, h⟩, fun h => h.2⟩
    · rw [slicePartialCmp_cons_ne xs ys hp]
      exact ⟨fun h => absurd h hp, fun h => absurd h.1 hp⟩

/-- on equally long slices: any other answer is the comparison at the first non-`Equal` position -/
theorem slicePartialCmp_first_iff (pcmp : α → α → Option Ordering) (r : Option Ordering) (hr : r ≠ some .eq) :
    ∀ (xs ys : List α), xs.length = ys.length →
    (slicePartialCmp pcmp xs ys = r ↔ FirstAt pcmp r xs ys)
  | [], [], _ => ⟨fun h => absurd h.symm hr, fun h => absurd h (not_firstAt_nil _ _ _)⟩
  | [], _ :: _, h => nomatch h
  | _ :: _, [], h => nomatch h
  | x :: xs, y :: ys, h => by
    rw [firstAt_cons]
    by_cases hp : pcmp x y = some .eq
    · rw [slicePartialCmp_cons_eq xs ys hp, slicePartialCmp_first_iff pcmp r hr xs ys (Nat.succ.inj h)]
      exact ⟨fun h => .inr ⟨hp, h⟩, fun h => h.elim (fun h' => absurd (hp.symm.trans h'.1).symm hr) (·.2)⟩
    · rw [slicePartialCmp_cons_ne xs ys hp]
      exact ⟨fun h => .inl ⟨h, hr⟩, fun h => h.elim (·.1) (fun h' => absurd h'.1 hp)⟩

theorem opPartialCmp_eq (pcmp : α → α → Option Ordering) (a b : Arr α) (hs : a.shape = b.shape) :
    opPartialCmp pcmp a b = .ok (slicePartialCmp pcmp a.elems b.elems) := by
  rw [opPartialCmp, if_neg (not_not_intro hs)]

/-- slice comparison of integers is Lean's lexicographic order on lists (any lengths) -/
theorem slicePartialCmp_int_lt : ∀ (xs ys : List Int),
    (slicePartialCmp (fun x y => some (compare x y)) xs ys = some .lt ↔ xs < ys)
  | [], [] => by simp [slicePartialCmp]
  | [], _ :: _ => by simp [slicePartialCmp]
  | _ :: _, [] => by simp [slicePartialCmp]
  | x :: xs, y :: ys => by
    have ih := slicePartialCmp_int_lt xs ys
    unfold slicePartialCmp
    rw [List.cons_lt_cons_iff]
    rcases Int.lt_trichotomy x y with h | h | h
    · have : compare x y = .lt := by simp [Int.compare_eq_lt, h] <;> omega
      simp [this, h]
    · subst h
      simp [ih]
    · have : compare x y = .gt := by simp [Int.compare_eq_gt, h] <;> omega
      simp [this]; omega

end ArrModel.C20
