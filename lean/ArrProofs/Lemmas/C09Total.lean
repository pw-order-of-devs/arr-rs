import ArrProofs.Lemmas.C09
/-!
# Lemmas for the `…_total` family of C09: "never a panic" where the owning property cannot be imported

`Props/C02`, `Props/C03` and `Props/C12` cannot be imported next to `Lemmas/C08List.lean` (which `Lemmas/C09.lean` brings in):
their lemma files declare helper names that it declares too.  So the facts of theirs that C09 needs are proved here:

* coordinates (`index_at`, `at`, `index_to_coord`), from `Lemmas/Index.lean`;
* `broadcast_to` / `broadcast` / `zip` on well-formed arrays;
* `flip` / `roll` / `rot90` for EVERY array (well-formed or not) and every argument.

Each model is walked guard by guard and bind by bind.
-/
namespace ArrModel.C09
open ArrModel

variable {α β : Type}

/-! ## coordinates -/

theorem indexAt_err_iff' (a : Arr α) (c : List Nat) :
    a.indexAt c = .err .ParameterError ↔ inRange a.shape c = false := by
  rw [Arr.indexAt_eq]
  cases inRange a.shape c <;> simp

theorem indexAt_ne_panic (a : Arr α) (c : List Nat) : a.indexAt c ≠ .panic :=
  Res.ite_ne_panic (fun _ => nofun) fun _ => Res.ite_ne_panic (fun _ => nofun) fun _ => nofun

theorem atc_err' (a : Arr α) (c : List Nat) (h : inRange a.shape c = false) : a.atc c = .err .ParameterError := by
  unfold Arr.atc; rw [(indexAt_err_iff' a c).2 h]

theorem atc_ne_panic (a : Arr α) (hwf : a.WF) (c : List Nat) : a.atc c ≠ .panic := by
  cases h : inRange a.shape c with
  | true => obtain ⟨x, hx, _⟩ := Arr.atc_ok a hwf c h; rw [hx]; simp
  | false => rw [atc_err' a c h]; simp

theorem indexToCoord_err' (a : Arr α) (i : Nat) (h : a.len ≤ i) : a.indexToCoord i = .err .ParameterError := if_pos h

/-! ## `broadcast_to`, `broadcast` -/

theorem broadcastTo_ne_panic (a : Arr α) (hwf : a.WF) (t : List Nat) : a.broadcastTo t ≠ .panic := by
  refine Res.ite_ne_panic (fun _ => nofun) fun _ => Res.ite_ne_panic (fun _ => Arr.reshape_ne_panic _ _) fun _ =>
    Res.ite_ne_panic (fun _ => nofun) fun _ => Res.ite_ne_panic (fun _ => nofun) fun _ =>
      Res.bind_ne_panic (Res.sequence_ne_panic fun x hx => ?_) fun _ _ => Arr.new_ne_panic _ _
  obtain ⟨i, _, rfl⟩ := List.mem_map.1 hx
  exact atc_ne_panic a hwf _

theorem broadcastShape_ne_panic (s t : List Nat) : broadcastShape s t ≠ .panic :=
  Res.map_ne_panic _ (Res.sequence_ne_panic fun x hx => by
    obtain ⟨p, _, rfl⟩ := List.mem_map.1 hx
    exact bdim_ne_panic _ _)

theorem broadcastTo_ok_wf (a r : Arr α) (_hwf : a.WF) (t : List Nat) (h : a.broadcastTo t = .ok r) : r.WF := by
  have hall : Res.All Arr.WF (a.broadcastTo t) :=
    .ite (fun _ => .err) fun _ => .ite (fun _ _ => Arr.reshape_wf) fun _ => .ite (fun _ => .err) fun _ =>
      .ite (fun _ => .err) fun _ => .bind' fun _ _ => Arr.new_wf
  exact hall r h

theorem broadcast_ne_panic (a : Arr α) (b : Arr β) (ha : a.WF) (hb : b.WF) : a.broadcast b ≠ .panic :=
  Res.ite_ne_panic (fun _ => nofun) fun _ => Res.ite_ne_panic (fun _ => Arr.reshape_ne_panic _ _) fun _ =>
    Res.bind_ne_panic (broadcastShape_ne_panic _ _) fun fs _ =>
      Res.bind_ne_panic (broadcastTo_ne_panic a ha fs) fun _ _ =>
        Res.bind_ne_panic (broadcastTo_ne_panic b hb fs) fun _ _ => Arr.new_ne_panic _ _

theorem zip_ne_panic (a : Arr α) (b : Arr β) (hb : b.WF) : a.zip b ≠ .panic :=
  Res.bind_ne_panic (broadcastTo_ne_panic b hb _) fun _ _ => Arr.reshape_ne_panic _ _

/-! ## `flip`, `roll`, `rot90` -/

theorem splitFlat_ne_panic (p : Nat) (l : List β) : splitFlat p l ≠ .panic :=
  Res.ite_ne_panic (fun _ => nofun) fun _ => Res.ite_ne_panic (fun _ => nofun) fun _ =>
    Res.ite_ne_panic (fun _ => nofun) fun _ => nofun

/-- the two shapes shared by `flipAxis` and `rollAxis`: cut the flat elements into blocks and rearrange them … -/
theorem splitFlat_ok_ne_panic {γ} (p : Nat) (l : List β) (g : List (List β) → γ) :
    (splitFlat p l >>= fun bs => .ok (g bs)) ≠ .panic :=
  Res.bind_ne_panic (splitFlat_ne_panic _ _) fun _ _ => nofun

/-- … or cut them along the first axis and work on each block -/
theorem blocks_ne_panic (shape : List Nat) (es : List α) (h : 0 < shape.length) (f : List α → Res (List α))
    (hf : ∀ b, f b ≠ .panic) :
    (Res.idx shape 0 >>= fun d0 => splitFlat d0 es >>= fun blocks =>
      Res.mapM' (fun b => if (shape.drop 1).prod = b.length then f b else .err .ShapeMustMatchValuesLength) blocks >>= fun bs =>
      .ok bs.flatten) ≠ .panic := by
  rw [Res.idx_of_lt h, Res.bind_ok]
  exact Res.bind_ne_panic (splitFlat_ne_panic _ _) fun _ _ =>
    Res.bind_ne_panic (Res.mapM'_ne_panic fun b _ => Res.ite_ne_panic (fun _ => hf b) fun _ => nofun) fun _ _ => nofun

theorem flipAxis_ne_panic : ∀ (ax : Nat) (shape : List Nat) (es : List α), ax < shape.length →
    flipAxis ax shape es ≠ .panic
  | 0, shape, es, h => by
    unfold flipAxis
    rw [Res.idx_of_lt h, Res.bind_ok]
    exact splitFlat_ok_ne_panic _ _ _
  | ax + 1, shape, es, h => by
    unfold flipAxis
    exact Res.ite_ne_panic (fun _ => splitFlat_ok_ne_panic _ _ _) fun _ =>
      blocks_ne_panic shape es (Nat.zero_lt_of_lt h) _ fun b =>
        flipAxis_ne_panic ax _ b (by rw [List.length_drop]; omega)

theorem rollAxis_ne_panic : ∀ (ax : Nat) (shape : List Nat) (sh : Int) (es : List α), ax < shape.length →
    rollAxis ax shape sh es ≠ .panic
  | 0, shape, sh, es, h => by
    unfold rollAxis
    rw [Res.idx_of_lt h, Res.bind_ok]
    exact splitFlat_ok_ne_panic _ _ _
  | ax + 1, shape, sh, es, h => by
    unfold rollAxis
    exact Res.ite_ne_panic (fun _ => splitFlat_ok_ne_panic _ _ _) fun _ =>
      blocks_ne_panic shape es (Nat.zero_lt_of_lt h) _ fun b =>
        rollAxis_ne_panic ax _ sh b (by rw [List.length_drop]; omega)

/-- **flip never panics** — every array (well-formed or not), every axes argument -/
theorem flip_ne_panic (a : Arr α) (axes : Option (List Int)) : a.flip axes ≠ .panic := by
  cases axes with
  | none => exact Arr.new_ne_panic _ _
  | some axes =>
    refine Res.ite_ne_panic (fun _ => nofun) fun hany =>
      Res.bind_ne_panic (Res.foldl_bind_ne_panic (fun x hx es => flipAxis_ne_panic x a.shape es ?_) _) fun _ _ => Arr.reshape_ne_panic _ _
    exact Nat.lt_of_not_le fun hge => hany (any_decide ⟨x, hx, hge⟩)

/-- **rot90 never panics** — every array, every rotation count, every axes list -/
theorem rot90_ne_panic (a : Arr α) (zero : α) (k : Nat) (axes : List Int) : a.rot90 zero k axes ≠ .panic := by
  refine Res.ite_ne_panic (fun _ => nofun) fun _ => ?_
  match axes with
  | [] | [_] | _ :: _ :: _ :: _ => exact nofun
  | [a0, a1] =>
    exact Res.ite_ne_panic (fun _ => nofun) fun _ => Res.ite_ne_panic (fun _ => nofun) fun _ =>
      Res.ite_ne_panic (fun _ => Res.bind_ne_panic (flip_ne_panic _ _) fun _ _ => flip_ne_panic _ _) fun _ =>
        Res.ite_ne_panic (fun _ => Res.bind_ne_panic (flip_ne_panic _ _) fun _ _ => C06.transpose_never_panics _ _ _) fun _ =>
          Res.bind_ne_panic (C06.transpose_never_panics _ _ _) fun _ _ => flip_ne_panic _ _

/-- **roll never panics** — every array, every shift list and every axes argument (equally long or not, empty or not,
inside the rank or not, repeated or not) -/
theorem roll_ne_panic (a : Arr α) (shift : List Int) (axes : Option (List Int)) : a.roll shift axes ≠ .panic := by
  refine Res.bind_ne_panic (broadcast_ne_panic _ _ (Arr.flat_wf _) (Arr.flat_wf _)) fun bc _ =>
    Res.ite_ne_panic (fun _ => nofun) fun _ => Res.ite_ne_panic (fun _ => nofun) fun hany => ?_
  cases axes with
  | none => exact Arr.reshape_ne_panic _ _
  | some axs =>
    dsimp only
    split
    · exact nofun
    · exact Arr.reshape_ne_panic _ _
    · refine Res.bind_ne_panic (Res.foldl_bind_ne_panic (fun p hp es => rollAxis_ne_panic p.1 a.shape p.2 es ?_) _) fun _ _ =>
        Arr.new_ne_panic _ _
      exact Nat.lt_of_not_le fun hge => hany (any_decide ⟨p, hp, hge⟩)

end ArrModel.C09
