import Mathlib.Tactic.Ring
import ArrProofs.Lemmas.C11Concat
/-!
C11: the 1-D split as blocks of the element list (`arraySplit_flat1d`, the case `P = Q = []` of `arraySplit_cut`), and the
round trip split → concatenate along any axis of any rank (`concat_split_cut`, `concat_split_empty`).

The statements of Props/C11 about `List.sum` are elaborated with Mathlib's algebraic instances on `Nat`; the import of
`Mathlib.Tactic.Ring` provides them.
-/
namespace ArrModel.C11
open ArrModel Arr
variable {α : Type}

/-- block `i` of a flat list cut by `sizes` -/
def blockOf (L : List α) (sizes : List Nat) (i : Nat) : List α := (L.drop (sizes.take i).sum).take (sizes.getD i 0)

/-- **1-D `array_split`**: the pieces are the consecutive blocks of the element list with the section sizes -/
theorem arraySplit_flat1d (a : Arr α) (zero : α) (parts n : Nat) (hwf : a.WF) (hs : a.shape = [n]) (hn : 0 < n)
    (hp : 0 < parts) :
    a.arraySplit zero parts (some 0) =
      .ok ((List.range parts).map (fun i => Arr.flat (blockOf a.elems (sectionSizes n parts) i))) := by
  have hnz : 0 ∉ a.shape := by rw [hs]; exact fun hm => Nat.ne_of_gt hn (List.mem_singleton.1 hm).symm
  obtain ⟨pieces, h1, h2, h3⟩ := arraySplit_cut a zero parts n [] [] hwf hs hnz hp
  rw [show a.arraySplit zero parts (some 0) = .ok pieces from h1]; congr 1
  have hsl := sectionSizes_length n parts hp
  have hsum := sectionSizes_sum n parts hp
  have hL : a.elems.length = n := by rw [hwf, hs]; simp
  generalize sectionSizes n parts = sizes at *
  apply List.ext_getElem (by rw [List.length_map, List.length_range, h2])
  intro i hi1 _
  obtain ⟨g1, g2, g3⟩ := h3 i hi1
  have hi : i < sizes.length := by rw [hsl, ← h2]; exact hi1
  have hle := offset_add_size_le sizes i hi
  have hgd : sizes.getD i 0 = sizes[i] := by rw [List.getD_eq_getElem?_getD, List.getElem?_eq_getElem hi]; rfl
  have hTl : (blockOf a.elems sizes i).length = sizes.getD i 0 := by
    rw [blockOf, List.length_take, List.length_drop, hL, hgd]
    exact Nat.min_eq_left (Nat.le_sub_of_add_le' (hsum ▸ hle))
  rw [List.getElem_map, List.getElem_range]
  refine Arr.ext_get _ _ g2 (Arr.flat_wf _) (by rw [g1, Arr.flat, hTl]; rfl) fun c hc => ?_
  rw [g1] at hc
  obtain ⟨p, j, q, rfl, hp', hj, hq⟩ := inRange_cut [] [] _ c hc
  have hp0 : p = [] := List.eq_nil_of_length_eq_zero (inRange_length _ _ hp')
  have hq0 : q = [] := List.eq_nil_of_length_eq_zero (inRange_length _ _ hq)
  subst hp0 hq0
  rw [g3 [] [] j rfl rfl hj]
  simp only [Arr.get?, hs, Arr.flat, List.nil_append, ravel, List.prod_nil, Nat.mul_one, Nat.add_zero, blockOf]
  rw [List.getElem?_take_of_lt hj, List.getElem?_drop]

theorem blocks_flatten (L : List α) (sizes : List Nat) (h : sizes.sum = L.length) :
    (List.range sizes.length).flatMap (blockOf L sizes) = L := by
  have := flatMap_blocks L sizes sizes.length (Nat.le_refl _)
  rw [List.take_length, h, List.take_length] at this
  exact this

/-! ### the round trip along an axis -/

theorem concat_split_cut (a : Arr α) (zero : α) (parts n : Nat) (P Q : List Nat) (hwf : a.WF) (hs : a.shape = P ++ n :: Q)
    (hnz : 0 ∉ a.shape) (hp : 0 < parts) :
    (a.arraySplit zero parts (some P.length) >>= fun ps => concatenate ps zero (some P.length)) = .ok a := by
  obtain ⟨pieces, h1, h2, h3⟩ := arraySplit_cut a zero parts n P Q hwf hs hnz hp
  rw [h1, Res.bind_ok]
  have hsl := sectionSizes_length n parts hp
  have hsum := sectionSizes_sum n parts hp
  generalize sectionSizes n parts = sizes at *
  have hax : ∀ i (hi : i < pieces.length), axLen P.length pieces[i] = sizes.getD i 0 :=
    fun i hi => axLen_cut _ P Q _ (h3 i hi).1
  have hmap : pieces.map (axLen P.length) = sizes := by
    apply List.ext_getElem (by rw [List.length_map, h2, hsl])
    intro i hi1 hi2
    simp only [List.length_map] at hi1
    simp only [List.getElem_map, hax i hi1, List.getD_eq_getElem?_getD, List.getElem?_eq_getElem hi2, Option.getD_some]
  cases pieces with
  | nil => exact absurd h2.symm (Nat.ne_of_gt hp)
  | cons p0 prest =>
    have hcut : ∀ b ∈ p0 :: prest, b.WF ∧ b.shape = P ++ axLen P.length b :: Q := by
      intro b hb
      obtain ⟨i, hi, rfl⟩ := List.getElem_of_mem hb
      obtain ⟨g1, g2, _⟩ := h3 i hi
      exact ⟨g2, by rw [hax i hi]; exact g1⟩
    obtain ⟨r, c1, c2, c3, c4⟩ := concatenate_cut zero P Q p0 prest hcut
    rw [c1]; congr 1
    apply Arr.ext_get r a c3 hwf (by rw [c2, hmap, hsum, hs])
    intro c hc
    rw [c2] at hc
    -- a position on the axis lies in one piece, and that piece holds the input's block at the same offset
    obtain ⟨p, j, q, rfl, hp', hj, hq⟩ := inRange_cut _ _ _ _ hc
    obtain ⟨i, d, hi, hd, rfl⟩ := coord_in_block P.length _ j hj
    rw [c4 i hi p q d hp' hq hd, (h3 i hi).2.2 p q d hp' hq (hax i hi ▸ hd), offsetOf, List.map_take, hmap]

theorem concat_split_empty (a : Arr α) (zero : α) (parts k : Nat) (he : a.isEmpty = true) (hp : 0 < parts) (hk : k < a.ndim) :
    (a.arraySplit zero parts (some k) >>= fun ps => concatenate ps zero (some k)) = .ok a := by
  rw [arraySplit_empty a zero parts k he, if_neg (Nat.ne_of_gt hp), if_neg (Nat.not_le.2 hk), Res.bind_ok]
  exact concatenate_singleton a zero k hk

end ArrModel.C11
