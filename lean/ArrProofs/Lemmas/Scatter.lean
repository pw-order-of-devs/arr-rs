import ArrModel.Axis
/-! scatter through an injective in-range index map = gather -/
namespace ArrModel
variable {α : Type}

theorem scatter_succ (g : Nat → Nat) (v : Nat → α) (init : List α) (n : Nat) :
    scatter g v init (n+1) = (scatter g v init n).set (g n) (v n) := by
  unfold scatter
  rw [List.range_succ, List.foldl_append]
  rfl

theorem scatter_length (g : Nat → Nat) (v : Nat → α) (init : List α) (n : Nat) :
    (scatter g v init n).length = init.length := by
  induction n with
  | zero => rfl
  | succ n ih => rw [scatter_succ, List.length_set, ih]

/-- every slot written exactly once: reading slot `g i` gives `v i` -/
theorem scatter_getElem? (g : Nat → Nat) (v : Nat → α) (init : List α) (n : Nat)
    (hinj : ∀ i j, i < n → j < n → g i = g j → i = j)
    (hlt : ∀ i, i < n → g i < init.length)
    (i : Nat) (hi : i < n) :
    (scatter g v init n)[g i]? = some (v i) := by
  induction n with
  | zero => exact absurd hi (Nat.not_lt_zero i)
  | succ n ih =>
    rw [scatter_succ, List.getElem?_set]
    by_cases h : i = n
    · subst h
      rw [if_pos rfl, if_pos (by rw [scatter_length]; exact hlt i hi)]
    · have hne : g n ≠ g i := fun e => h (hinj i n hi (Nat.lt_succ_self n) e.symm)
      rw [if_neg hne]
      exact ih (fun a b ha hb => hinj a b (Nat.lt_succ_of_lt ha) (Nat.lt_succ_of_lt hb))
        (fun a ha => hlt a (Nat.lt_succ_of_lt ha)) (Nat.lt_of_le_of_ne (Nat.le_of_lt_succ hi) h)

theorem scatter_get (g : Nat → Nat) (v : Nat → α) (init : List α) (n : Nat)
    (hinj : ∀ i j, i < n → j < n → g i = g j → i = j)
    (hlt : ∀ i, i < n → g i < init.length)
    (i : Nat) (hi : i < n) :
    (scatter g v init n)[g i]'(by rw [scatter_length]; exact hlt i hi) = v i :=
  Option.some.inj ((List.getElem?_eq_getElem _).symm.trans (scatter_getElem? g v init n hinj hlt i hi))

end ArrModel
