import ArrProofs.Lemmas.C18Nest
/-!
# Lemmas for C18 — `array_parse_shape!` and the generic arm of `array!` on the text of a regular nested literal

`parseShape_frame`: for a `Valid` literal of shape `s`, the per-depth replace / count / truncate loop, run on the tight
text between `a` opening and `b` closing brackets, returns exactly `s` (induction on the depth; no bound on rank or
lengths).  `arrayGeneric_frame`: the generic arm on the Debug text returns the shape and the leaves.
-/
namespace ArrModel.C18

/-! ### counting through the `"]#["` detour of `array_parse_shape!` -/

theorem replaceAux_head_ne_hash (p : Str) (X : Str) (hX : '#' ∉ X) :
    (replaceAux p hashSep 0 X).head? ≠ some '#' := by
  cases X with
  | nil => simp [replaceAux]
  | cons c X =>
    simp only [replaceAux]
    split
    · simp [hashSep]
    · simp at hX ⊢; exact fun h => hX.1 h.symm

theorem occ_hash_replaceAux (p : Str) (X : Str) (hX : '#' ∉ X) (k : Nat) :
    occ hashSep (replaceAux p hashSep k X) = occAux p k X := by
  induction X generalizing k with
  | nil => cases k <;> simp [replaceAux, occAux]
  | cons c X ih =>
    have hX' : '#' ∉ X := fun h => hX (by simp [h])
    cases k with
    | succ k => simpa [replaceAux, occAux] using ih hX' k
    | zero =>
      simp only [replaceAux, occAux]
      split
      · rw [occ_append_pat _ (by simp [hashSep]), ih hX']
      · have hne := replaceAux_head_ne_hash p X hX'
        have : hashSep.isPrefixOf (c :: replaceAux p hashSep 0 X) = false := by
          cases hr : replaceAux p hashSep 0 X with
          | nil => simp [hashSep, List.isPrefixOf_cons_cons, List.isPrefixOf]
          | cons d r =>
            rw [hr] at hne
            have : ('#' == d) = false := by simpa using fun h => hne (by simp [← h])
            simp [hashSep, List.isPrefixOf_cons_cons, this]
        rw [occ_cons_of_not_prefix this, ih hX']

theorem splitCount_hash (p : Str) (X : Str) (hX : '#' ∉ X) :
    splitCount hashSep (replace p hashSep X) = occ p X + 1 := by
  rw [splitCount_eq, replace, occ_hash_replaceAux p X hX 0]; rfl

/-! ### one iteration of `array_parse_shape!` -/

theorem sepPat_ne_nil (i : Nat) : sepPat i ≠ [] := by simp [sepPat]

theorem sepG_eq_sepPat (z : Str) (j : Nat) : sepG z [] j = sepPat j ++ (if j = 0 then z else []) := by
  unfold sepG sepPat
  split <;> simp_all

/-- a pattern that begins with `i + 1` closing brackets does not begin inside the middle text of a nest of depth at most
`i + 1` -/
theorem noStart_run_mid (z : Str) (hz : ∀ c ∈ z, c = ' ') {s : List Nat} {es : List Str} (h : Valid s es) (i : Nat)
    (hsi : s.length ≤ i + 1) (q : Str) : NoStart (rep ']' (i + 1) ++ q) (mid (sepG z []) s es) := by
  have hhead : ∀ A : Str, ']' ∉ A → NoStart (rep ']' (i + 1) ++ q) A := fun A hA =>
    noStart_of_head_not_mem (c := ']') (p := rep ']' i ++ q) hA
  refine mid_all (fun _ _ => NoStart.append) _ s es h.pos h.len (fun j hj => ?_)
    (fun e he => hhead e ((h.plain e he).not_mem (by decide)))
  refine noStart_of_ctx (fun Z => noStartCtx_rep (by decide) j (i + 1) (by omega) q _) (hhead _ ?_)
  have : ∀ c ∈ (if j = 0 then z else []), c = ' ' := by
    split
    · exact hz
    · simp
  simp only [List.mem_cons, List.mem_append, not_or]
  exact ⟨by decide, fun hm => absurd (this _ hm) (by decide), not_mem_rep (by decide) j⟩

theorem hash_not_mem_frame (z : Str) (hz : ∀ c ∈ z, c = ' ') {s : List Nat} {es : List Str} (h : Valid s es)
    (a b : Nat) : '#' ∉ frame a b (sepG z []) s es :=
  not_mem_frame h.pos h.len (by decide) (by decide)
    (not_mem_sepG (by decide) (by decide) (by decide) (fun hm => absurd (hz _ hm) (by decide)) (by simp))
    (fun e he => (h.plain e he).not_mem (by decide))

theorem noStart_sepPat_open (i a : Nat) : NoStart (sepPat i) (rep '[' a) := by
  cases i with
  | zero => exact noStart_of_head_not_mem (c := ',') (p := []) (not_mem_rep (by decide) a)
  | succ i =>
    show NoStart (']' :: (rep ']' i ++ ',' :: rep '[' (i + 1))) _
    exact noStart_of_head_not_mem (not_mem_rep (by decide) a)

theorem occ_sepPat_mid (z : Str) (hz : ∀ c ∈ z, c = ' ') {s : List Nat} {es : List Str} (h : Valid s es) (Z : Str) :
    occ (sepPat s.length) (mid (sepG z []) s es ++ Z) = occ (sepPat s.length) Z := by
  apply occ_noStart
  cases s with
  | nil =>
    obtain ⟨e, rfl, he⟩ := h.single
    exact he.noStart [] (by decide)
  | cons n s => exact noStart_run_mid z hz h _ (by simp) _

theorem occ_sepPat_sepG (z : Str) (hz : ∀ c ∈ z, c = ' ') (i : Nat) (W : Str) :
    occ (sepPat i) (sepG z [] i ++ W) = occ (sepPat i) W + 1 := by
  rw [sepG_eq_sepPat, List.append_assoc, occ_append_pat _ (sepPat_ne_nil i)]
  split
  · subst i
    have hns : NoStart (sepPat 0) z :=
      noStart_of_head_not_mem (c := ',') (p := []) (fun hm => absurd (hz _ hm) (by decide))
    rw [occ_noStart W hns]
  · rfl

theorem count_level (z : Str) (hz : ∀ c ∈ z, c = ' ') {n : Nat} {s : List Nat} {es : List Str}
    (h : Valid (n :: s) es) (a b : Nat) :
    splitCount hashSep (replace (sepPat s.length) hashSep (frame a b (sepG z []) (n :: s) es)) = n := by
  have hn : 1 ≤ n := h.pos n (by simp)
  rw [splitCount_hash _ _ (hash_not_mem_frame z hz h a b), frame, List.append_assoc,
    occ_noStart _ (noStart_sepPat_open _ a), mid_cons,
    joinWith_count (occ (sepPat s.length)) (mid (sepG z []) s) (sepG z [] s.length) _
      (fun c hc Z => occ_sepPat_mid z hz (h.chunk hc) Z) (occ_sepPat_sepG z hz s.length),
    occ_eq_zero (c := ',') (by simp [sepPat]) (not_mem_rep (by decide) b)]
  simp; omega

/-- the text begins with the frame of its first block, which is what `parseShapeLoop` cuts off (after the first run of
`s.length` closing brackets) for the next depth -/
theorem split_level (z : Str) {n : Nat} {s : List Nat} {es : List Str} (a b : Nat) (hb : s.length ≤ b) :
    ∃ T, frame a b (sepG z []) ((n + 1) :: s) es = frame a s.length (sepG z []) s (es.take s.prod) ++ T := by
  unfold frame
  rw [mid_cons, chunks, List.map_cons]
  cases (chunks s.prod n (es.drop s.prod)).map (mid (sepG z []) s) with
  | nil =>
    refine ⟨rep ']' (b - s.length), ?_⟩
    rw [joinWith_single, List.append_assoc _ (rep ']' _), ← rep_add, Nat.add_sub_cancel' hb]
  | cons y ys =>
    refine ⟨',' :: ((if s.length = 0 then z else []) ++ rep '[' s.length)
      ++ joinWith (sepG z [] s.length) (y :: ys) ++ rep ']' b, ?_⟩
    rw [joinWith_cons_cons, sepG]
    simp only [List.append_assoc]

/-- **`array_parse_shape!`** on the tight text of a valid literal between `a` opening and `b ≥ rank - 1` closing
brackets; `z` is what stands after the comma between two leaves (blanks at most) -/
theorem parseShape_frame (z : Str) (hz : ∀ c ∈ z, c = ' ') {s : List Nat} {es : List Str} (h : Valid s es) (a b : Nat)
    (hb : s.length ≤ b + 1) : parseShapeLoop s.length (frame a b (sepG z []) s es) = .ok s := by
  induction s generalizing es a b with
  | nil => rfl
  | cons n s ih =>
    have hcount := count_level z hz h a b
    simp only [List.length_cons, parseShapeLoop, hcount]
    by_cases hi : s.length = 0
    · obtain rfl : s = [] := List.eq_nil_of_length_eq_zero hi
      rw [show rep ']' ([] : List Nat).length = [] from rfl, find_of_prefix (by simp)]
      simp [sliceTo, parseShapeLoop]
    · obtain ⟨m, rfl⟩ : ∃ m, n = m + 1 := ⟨n - 1, by have := h.pos n (by simp); omega⟩
      obtain ⟨i, hi⟩ : ∃ i, s.length = i + 1 := ⟨s.length - 1, by omega⟩
      have hv : Valid s (es.take s.prod) := h.chunk (by simp [chunks])
      obtain ⟨T, hT⟩ := split_level z (n := m) (es := es) a b (by simpa using hb)
      have hns : NoStart (rep ']' s.length) (rep '[' a ++ mid (sepG z []) s (es.take s.prod)) := by
        have h1 : NoStart (rep ']' (i + 1) ++ []) (rep '[' a) := by
          show NoStart (']' :: (rep ']' i ++ [])) _
          exact noStart_of_head_not_mem (not_mem_rep (by decide) a)
        have := h1.append (noStart_run_mid z hz hv i (by omega) [])
        simpa [hi] using this
      have hfr : frame a s.length (sepG z []) s (es.take s.prod)
          = (rep '[' a ++ mid (sepG z []) s (es.take s.prod)) ++ rep ']' s.length := rfl
      have hsl := sliceTo_append (rep '[' a ++ mid (sepG z []) s (es.take s.prod)) (rep ']' s.length) T
      rw [List.length_replicate] at hsl
      rw [hT, hfr, List.append_assoc, find_noStart_pat _ hns]
      simp only [hsl, ← hfr, ih hv a s.length (by omega)]

/-! ### the element texts of the generic arm -/

/-- separators once the brackets are gone -/
def sepF : Nat → Str
  | 0 => [',', ' ']
  | _ + 1 => [',']

def unbr (A : Str) : Str := remove ']' (remove '[' A)

theorem unbr_append (A B : Str) : unbr (A ++ B) = unbr A ++ unbr B := by
  simp [unbr, remove_append]

theorem unbr_of_not_mem {A : Str} (h1 : '[' ∉ A) (h2 : ']' ∉ A) : unbr A = A := by
  rw [unbr, remove_of_not_mem h1, remove_of_not_mem h2]

theorem unbr_rep_open (n : Nat) : unbr (rep '[' n) = [] := by
  rw [unbr, remove_rep_self]; rfl

theorem unbr_rep_close (n : Nat) : unbr (rep ']' n) = [] := by
  rw [unbr, remove_of_not_mem (not_mem_rep (by decide) n), remove_rep_self]

theorem unbr_sepG (j : Nat) : unbr (sepG [' '] [] j) = sepF j := by
  cases j with
  | zero => decide
  | succ j =>
    rw [sepG_succ, List.nil_append, unbr_append, unbr_rep_close,
      show ',' :: rep '[' (j + 1) = [','] ++ rep '[' (j + 1) from rfl, unbr_append, unbr_rep_open]
    rfl

theorem unbr_frame {s : List Nat} {es : List Str} (h : Valid s es) (a b : Nat) :
    unbr (frame a b (sepG [' '] []) s es) = mid sepF s es := by
  have := mid_rel (R := fun (_ _ : Unit) X X' _ => unbr X = X')
    ⟨fun ha hb => by rw [unbr_append, ha, hb]⟩ (p := ()) (q := ()) (sepG [' '] []) sepF id id id s es h.pos h.len
    (fun j _ => unbr_sepG j)
    (fun e he => unbr_of_not_mem ((h.plain e he).not_mem (by decide)) ((h.plain e he).not_mem (by decide)))
  simp only [List.map_id] at this
  rw [frame, unbr_append, unbr_append, unbr_rep_open, unbr_rep_close, this]
  simp

/-- what follows does not begin with a blank -/
def NoBlank (Z : Str) : Prop := Z.head? ≠ some ' '

/-- `", " → ","` once the brackets are gone: the leaves joined by commas -/
theorem replace_commaSp_mid {s : List Nat} {es : List Str} (h : Valid s es) :
    replace [',', ' '] [','] (mid sepF s es) = joinWith [','] es := by
  have := mid_rel (pass_segRel (replace [',', ' '] [','])) (p := NoBlank) (q := NoBlank) sepF (fun _ => [',']) id id id
    s es h.pos h.len (fun j _ Z hZ => ?_) (fun e he Z _ => ?_)
  · simp only [List.map_id] at this
    rw [this.whole (by simp [NoBlank]) (replace_nil _ _), mid_const _ s es h.pos h.len]
  · cases j with
    | zero => exact ⟨by simp [NoBlank, sepF], replace_append_pat _ (by simp)⟩
    | succ j =>
      refine ⟨by simp [NoBlank, sepF], replace_cons_of_not_prefix ?_⟩
      cases Z with
      | nil => rfl
      | cons c Z =>
        have : c ≠ ' ' := by simpa [NoBlank] using hZ
        simp [List.isPrefixOf_cons_cons, Ne.symm this]
  · have he := h.plain e he
    refine ⟨?_, replace_noStart Z (he.noStart _ (by decide))⟩
    cases e with
    | nil => exact absurd rfl he.ne
    | cons c e => simpa [NoBlank] using he.lead

theorem splitTerminator_joinWith (es : List Str) (hne : es ≠ []) (h : ∀ e ∈ es, ',' ∉ e ∧ e ≠ []) :
    splitTerminator ',' (joinWith [','] es) = es := by
  unfold splitTerminator
  rw [splitChar_joinWith es hne (fun e he => (h e he).1)]
  have : es.getLast? ≠ some [] := by
    intro hl
    have := List.mem_of_getLast? hl
    exact (h [] this).2 rfl
  simp [this]

/-! ### the generic arm -/

/-- the generic arm on the bracketed text of a valid literal: `a` opening brackets where `a - 1` is the rank
(`vec![lit,]`), or the one-level text `[e₁, e₂, …]` of the multi-argument form -/
theorem arrayGeneric_frame {s : List Nat} {es : List Str} (h : Valid s es) (a : Nat)
    (ha : (a = s.length + 1 ∧ 1 ≤ s.length) ∨ (a = 1 ∧ s.length = 1)) :
    arrayGeneric (frame a a sepL s es) = .ok (s, es) := by
  have h1 : replace quoteSepL quoteSepT (frame a a sepL s es) = frame a a sepL s es :=
    replace_of_not_mem (c := '"') (by decide) (not_mem_frame h.pos h.len (by decide) (by decide)
      (not_mem_sepG (by decide) (by decide) (by decide) (by decide) (by decide))
      (fun e he => (h.plain e he).not_mem (by decide)))
  have h2 : replace brSepL brSepT (frame a a sepL s es) = frame a a (sepG [' '] []) s es :=
    replace_br_frame [' '] (by decide) a a s es h.pos h.len (fun e he => (h.plain e he).noStart _ (by decide))
  have hnd : ndimOf 1 (frame a a (sepG [' '] []) s es) = .ok s.length := by
    refine ndimOf_frame (k := 0) h.pos h.len (fun e he T => ?_) (by omega) (by omega)
    have hp := h.plain e (List.mem_of_head? he)
    cases e with
    | nil => exact absurd rfl hp.ne
    | cons c e => exact findP_cons_ne (fun hc => by have := hp.chars c (by simp); simp [hc, special] at this) _
  have hsh : parseShape s.length (frame a a (sepG [' '] []) s es) = .ok s :=
    parseShape_frame [' '] (by simp) h a a (by omega)
  have hes : es ≠ [] := by
    intro e; have := h.len; have := prod_pos_of _ h.pos; rw [e] at *; simp at *; omega
  have hel : splitTerminator ',' (remove '"' (replace [',', ' '] [','] (remove ']' (remove '['
      (frame a a (sepG [' '] []) s es))))) = es := by
    have hnq : '"' ∉ joinWith [','] es := by
      intro hm
      rcases mem_joinWith hm with hm | ⟨e, he, hce⟩
      · simp at hm
      · exact (h.plain e he).not_mem (by decide) hce
    rw [← unbr, unbr_frame h, replace_commaSp_mid h, remove_of_not_mem hnq]
    exact splitTerminator_joinWith es hes (fun e he => ⟨(h.plain e he).not_mem (by decide), (h.plain e he).ne⟩)
  unfold arrayGeneric
  simp only [h1, h2, hnd, hsh, hel]

end ArrModel.C18
