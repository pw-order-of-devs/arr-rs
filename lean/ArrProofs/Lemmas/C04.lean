import ArrModel.C04
import ArrProofs.Lemmas.C03
/-!
helper lemmas for C04: `map1` on well-formed arrays (`mapped` is in `Lemmas/C03`),
symmetry of `isBroadcastable` and `broadcastShape`, and the list fact behind commutativity.
-/
namespace ArrModel.C04
open ArrModel Arr

variable {α β γ δ : Type}

/-- `Array::map` succeeds on a well-formed array and is `mapped` -/
theorem map1_ok (g : α → β) (z : Arr α) (hz : z.WF) : map1 g z = .ok (mapped g z) :=
  new_map_ok g z hz

theorem map_zip_comm (f : α → α → γ) (hf : ∀ x y, f x y = f y x) :
    ∀ (l1 l2 : List α), (l1.zip l2).map (fun t => f t.1 t.2) = (l2.zip l1).map (fun t => f t.1 t.2) :=
  fun _ _ => List.map_zip_eq_zipWith.trans
    ((List.zipWith_comm_of_comm (f := Function.curry fun t => f t.1 t.2) hf).trans List.map_zip_eq_zipWith.symm)

theorem isBroadcastable_symm (s t : List Nat) (h : isBroadcastable s t = true) : isBroadcastable t s = true :=
  (isBroadcastable_iff_compat t s).2 fun k h1 h2 => by
    have := (isBroadcastable_iff_compat s t).1 h k h2 h1
    omega

theorem isBroadcastable_comm (s t : List Nat) : isBroadcastable s t = isBroadcastable t s :=
  Bool.eq_iff_iff.2 ⟨isBroadcastable_symm s t, isBroadcastable_symm t s⟩

theorem broadcastShape_comm_ok (s t r : List Nat) (h : broadcastShape s t = .ok r) : broadcastShape t s = .ok r := by
  have hl := ((broadcastShape_ok_iff s t r).1 h).1
  refine (broadcastShape_ok_iff t s r).2 ⟨by omega, fun k _ => ?_⟩
  have := broadcastShape_axis s t r h k
  constructor
  · omega
  · split <;> omega

theorem broadcastShape_comm (s t : List Nat) : broadcastShape s t = broadcastShape t s := by
  rcases broadcastShape_ok_or_err s t with ⟨r, h⟩ | h
  · rw [h, broadcastShape_comm_ok s t r h]
  · rcases broadcastShape_ok_or_err t s with ⟨r, h'⟩ | h'
    · rw [broadcastShape_comm_ok t s r h'] at h; cases h
    · rw [h, h']

theorem broadcastShape_of_stretchable (s t : List Nat) (h : stretchable s t = true) : broadcastShape t s = .ok t := by
  obtain ⟨hle, hk⟩ := (stretchable_iff_fromEnd s t).1 h
  refine (broadcastShape_ok_iff t s t).2 ⟨by omega, fun k _ => ?_⟩
  by_cases hks : k < s.length
  · have := hk k hks
    exact ⟨by omega, by split <;> omega⟩
  · have := fromEnd_of_le s k (by omega)
    exact ⟨by omega, by split <;> omega⟩

theorem not_mem_zero_of_stretchable (s t : List Nat) (h : stretchable s t = true) (hl : s.length = t.length) : 0 ∉ t := by
  rw [zero_not_mem_iff_fromEnd]
  intro k
  by_cases hk : k < s.length
  · exact (((stretchable_iff_fromEnd s t).1 h).2 k hk).2.2
  · rw [fromEnd_of_le t k (by omega)]; exact Nat.one_ne_zero

end ArrModel.C04
