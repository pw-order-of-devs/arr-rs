import ArrModel.C01
import ArrProofs.Lemmas.C01Ops
import ArrProofs.Lemmas.C01Num
/-!
# Lemmas.C01Machine — store-level plumbing for the C01 machine

Reading an entry of a well-formed store gives well-formed arrays; the wrappers `with1/2/3`, `withL`, `ofRes*` carry
well-formedness; the element-type bridges, the 1-D bodies, the lane functions, the pattern and operator tables are
well-formedness preserving.
-/
namespace ArrModel.C01
open ArrModel Res

theorem getA_wf {s : Store} (hs : StoreWF s) {i : Nat} {a : A} (h : getA s i = some a) : a.WF := by
  unfold getA at h
  split at h
  · rename_i a' hget
    cases h
    exact hs (.arr a) (List.mem_of_getElem? hget)
  · cases h

theorem getL_wf {s : Store} (hs : StoreWF s) {i : Nat} {l : List A} (h : getL s i = some l) : AllWF l := by
  unfold getL at h
  split at h
  · rename_i l' hget
    cases h
    exact hs (.list l) (List.mem_of_getElem? hget)
  · cases h

theorem getAs_wf {s : Store} (hs : StoreWF s) : ∀ {is : List Nat} {l : List A}, getAs s is = some l → AllWF l
  | [], l, h => by simp [getAs] at h; subst h; intro a ha; cases ha
  | i :: is, l, h => by
    unfold getAs at h
    split at h
    · rename_i a as ha has
      cases h
      intro x hx
      rcases List.mem_cons.mp hx with rfl | hx
      · exact getA_wf hs ha
      · exact getAs_wf hs has x hx
    · cases h

theorem getRefs_wf {s : Store} (hs : StoreWF s) {r : Refs} {l : List A} (h : getRefs s r = some l) : AllWF l := by
  cases r with
  | idxs is => exact getAs_wf hs h
  | lst i => exact getL_wf hs h

theorem evalMember_wf {s : Store} (hs : StoreWF s) (l j : Nat) : ValWF (evalMember s l j) := by
  unfold evalMember
  split
  · rename_i l' hl
    split
    · rename_i a ha
      exact getL_wf hs hl a (List.mem_of_getElem? ha)
    · trivial
  · trivial

theorem ofRes_wf {x : Res A} (h : All Arr.WF x) : ValWF (ofRes x) := by
  cases x with
  | ok a => exact h a rfl
  | err e => trivial
  | panic => trivial

theorem ofResL_wf {x : Res (List A)} (h : All AllWF x) : ValWF (ofResL x) := by
  cases x with
  | ok l => exact h l rfl
  | err e => trivial
  | panic => trivial

theorem ofRes_map_wf {β : Type} {x : Res (Arr β)} {g : Arr β → A} (hg : ∀ b, b.WF → (g b).WF) (h : All Arr.WF x) :
    ValWF (ofRes (x.map g)) :=
  ofRes_wf (All.map (h.imp hg))

theorem with1_wf {s : Store} (hs : StoreWF s) {i : Nat} {f : A → Val} (hf : ∀ a, a.WF → ValWF (f a)) :
    ValWF (with1 s i f) := by
  unfold with1
  split
  · rename_i a ha; exact hf a (getA_wf hs ha)
  · trivial

theorem with2_wf {s : Store} (hs : StoreWF s) {i j : Nat} {f : A → A → Val}
    (hf : ∀ a b, a.WF → b.WF → ValWF (f a b)) : ValWF (with2 s i j f) := by
  unfold with2
  split
  · rename_i a b ha hb; exact hf a b (getA_wf hs ha) (getA_wf hs hb)
  · trivial

theorem with3_wf {s : Store} (hs : StoreWF s) {i j k : Nat} {f : A → A → A → Val}
    (hf : ∀ a b c, a.WF → b.WF → c.WF → ValWF (f a b c)) : ValWF (with3 s i j k f) := by
  unfold with3
  split
  · rename_i a b c ha hb hc; exact hf a b c (getA_wf hs ha) (getA_wf hs hb) (getA_wf hs hc)
  · trivial

theorem withL_wf {s : Store} (hs : StoreWF s) {r : Refs} {f : List A → Val}
    (hf : ∀ l, AllWF l → ValWF (f l)) : ValWF (withL s r f) := by
  unfold withL
  split
  · rename_i l hl; exact hf l (getRefs_wf hs hl)
  · trivial

/-! ### bridges -/
theorem toNatArr_wf {a : A} (h : a.WF) : (toNatArr a).WF := (List.length_map _).trans h
theorem ofNatArr_wf (a : Arr Nat) (h : a.WF) : (ofNatArr a).WF := (List.length_map _).trans h
theorem ofRatArr_wf (a : Arr Rat) (h : a.WF) : (ofRatArr a).WF := (List.length_map _).trans h
theorem fstArr_wf (a : Arr (Int × Int)) (h : a.WF) : (fstArr a).WF := (List.length_map _).trans h

theorem tagArr_wf (shape : List Nat) : All Arr.WF (tagArr shape) := fun _ => Arr.new_wf

/-! ### bodies, lane functions, tables -/
theorem foldBody_wf (x : A) : All Arr.WF (foldBody x) := All.ok (single_wf _)

theorem extremeBody_wf (x : A) : All Arr.WF (extremeBody x) := by
  unfold extremeBody
  split
  · exact All.panic
  · exact All.ok (single_wf _)

theorem countBody_wf (x : A) (k : Option Bool) : All Arr.WF (countBody x k) := keepdimsTail_wf _ k _ (single_wf _)

theorem scanBody_wf (x : A) : All Arr.WF (scanBody x) := c04_map1_wf id x.ravel

theorem laneFn_wf (f : LaneFn) (x y : A) (hx : x.WF) (h : f.run x = .ok y) : y.WF := by
  cases f with
  | ident => exact All.ok hx y h
  | rev => exact flip_wf x none y h
  | take k => exact All.ok (cycleTakeArr_wf x k) y h

theorem binPat_wf (p : BinPat) (a b : A) : All Arr.WF (p.run a b) := by
  cases p
  · exact c04_zipWithB_wf _ a b
  · exact c04_divideLike_wf _ _ a b
  · exact c04_floorDivideLike_wf _ _ _ a b
  · exact c04_bitwiseLike_wf _ a b
  · exact c04_zipWithR_wf _ a b
  · exact c04_zipWithRA_wf _ _ _ a b

/-- the operator overloads, **including the struct-literal bypasses** (`bitop`, `bitScalar`, the `*Assign` forms):
both operands well-formed (and, for `bitop`, the shape equality the code asserts — it is the `ok` branch) give a
well-formed result. -/
theorem opKind_wf (k : OpKind) (a b : A) (ha : a.WF) (hb : b.WF) : All Arr.WF (k.run a b) := by
  cases k
  · exact c20_binop_wf _ a b
  · exact c20_scalarop_wf _ a _
  · exact c20_assignop_wf _ a b ha
  · exact c20_assignScalar_wf _ a _ ha
  · exact c20_unop_wf _ a
  · exact c20_bitop_wf _ a b ha hb
  · exact c20_bitScalar_wf _ a _ ha
  · exact c20_bitAssign_wf _ a b ha
  · exact c20_bitAssignScalar_wf _ a _ ha

theorem roundLike_wf (a d : A) : All Arr.WF (roundLike a d) := All.bind' fun _ _ => Arr.new_wf

theorem ext_wf (e : Ext) : ValWF e.run := by
  cases e with
  | arr shape => exact ofRes_wf (tagArr_wf shape)
  | list shapes => exact ofResL_wf (All.mapM' fun sh _ => tagArr_wf sh)
  | none => trivial

end ArrModel.C01
