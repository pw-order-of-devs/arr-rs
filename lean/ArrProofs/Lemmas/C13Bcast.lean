import ArrProofs.Lemmas.C13List
/-!
# C13: a vector broadcast to a shape (`broadcast_to`, `broadcast`, `broadcast_h2`), flat `insert`, flat `repeat`

From `dimClash_iff` to `broadcastTo_vec_ne_panic` the file is about broadcasting as such, not about C13: the test
`dimClash` on two axis lengths and what `max` / `bdim` give on lengths that pass it, and the two equations
`broadcastTo_vec` (the whole case analysis of `broadcast_to` for a 1-D source and a target `P ++ [L]`) and
`broadcastTo_vec_nil` (rank-0 target).  The rest reads off them what C13 needs, in terms of `bc1`, the vector stretched
to a length: `broadcast` and `broadcast_h2` of two vectors, the arms of flat `insert` (`Arr.insertFlat_*`) and of flat
`repeat` (`repeatFlat_*`).
-/
namespace ArrModel
open Arr
variable {α β : Type}

/-- a vector stretched to length `n`: itself when it has `n` entries, its single entry `n` times when it has one -/
def bc1 (L : List β) (n : Nat) : List β := if L.length = n then L else L.flatMap (fun x => List.replicate n x)

theorem bc1_same (L : List β) : bc1 L L.length = L := by simp [bc1]

theorem bc1_single (x : β) (n : Nat) : bc1 [x] n = List.replicate n x := by
  unfold bc1
  split
  · rename_i h; simp at h; subst h; rfl
  · simp

theorem bc1_length (L : List β) (n : Nat) (h : L.length = n ∨ L.length = 1) : (bc1 L n).length = n := by
  rcases h with h | h
  · simp [bc1, h]
  · obtain ⟨x, rfl⟩ := List.length_eq_one_iff.1 h
    rw [bc1_single]; simp

theorem mem_bc1 (L : List β) (n : Nat) (x : β) (h : x ∈ bc1 L n) : x ∈ L := by
  unfold bc1 at h
  split at h
  · exact h
  · obtain ⟨y, hy, hx⟩ := List.mem_flatMap.1 h
    rw [(List.mem_replicate.1 hx).2]; exact hy

/-- entry `i` of the stretched vector is the entry the gather of `broadcast_to` reads: `0` on a unit source axis -/
theorem bc1_getElem? (L : List β) (n i : Nat) (h : L.length = n ∨ L.length = 1) (hi : i < n) :
    (if L.length = 1 then 0 else i) < L.length ∧ (bc1 L n)[i]? = L[if L.length = 1 then 0 else i]? := by
  by_cases h1 : L.length = 1
  · obtain ⟨x, rfl⟩ := List.length_eq_one_iff.1 h1
    rw [bc1_single, if_pos h1, List.getElem?_replicate, if_pos hi]
    exact ⟨Nat.one_pos, rfl⟩
  · have hn : L.length = n := h.resolve_right h1
    rw [if_neg h1, show bc1 L n = L from if_pos hn, hn]
    exact ⟨hi, rfl⟩

/-! ### compatible axis lengths, `broadcast_to` with a 1-D source -/

theorem dimClash_iff (k m : Nat) : dimClash k m = true ↔ k = 0 ∨ m = 0 ∨ (k ≠ m ∧ k ≠ 1 ∧ m ≠ 1) := by
  unfold dimClash
  simp only [Bool.or_eq_true, Bool.and_eq_true, bne_iff_ne, beq_iff_eq]
  -- the same disjuncts, grouped and ordered differently
  rw [and_assoc, or_assoc, or_comm, or_assoc]

theorem not_dimClash_iff (k m : Nat) : ¬ dimClash k m = true ↔ 0 < k ∧ 0 < m ∧ (k = m ∨ k = 1 ∨ m = 1) := by
  rw [dimClash_iff]
  constructor
  · intro h
    refine ⟨Nat.pos_of_ne_zero fun e => h (.inl e), Nat.pos_of_ne_zero fun e => h (.inr (.inl e)), ?_⟩
    by_cases e1 : k = m
    · exact .inl e1
    by_cases e2 : k = 1
    · exact .inr (.inl e2)
    exact .inr (.inr (Decidable.of_not_not fun e3 => h (.inr (.inr ⟨e1, e2, e3⟩))))
  · rintro ⟨hk, hm, hc⟩ (e | e | ⟨e1, e2, e3⟩)
    · exact Nat.ne_of_gt hk e
    · exact Nat.ne_of_gt hm e
    · exact hc.elim e1 (·.elim e2 e3)

theorem max_compat {k m : Nat} (hk : 0 < k) (hm : 0 < m) (hc : k = m ∨ k = 1 ∨ m = 1) :
    0 < max k m ∧ (k = max k m ∨ k = 1) ∧ (m = max k m ∨ m = 1) := by
  rcases hc with rfl | rfl | rfl
  · rw [Nat.max_self]; exact ⟨hk, .inl rfl, .inl rfl⟩
  · rw [Nat.max_eq_right hm]; exact ⟨hm, .inr rfl, .inl rfl⟩
  · rw [Nat.max_eq_left hk]; exact ⟨hk, .inl rfl, .inr rfl⟩

theorem bdim_compat (k m : Nat) (hk : 0 < k) (hm : 0 < m) (hc : k = m ∨ k = 1 ∨ m = 1) : bdim k m = .ok (max k m) := by
  unfold bdim
  rcases hc with rfl | rfl | rfl
  · rw [Nat.max_self]
    split
    · rfl
    · rw [if_pos (.inr rfl)]
  · rw [if_pos rfl, Nat.max_eq_right hm]
  · rw [Nat.max_eq_left hk]
    split
    · next h => rw [h]
    · rw [if_pos (.inl rfl)]

theorem isBroadcastable_vec (k : Nat) (P : List Nat) (L : Nat) : isBroadcastable [k] (P ++ [L]) = !dimClash k L := by
  simp [isBroadcastable]

theorem isBroadcastable_1d (k m : Nat) : isBroadcastable [k] [m] = !dimClash k m := isBroadcastable_vec k [] m

/-- the last coordinate of a row-major position is the position modulo the last axis length -/
theorem unravel_append_last : ∀ (P : List Nat) (L i : Nat), i < (P ++ [L]).prod →
    ∃ cp, unravel (P ++ [L]) i = cp ++ [i % L] ∧ cp.length = P.length
  | [], L, i, h => by
    refine ⟨[], ?_, rfl⟩
    have hi : i < L := by simpa using h
    simp [unravel, Nat.mod_eq_of_lt hi]
  | d :: P, L, i, h => by
    have hpos : 0 < (P ++ [L]).prod := by
      rcases Nat.eq_zero_or_pos (P ++ [L]).prod with h0 | h0
      · rw [List.cons_append, List.prod_cons, h0] at h; simp at h
      · exact h0
    obtain ⟨cp, h1, h2⟩ := unravel_append_last P L (i % (P ++ [L]).prod) (Nat.mod_lt _ hpos)
    refine ⟨(i / (P ++ [L]).prod) :: cp, ?_, by simp [h2]⟩
    show unravel (d :: (P ++ [L])) i = _
    simp only [unravel, h1, List.cons_append]
    rw [show (P ++ [L]).prod = P.prod * L by simp [List.prod_append], Nat.mod_mul_left_mod]

theorem bsrc_last (L : Nat) (cp : List Nat) (j : Nat) : bsrc [L] (cp ++ [j]) = [if L = 1 then 0 else j] := by
  simp [bsrc]

theorem atc_single (x : β) : (⟨[x], [1]⟩ : Arr β).atc [0] = .ok x := rfl

theorem atc_1d (R : List β) (j : Nat) (hj : j < R.length) : (⟨R, [R.length]⟩ : Arr β).atc [j] = .ok R[j] := by
  simp only [Arr.atc, Arr.indexAt, anyOut, indexAtFold, Res.idx, List.length_cons, List.length_nil, ne_eq,
    not_true_eq_false, if_false, List.zip_cons_cons, List.zip_nil_right, List.any_cons, List.any_nil, Bool.or_false,
    decide_eq_true_eq, List.reverse_cons, List.reverse_nil, List.nil_append, List.foldl_cons, List.foldl_nil]
  rw [if_neg (by omega)]
  simp [hj]

/-- **`broadcast_to` of a vector to a shape of rank ≥ 1**, the four arms of the code in their order: the length clashes
with the last axis; the equal-count `reshape` shortcut; a length that is neither the last axis nor 1 (it survives the
first test only over a unit last axis); the coordinate gather, which lays the stretched vector once per row -/
theorem broadcastTo_vec (R : List β) (P : List Nat) (L : Nat) :
    (⟨R, [R.length]⟩ : Arr β).broadcastTo (P ++ [L]) =
      if dimClash R.length L = true then .err .BroadcastShapeMismatch
      else if R.length = P.prod * L then .ok ⟨R, P ++ [L]⟩
      else if R.length ≠ L ∧ R.length ≠ 1 then .err .BroadcastShapeMismatch
      else .ok ⟨(List.replicate P.prod (bc1 R L)).flatten, P ++ [L]⟩ := by
  have hprod : (P ++ [L]).prod = P.prod * L := by simp [List.prod_append]
  have hsrc : [R.length].prod = R.length := by simp
  have hzip : [R.length].zip ((P ++ [L]).drop ((P ++ [L]).length - [R.length].length)) = [(R.length, L)] := by simp
  unfold Arr.broadcastTo
  simp only [isBroadcastable_vec, Bool.not_not, hsrc, hprod, hzip, List.any_cons, List.any_nil, Bool.or_false,
    Bool.and_eq_true, bne_iff_ne]
  by_cases hcl : dimClash R.length L = true
  · rw [if_pos hcl, if_pos hcl]
  rw [if_neg hcl, if_neg hcl]
  by_cases hp : R.length = P.prod * L
  · rw [if_pos hp, if_pos hp]
    exact Arr.new_of_prod (hprod.trans hp.symm)
  rw [if_neg hp, if_neg hp, if_neg (by simp)]
  by_cases h3 : R.length ≠ L ∧ R.length ≠ 1
  · rw [if_pos h3, if_pos h3]
  rw [if_neg h3, if_neg h3]
  -- the gather: position `i` reads the source at `i % L` (at `0` when the source has one entry)
  obtain ⟨hk, hL, _⟩ := (not_dimClash_iff _ _).1 hcl
  have hr : R.length = L ∨ R.length = 1 :=
    if e : R.length = L then .inl e else .inr (Decidable.of_not_not fun e1 => h3 ⟨e, e1⟩)
  have hTl : (bc1 R L).length = L := bc1_length R L hr
  have d : β := R[0]
  have hgather : Res.mapM' (fun idx => (⟨R, [R.length]⟩ : Arr β).atc (bsrc [R.length] (unravelFold (P ++ [L]) idx)))
      (List.range (P.prod * L)) = .ok ((List.range (P.prod * L)).map (fun i => (bc1 R L).getD (i % L) d)) := by
    apply Res.mapM'_ok
    intro idx hidx
    have hlt : idx < (P ++ [L]).prod := by rw [hprod]; exact List.mem_range.1 hidx
    obtain ⟨cp, hcp, _⟩ := unravel_append_last P L idx hlt
    have hm : idx % L < L := Nat.mod_lt _ hL
    obtain ⟨hj, hread⟩ := bc1_getElem? R L _ hr hm
    rw [unravelFold_eq _ _ hlt, hcp, bsrc_last, atc_1d R _ hj, List.getD_eq_getElem?_getD, hread,
      List.getElem?_eq_getElem hj]
    rfl
  have htile := tile_eq (bc1 R L) d P.prod
  rw [hTl] at htile
  show (Res.mapM' _ _ >>= _) = _
  rw [hgather, Res.bind_ok, htile]
  exact Arr.new_of_prod (by rw [hprod, List.length_flatten]; simp [hTl])

theorem broadcastTo_vec_nil (R : List β) :
    (⟨R, [R.length]⟩ : Arr β).broadcastTo [] =
      if R.length = 1 then .ok ⟨R, []⟩ else .err .BroadcastShapeMismatch := by
  unfold Arr.broadcastTo
  simp only [isBroadcastable, List.reverse_nil, List.zip_nil_right, List.any_nil, Bool.not_false, Bool.not_true,
    Bool.false_eq_true, if_false, List.prod_cons, List.prod_nil, Nat.mul_one, List.length_nil, List.length_cons]
  by_cases hp : R.length = 1
  · rw [if_pos hp, if_pos hp]; exact Arr.new_of_prod hp.symm
  · rw [if_neg hp, if_neg hp, if_pos Nat.one_pos]

theorem broadcastTo_vec_ne_panic (R : List β) (shape : List Nat) :
    (⟨R, [R.length]⟩ : Arr β).broadcastTo shape ≠ .panic := by
  rcases List.eq_nil_or_concat shape with rfl | ⟨P, L, rfl⟩
  · rw [broadcastTo_vec_nil]
    exact Res.ite_ne_panic (fun _ => nofun) (fun _ => nofun)
  · rw [List.concat_eq_append, broadcastTo_vec]
    exact Res.ite_ne_panic (fun _ => nofun) fun _ => Res.ite_ne_panic (fun _ => nofun) fun _ =>
      Res.ite_ne_panic (fun _ => nofun) (fun _ => nofun)

/-- a vector of the last-axis length, or a single entry, broadcast to the shape `P ++ [L]` with `L ≠ 0`: the stretched
vector once per row (both the `reshape` shortcut and the gather; an empty leading axis gives no row) -/
theorem broadcastTo_rows (R : List β) (P : List Nat) (L : Nat) (hL : 0 < L) (hr : R.length = L ∨ R.length = 1) :
    (⟨R, [R.length]⟩ : Arr β).broadcastTo (P ++ [L]) = .ok ⟨(List.replicate P.prod (bc1 R L)).flatten, P ++ [L]⟩ := by
  have hk : 0 < R.length := hr.elim (fun h => h ▸ hL) (fun h => h ▸ Nat.one_pos)
  rw [broadcastTo_vec, if_neg ((not_dimClash_iff _ _).2 ⟨hk, hL, hr.elim .inl fun h => .inr (.inl h)⟩)]
  by_cases hp : R.length = P.prod * L
  · -- the shortcut is taken when there is one row, of the vector's own length
    have hP : P.prod = 1 ∧ R.length = L := by
      rcases hr with h | h
      · rw [h] at hp
        exact ⟨(Nat.eq_of_mul_eq_mul_right hL ((Nat.one_mul L).trans hp)).symm, h⟩
      · rw [h] at hp
        exact ⟨Nat.eq_one_of_mul_eq_one_right hp.symm, h.trans (Nat.eq_one_of_mul_eq_one_left hp.symm).symm⟩
    rw [if_pos hp, hP.1, ← hP.2, bc1_same, List.replicate_one, List.flatten_singleton]
  · rw [if_neg hp, if_neg fun h => hr.elim h.1 h.2]

/-- a one-element vector broadcast to any shape of rank ≥ 1 whose last axis is not empty: every entry is that element -/
theorem broadcastTo_single (x : β) (shape : List Nat) (hne : shape ≠ []) (hlast : shape.getLast? ≠ some 0) :
    (⟨[x], [1]⟩ : Arr β).broadcastTo shape = .ok ⟨List.replicate shape.prod x, shape⟩ := by
  rcases List.eq_nil_or_concat shape with rfl | ⟨P, L, rfl⟩
  · exact absurd rfl hne
  rw [List.concat_eq_append] at hlast ⊢
  have hL : 0 < L := Nat.pos_of_ne_zero fun h => hlast (by rw [h, List.getLast?_concat])
  refine (broadcastTo_rows [x] P L hL (.inr rfl)).trans ?_
  rw [bc1_single, List.flatten_replicate_replicate]
  simp [List.prod_append]

theorem broadcastTo_1d (L : List β) (n : Nat) (hn : 0 < n) (h : L.length = n ∨ L.length = 1) :
    (⟨L, [L.length]⟩ : Arr β).broadcastTo [n] = .ok ⟨bc1 L n, [n]⟩ := by
  refine (broadcastTo_rows L [] n hn h).trans ?_
  rw [List.prod_nil, List.replicate_one, List.flatten_singleton]; rfl

theorem broadcastTo_1d_reject (L : List β) (n : Nat) (h : ¬ (0 < n ∧ (L.length = n ∨ L.length = 1))) :
    (⟨L, [L.length]⟩ : Arr β).broadcastTo [n] = .err .BroadcastShapeMismatch := by
  refine (broadcastTo_vec L [] n).trans ?_
  by_cases hcl : dimClash L.length n = true
  · rw [if_pos hcl]
  · obtain ⟨_, hn, _⟩ := (not_dimClash_iff _ _).1 hcl
    rw [if_neg hcl, if_neg (by rw [List.prod_nil, Nat.one_mul]; exact fun e => h ⟨hn, .inl e⟩),
      if_pos ⟨fun e => h ⟨hn, .inl e⟩, fun e => h ⟨hn, .inr e⟩⟩]

/-! ### `broadcast`, `broadcast_h2` of two vectors -/

theorem broadcastShape_1d (k m : Nat) (hk : 0 < k) (hm : 0 < m) (hc : k = m ∨ k = 1 ∨ m = 1) : broadcastShape [k] [m] = .ok [max k m] := by
  show (bdim k m >>= fun d => Res.ok [d]).map List.reverse = _
  rw [bdim_compat k m hk hm hc]
  rfl

theorem broadcast_1d (A : List α) (B : List β) (hk : 0 < A.length) (hm : 0 < B.length)
    (hc : A.length = B.length ∨ A.length = 1 ∨ B.length = 1) :
    (⟨A, [A.length]⟩ : Arr α).broadcast (⟨B, [B.length]⟩ : Arr β) =
      .ok ⟨(bc1 A (max A.length B.length)).zip (bc1 B (max A.length B.length)), [max A.length B.length]⟩ := by
  have hcl : dimClash A.length B.length = false := Bool.eq_false_iff.2 ((not_dimClash_iff _ _).2 ⟨hk, hm, hc⟩)
  obtain ⟨hN, hA, hB⟩ := max_compat hk hm hc
  unfold Arr.broadcast
  simp only [isBroadcastable_1d, hcl, Bool.not_false, Bool.not_true, Bool.false_eq_true, if_false]
  by_cases he : A.length = B.length
  · rw [if_pos (by rw [he])]
    simp only [he, Nat.max_self, Arr.reshape, Arr.new, Arr.flat, bc1_same]
    rw [← he, bc1_same, if_pos (by simp [he])]
  · rw [if_neg (by simpa using he), broadcastShape_1d _ _ hk hm hc, Res.bind_ok, broadcastTo_1d A _ hN hA, Res.bind_ok,
      broadcastTo_1d B _ hN hB, Res.bind_ok]
    exact Arr.new_of_prod (by rw [List.prod_singleton, List.length_zip, bc1_length A _ hA, bc1_length B _ hB, Nat.min_self])

theorem broadcastH2_1d (A : List α) (zero : α) (B : List β) (hk : 0 < A.length) (hm : 0 < B.length)
    (hc : A.length = B.length ∨ A.length = 1 ∨ B.length = 1) :
    (Arr.flat A).broadcastH2 zero (Arr.flat B) =
      .ok (⟨bc1 A (max A.length B.length), [max A.length B.length]⟩, ⟨bc1 B (max A.length B.length), [max A.length B.length]⟩) := by
  obtain ⟨hN, hA, hB⟩ := max_compat hk hm hc
  -- the zero-filled copy of `B` has the length of `B`, so `broadcast` sees the same pair of lengths
  have hl : (bc1 [zero] B.length).length = B.length := bc1_length _ _ (.inr rfl)
  have h0 := broadcastTo_1d [zero] B.length hm (.inr rfl)
  have hb := broadcast_1d A (bc1 [zero] B.length) hk (hl.symm ▸ hm) (hl.symm ▸ hc)
  rw [hl] at hb
  unfold Arr.broadcastH2
  simp only [List.length_cons, List.length_nil, Nat.zero_add] at h0
  simp only [Arr.flat, h0, Res.bind_ok, hb]
  rw [List.map_fst_zip (by rw [bc1_length A _ hA, bc1_length _ _ (hl.symm ▸ hB)]; exact Nat.le_refl _),
    show Arr.reshape ⟨bc1 A (max A.length B.length), [(bc1 A (max A.length B.length)).length]⟩ [max A.length B.length] = _ from
      Arr.new_of_prod (by rw [List.prod_singleton, bc1_length A _ hA]),
    Res.bind_ok, broadcastTo_1d B _ hN hB]
  rfl

/-- two vectors whose lengths clash are refused, by the zero-filled copy of the second or by `broadcast` -/
theorem broadcastH2_clash (A : List α) (zero : α) (B : List β) (h : dimClash A.length B.length = true) :
    (Arr.flat A).broadcastH2 zero (Arr.flat B) = .err .BroadcastShapeMismatch := by
  unfold Arr.broadcastH2
  by_cases hm : 0 < B.length
  · have h0 := broadcastTo_1d [zero] B.length hm (.inr rfl)
    simp only [List.length_cons, List.length_nil, Nat.zero_add] at h0
    simp only [Arr.flat, h0, Res.bind_ok]
    unfold Arr.broadcast
    rw [if_pos (by simp [isBroadcastable_1d, h])]
    rfl
  · have h0 := broadcastTo_1d_reject [zero] B.length (fun h => hm h.1)
    simp only [List.length_cons, List.length_nil, Nat.zero_add] at h0
    simp only [Arr.flat, h0]
    rfl

/-! ### flat `insert` -/

theorem Arr.insertFlat_oob (a : Arr α) (idxs : List Nat) (values : Arr α) (h : ∃ i ∈ idxs, a.elems.length < i) :
    a.insertFlat idxs values = .err .OutOfBounds :=
  if_pos (by simpa using h)

theorem insertFlat_any_false (a : Arr α) (idxs : List Nat) (hb : ∀ i ∈ idxs, i ≤ a.elems.length) :
    ¬ idxs.any (fun i => decide (i > a.elems.length)) = true := by
  simp only [List.any_eq_true, decide_eq_true_eq, not_exists, not_and]
  intro i hi
  exact Nat.not_lt.2 (hb i hi)

theorem Arr.insertFlat_dim (a : Arr α) (idxs : List Nat) (values : Arr α) (hb : ∀ i ∈ idxs, i ≤ a.elems.length)
    (h : values.ndim ≠ 1 ∨ a.ndim = 0) : a.insertFlat idxs values = .err .UnsupportedDimension := by
  refine (if_neg (insertFlat_any_false a idxs hb)).trans ?_
  by_cases h1 : values.ndim = 1
  · rw [if_pos (by simp [h1]; omega)]
  · split
    · rfl
    · rfl

/-- past the guards: a 1-D value array, a receiver of rank ≥ 1, every index within `0 ..= len` -/
theorem Arr.insertFlat_vec (a : Arr α) (idxs : List Nat) (values : Arr α) (hb : ∀ i ∈ idxs, i ≤ a.elems.length)
    (hv : values.ndim = 1) (ha : 1 ≤ a.ndim) :
    a.insertFlat idxs values =
      (Arr.flat idxs).broadcastH2 0 (Arr.flat values.elems) >>= fun iv =>
      ((sortByIdx (iv.1.elems.zip iv.2.elems)).reverse.foldl
        (fun (acc : Res (List α)) p => acc >>= fun es => vecInsert es p.1 p.2) (.ok a.elems)) >>= fun es =>
      .ok (Arr.flat es) := by
  refine (if_neg (insertFlat_any_false a idxs hb)).trans ?_
  rw [if_neg (by simp [hv]; omega), if_neg (by simp [hv])]
  rfl

theorem Arr.insertFlat_mismatch (a : Arr α) (idxs : List Nat) (values : Arr α) (hb : ∀ i ∈ idxs, i ≤ a.elems.length)
    (hv : values.ndim = 1) (ha : 1 ≤ a.ndim)
    (h : idxs.length = 0 ∨ values.elems.length = 0 ∨
      (idxs.length ≠ values.elems.length ∧ idxs.length ≠ 1 ∧ values.elems.length ≠ 1)) :
    a.insertFlat idxs values = .err .BroadcastShapeMismatch := by
  rw [Arr.insertFlat_vec a idxs values hb hv ha, broadcastH2_clash idxs 0 values.elems ((dimClash_iff _ _).2 h)]
  rfl

/-- the success region of flat `insert` with a 1-D value vector: with `N` the larger of the two counts and `S` the
stable sort by index of the `N` (index, value) pairs, the call computes the insertion of `S`, and `S` has what
`insertAllAt_spec` asks for -/
theorem Arr.insertFlat_ok (a : Arr α) (idxs : List Nat) (values : Arr α)
    (hv : values.ndim = 1) (ha : 1 ≤ a.ndim) (hk : 0 < idxs.length) (hm : 0 < values.elems.length)
    (hc : idxs.length = values.elems.length ∨ idxs.length = 1 ∨ values.elems.length = 1)
    (hb : ∀ i ∈ idxs, i ≤ a.elems.length) (N : Nat) (S : List (Nat × α))
    (hN : N = max idxs.length values.elems.length) (hS : S = sortByIdx ((bc1 idxs N).zip (bc1 values.elems N))) :
    a.insertFlat idxs values = .ok (Arr.flat (insertAllAt a.elems S)) ∧ S.length = N ∧
      S.Pairwise (fun p q => p.1 ≤ q.1) ∧ ∀ p ∈ S, p.1 ≤ a.elems.length := by
  subst hN hS
  have hbS : ∀ p ∈ sortByIdx ((bc1 idxs (max idxs.length values.elems.length)).zip
      (bc1 values.elems (max idxs.length values.elems.length))), p.1 ≤ a.elems.length := fun p hp =>
    hb _ (mem_bc1 _ _ _ (List.of_mem_zip ((sortByIdx_perm _).mem_iff.1 hp)).1)
  refine ⟨?_, ?_, sortByIdx_sorted _, hbS⟩
  · rw [Arr.insertFlat_vec a idxs values hb hv ha, broadcastH2_1d idxs 0 values.elems hk hm hc, Res.bind_ok,
      insert_fold_eq _ _ hbS]
    rfl
  · obtain ⟨_, hI, hV⟩ := max_compat hk hm hc
    rw [sortByIdx_length, List.length_zip, bc1_length _ _ hI, bc1_length _ _ hV, Nat.min_self]

/-- the pairwise case of `Arr.insertFlat_ok`: no stretching, the pairs are `idxs.zip values` -/
theorem Arr.insertFlat_pairwise (a : Arr α) (idxs : List Nat) (values : Arr α)
    (hv : values.ndim = 1) (ha : 1 ≤ a.ndim) (hk : 0 < idxs.length) (hlen : values.elems.length = idxs.length)
    (hb : ∀ i ∈ idxs, i ≤ a.elems.length) :
    a.insertFlat idxs values = .ok (Arr.flat (insertAllAt a.elems (sortByIdx (idxs.zip values.elems)))) ∧
      (sortByIdx (idxs.zip values.elems)).length = idxs.length ∧
      (sortByIdx (idxs.zip values.elems)).Pairwise (fun p q => p.1 ≤ q.1) ∧
      ∀ p ∈ sortByIdx (idxs.zip values.elems), p.1 ≤ a.elems.length :=
  Arr.insertFlat_ok a idxs values hv ha hk (by omega) (.inl hlen.symm) hb idxs.length _ (by omega)
    (by rw [bc1_same, ← hlen, bc1_same])

/-! ### flat `repeat` -/

theorem repeatFlat_single (a : Arr α) (c : Nat) (hwf : a.WF) (hlast : a.shape.getLast? ≠ some 0) :
    a.repeatFlat [c] = .ok (Arr.flat (a.elems.flatMap (List.replicate c))) := by
  unfold Arr.repeatFlat
  have hb : (Arr.flat [c]).broadcastTo a.shape = .ok ⟨List.replicate a.elems.length c, a.shape⟩ := by
    by_cases hne : a.shape = []
    · have hl : a.elems.length = 1 := by rw [hwf, hne]; rfl
      rw [hne, hl]
      rfl
    · rw [hwf]; exact broadcastTo_single c a.shape hne hlast
  rw [hb]
  simp only [Res.bind_ok, zip_replicate_flatMap]

theorem repeatFlat_1d (a : Arr α) (repeats : List Nat) (n : Nat) (hs : a.shape = [n]) (hn : 0 < n)
    (hr : repeats.length = n) :
    a.repeatFlat repeats = .ok (Arr.flat ((a.elems.zip repeats).flatMap (fun p => List.replicate p.2 p.1))) := by
  unfold Arr.repeatFlat
  have := broadcastTo_1d repeats n hn (.inl hr)
  rw [hs, show Arr.flat repeats = ⟨repeats, [repeats.length]⟩ from rfl, this]
  simp only [Res.bind_ok, bc1, hr, if_true]

/-- flat `repeat` on an array of any rank ≥ 1 with a non-empty last axis `L`, counts of length `L` (one per index of the
last axis) or a single count: every element is emitted as often as the count of its LAST coordinate says -/
theorem repeatFlat_lastaxis (a : Arr α) (repeats : List Nat) (P : List Nat) (L : Nat) (hs : a.shape = P ++ [L])
    (hL : 0 < L) (hr : repeats.length = L ∨ repeats.length = 1) :
    a.repeatFlat repeats = .ok (Arr.flat ((a.elems.zip (List.replicate P.prod (bc1 repeats L)).flatten).flatMap
      (fun p => List.replicate p.2 p.1))) := by
  unfold Arr.repeatFlat
  rw [hs, show Arr.flat repeats = ⟨repeats, [repeats.length]⟩ from rfl, broadcastTo_rows repeats P L hL hr]
  rfl

theorem repeatFlat_clash (a : Arr α) (repeats : List Nat) (P : List Nat) (L : Nat) (hs : a.shape = P ++ [L])
    (h : L = 0 ∨ repeats.length = 0 ∨ (repeats.length ≠ L ∧ repeats.length ≠ 1 ∧ L ≠ 1)) :
    a.repeatFlat repeats = .err .BroadcastShapeMismatch := by
  unfold Arr.repeatFlat
  rw [hs, show Arr.flat repeats = ⟨repeats, [repeats.length]⟩ from rfl, broadcastTo_vec,
    if_pos ((dimClash_iff _ _).2 (or_left_comm.1 h))]
  rfl

theorem repeatFlat_single_reject (a : Arr α) (c : Nat) (hlast : a.shape.getLast? = some 0) :
    a.repeatFlat [c] = .err .BroadcastShapeMismatch := by
  obtain ⟨P, hs⟩ := List.getLast?_eq_some_iff.1 hlast
  exact repeatFlat_clash a [c] P 0 hs (.inl rfl)

/-- the remaining region — last axis of length 1 and two or more counts: the equal-count `reshape` shortcut of
`broadcast_to` accepts exactly `P.prod` counts (then one count per element, in order) and refuses any other number -/
theorem repeatFlat_unit_last (a : Arr α) (repeats : List Nat) (P : List Nat) (hs : a.shape = P ++ [1])
    (hk : 2 ≤ repeats.length) :
    a.repeatFlat repeats =
      if repeats.length = P.prod then .ok (Arr.flat ((a.elems.zip repeats).flatMap (fun p => List.replicate p.2 p.1)))
      else .err .BroadcastShapeMismatch := by
  unfold Arr.repeatFlat
  rw [hs, show Arr.flat repeats = ⟨repeats, [repeats.length]⟩ from rfl, broadcastTo_vec,
    if_neg (by rw [dimClash_iff]; omega), Nat.mul_one]
  by_cases hp : repeats.length = P.prod
  · rw [if_pos hp, if_pos hp]; rfl
  · rw [if_neg hp, if_neg hp, if_pos (by omega)]; rfl

theorem repeatFlat_rank0 (a : Arr α) (repeats : List Nat) (hs : a.shape = []) :
    a.repeatFlat repeats =
      if repeats.length = 1 then .ok (Arr.flat ((a.elems.zip repeats).flatMap (fun p => List.replicate p.2 p.1)))
      else .err .BroadcastShapeMismatch := by
  unfold Arr.repeatFlat
  rw [hs, show Arr.flat repeats = ⟨repeats, [repeats.length]⟩ from rfl, broadcastTo_vec_nil]
  split <;> rfl

theorem repeatFlat_no_panic (a : Arr α) (repeats : List Nat) : a.repeatFlat repeats ≠ .panic :=
  Res.bind_ne_panic (broadcastTo_vec_ne_panic repeats a.shape) (fun _ _ => nofun)

end ArrModel
