import ArrProofs.Lemmas.C10Basic
/-!
# C10 lemmas, part 2 — `heap_sort` (index-based `shift_down` on a list used as an array)

Invariants are stated on `a[i]?` so that no bounds proofs travel with the indices.
-/
namespace ArrModel.Sort
open ArrModel

variable {α : Type}

theorem swapR_ok (a : List α) (i j : Nat) (hi : i < a.length) (hj : j < a.length) :
    ∃ a', swapR a i j = .ok a' ∧ a'.Perm a ∧ a'[i]? = a[j]? ∧ a'[j]? = a[i]? ∧
      ∀ k, k ≠ i → k ≠ j → a'[k]? = a[k]? := by
  refine ⟨(a.set i a[j]).set j a[i], ?_, List.set_set_perm hi hj, ?_, ?_, ?_⟩
  · unfold swapR
    rw [List.getElem?_eq_getElem hi, List.getElem?_eq_getElem hj]
  · by_cases hji : j = i
    · subst hji
      rw [List.getElem?_set_self (by rw [List.length_set]; exact hj), List.getElem?_eq_getElem hj]
    · rw [List.getElem?_set_ne hji, List.getElem?_set_self hi, List.getElem?_eq_getElem hj]
  · rw [List.getElem?_set_self (by rw [List.length_set]; exact hj), List.getElem?_eq_getElem hi]
  · intro k hki hkj
    rw [List.getElem?_set_ne (Ne.symm hkj), List.getElem?_set_ne (Ne.symm hki)]

/-- the value at position `i` is `>=` the value at position `ch` (as far as both positions exist) -/
def Dom (c : Cmp α) (a : List α) (i ch : Nat) : Prop :=
  ∀ x y, a[i]? = some x → a[ch]? = some y → c.le y x = true

theorem Dom.congr {c : Cmp α} {a a' : List α} {i i' ch ch' : Nat} (h : Dom c a i' ch')
    (hi : a'[i]? = a[i']?) (hc : a'[ch]? = a[ch']?) : Dom c a' i ch :=
  fun x y hx hy => h x y (hi.symm.trans hx) (hc.symm.trans hy)

theorem Dom.trans {c : Cmp α} {a : List α} {i j k : Nat} (h1 : Dom c a i j) (h : c.Lawful) (hj : j < a.length)
    (h2 : Dom c a j k) : Dom c a i k :=
  fun x z hx hz =>
    h.le_trans _ _ _ (h2 _ z (List.getElem?_eq_getElem hj) hz) (h1 x _ hx (List.getElem?_eq_getElem hj))

theorem dom_of_le {c : Cmp α} {a : List α} {i ch : Nat} (hi : i < a.length) (hc : ch < a.length)
    (hle : c.le a[ch] a[i] = true) : Dom c a i ch := by
  intro x y hx hy
  rw [List.getElem?_eq_getElem hi] at hx
  rw [List.getElem?_eq_getElem hc] at hy
  cases hx
  cases hy
  exact hle

theorem dom_of_length_le {c : Cmp α} {a : List α} {i ch : Nat} (hi : a.length ≤ i) : Dom c a i ch := by
  intro x y hx
  rw [List.getElem?_eq_none hi] at hx
  cases hx

/-- children (`2 i + 1`, `2 i + 2`, written as `shift_down` computes them) in `[.., hi]` of every node `i >= lo` are `<=` their parent -/
def Heap (c : Cmp α) (a : List α) (lo hi : Nat) : Prop :=
  ∀ i ch, lo ≤ i → (i * 2 + 1 ≤ ch ∧ ch ≤ i * 2 + 1 + 1) → ch ≤ hi → Dom c a i ch

/-- the heap property holds everywhere except possibly at node `r`, and the children of `r` are `<=` the parent of `r` -/
def HeapEx (c : Cmp α) (a : List α) (lo hi r : Nat) : Prop :=
  (∀ i ch, lo ≤ i → i ≠ r → (i * 2 + 1 ≤ ch ∧ ch ≤ i * 2 + 1 + 1) → ch ≤ hi → Dom c a i ch) ∧
  (∀ p ch, lo ≤ p → (p * 2 + 1 ≤ r ∧ r ≤ p * 2 + 1 + 1) → (r * 2 + 1 ≤ ch ∧ ch ≤ r * 2 + 1 + 1) → ch ≤ hi → Dom c a p ch)

/-- once the exceptional node dominates its own children nothing is exceptional -/
theorem HeapEx.heap {c : Cmp α} {a : List α} {lo hi r : Nat} (hex : HeapEx c a lo hi r)
    (hr : ∀ ch, (r * 2 + 1 ≤ ch ∧ ch ≤ r * 2 + 1 + 1) → ch ≤ hi → Dom c a r ch) : Heap c a lo hi := by
  intro i ch hlo hch hchi
  by_cases hir : i = r
  · subst hir; exact hr ch hch hchi
  · exact hex.1 i ch hlo hir hch hchi

theorem pickChild_spec {c : Cmp α} (h : c.Lawful) (a : List α) (ch0 hi : Nat) (hhi : hi < a.length) (h0 : ch0 ≤ hi) :
    ∃ ch, pickChild c a ch0 hi = .ok ch ∧ (ch0 ≤ ch ∧ ch ≤ ch0 + 1) ∧ ch ≤ hi ∧
      ∀ ch', (ch0 ≤ ch' ∧ ch' ≤ ch0 + 1) → ch' ≤ hi → Dom c a ch ch' := by
  unfold pickChild
  by_cases hlt : ch0 < hi
  · have h1 : ch0 < a.length := by omega
    have h2 : ch0 + 1 < a.length := by omega
    rw [if_pos hlt, Res.idx_of_lt h1, Res.bind_ok, Res.idx_of_lt h2, Res.bind_ok]
    by_cases hc : c.lt a[ch0] a[ch0 + 1] = true
    · refine ⟨ch0 + 1, by rw [if_pos hc], ⟨Nat.le_succ _, Nat.le_refl _⟩, hlt, ?_⟩
      intro ch' hch' _
      rcases (by omega : ch' = ch0 ∨ ch' = ch0 + 1) with rfl | rfl
      · exact dom_of_le h2 h1 (h.le_of_lt hc)
      · exact dom_of_le h2 h2 (h.le_refl _)
    · refine ⟨ch0, by rw [if_neg hc], ⟨Nat.le_refl _, Nat.le_succ _⟩, h0, ?_⟩
      intro ch' hch' _
      rcases (by omega : ch' = ch0 ∨ ch' = ch0 + 1) with rfl | rfl
      · exact dom_of_le h1 h1 (h.le_refl _)
      · exact dom_of_le h1 h2 (h.le_of_not_lt (Bool.eq_false_iff.2 hc))
  · rw [if_neg hlt]
    refine ⟨ch0, rfl, ⟨Nat.le_refl _, Nat.le_succ _⟩, h0, ?_⟩
    intro ch' hch' hle
    have : ch' = ch0 := by omega
    rw [this]
    exact dom_of_le (by omega) (by omega) (h.le_refl _)

/-- `shift_down` from the one node `root` that may fail to dominate its children restores the heap on `[lo, hi]`; every
iteration moves `root` to one of its children, a larger index `<= hi`, whence the fuel bound `hi + 1 <= fuel + root`
(the callers pass `n + 1`) -/
theorem shiftDown_spec {c : Cmp α} (h : c.Lawful) (lo hi : Nat) :
    ∀ (fuel : Nat) (a : List α) (root : Nat), hi < a.length → lo ≤ root → root ≤ hi → hi + 1 ≤ fuel + root →
      HeapEx c a lo hi root →
      ∃ a', shiftDown c fuel a root hi = .ok a' ∧ a'.Perm a ∧ Heap c a' lo hi ∧
        (∀ k, hi < k → a'[k]? = a[k]?) ∧
        (∀ k x, k ≤ hi → a'[k]? = some x → ∃ k', k' ≤ hi ∧ a[k']? = some x) := by
  intro fuel
  induction fuel with
  | zero => intro a root _ _ _ h4; omega
  | succ f ih =>
    intro a root hlen hlo hroot hfuel hex
    unfold shiftDown
    by_cases hleaf : root * 2 + 1 > hi
    · rw [if_pos hleaf]
      exact ⟨a, rfl, .refl _, hex.heap fun ch hch hchi => by omega, fun _ _ => rfl, fun k x hk hx => ⟨k, hk, hx⟩⟩
    · rw [if_neg hleaf]
      obtain ⟨child, hpick, hchild, hchildhi, hbig⟩ :=
        pickChild_spec h a (root * 2 + 1) hi hlen (Nat.le_of_not_gt hleaf)
      have hrl : root < a.length := Nat.lt_of_le_of_lt hroot hlen
      have hcl : child < a.length := Nat.lt_of_le_of_lt hchildhi hlen
      rw [hpick, Res.bind_ok, Res.idx_of_lt hrl, Res.bind_ok, Res.idx_of_lt hcl, Res.bind_ok]
      by_cases hc : c.lt a[root] a[child] = true
      · rw [if_pos hc]
        obtain ⟨a1, hsw, hperm1, hswr, hswc, hswo⟩ := swapR_ok a root child hrl hcl
        rw [hsw, Res.bind_ok]
        have hex1 : HeapEx c a1 lo hi child := by
          constructor
          · intro i ch hi1 hic hch hchi
            by_cases hir : i = root
            · -- the old root position now holds the old child value
              subst hir
              by_cases hcc : ch = child
              · rw [hcc]; exact (dom_of_le hcl hrl (h.le_of_lt hc)).congr hswr hswc
              · exact (hbig ch hch hchi).congr hswr (hswo ch (by omega) hcc)
            · by_cases hcr : ch = root
              · -- `i` is the parent of `root`, whose new value is the old child: a grandchild of `i`
                subst hcr
                exact (hex.2 i child hi1 hch hchild hchildhi).congr (hswo i hir hic) hswr
              · exact (hex.1 i ch hi1 hir hch hchi).congr (hswo i hir hic) (hswo ch hcr (by omega))
          · intro p ch hp hpr hch hchi
            have hpr' : p = root := by omega
            rw [hpr']
            exact (hex.1 child ch (by omega) (by omega) hch hchi).congr hswr (hswo ch (by omega) (by omega))
        obtain ⟨a2, hsd, hperm2, hheap2, hframe2, hmem2⟩ :=
          ih a1 child (by rw [hperm1.length_eq]; exact hlen) (by omega) hchildhi (by omega) hex1
        refine ⟨a2, hsd, hperm2.trans hperm1, hheap2, ?_, ?_⟩
        · intro k hk
          rw [hframe2 k hk, hswo k (by omega) (by omega)]
        · intro k x hk hx
          obtain ⟨k', hk', hx'⟩ := hmem2 k x hk hx
          by_cases h1 : k' = child
          · exact ⟨root, hroot, by rw [← hswc, ← h1]; exact hx'⟩
          · by_cases h2 : k' = root
            · exact ⟨child, hchildhi, by rw [← hswr, ← h2]; exact hx'⟩
            · exact ⟨k', hk', by rw [← hswo k' h2 h1]; exact hx'⟩
      · -- stop: the larger child is <= the root
        rw [if_neg hc]
        refine ⟨a, rfl, .refl _, hex.heap fun ch hch hchi => ?_, fun _ _ => rfl, fun k x hk hx => ⟨k, hk, hx⟩⟩
        exact (dom_of_le hrl hcl (h.le_of_not_lt (Bool.eq_false_iff.2 hc))).trans h hcl (hbig ch hch hchi)

/-- the root of a heap is a largest element -/
theorem heap_root_max {c : Cmp α} (h : c.Lawful) (a : List α) (hi : Nat) (hlen : hi < a.length) (hp : Heap c a 0 hi) :
    ∀ (i : Nat), i ≤ hi → Dom c a 0 i := by
  intro i
  induction i using Nat.strongRecOn with
  | _ i ih =>
    intro hi'
    by_cases h0 : i = 0
    · rw [h0]; exact dom_of_le (by omega) (by omega) (h.le_refl _)
    · obtain ⟨p, hp1, hp2⟩ : ∃ p, p * 2 + 1 ≤ i ∧ i ≤ p * 2 + 1 + 1 := ⟨(i - 1) / 2, by omega⟩
      exact (ih p (by omega) (by omega)).trans h (by omega) (hp p i (Nat.zero_le _) ⟨hp1, hp2⟩ hi')

/-- the build loop with `k` starts still to do: the nodes from `k` on already dominate their children, and sifting
node `k - 1` down extends that to `k - 1` -/
theorem heapBuild_spec {c : Cmp α} (h : c.Lawful) (n : Nat) (hn : 1 ≤ n) :
    ∀ (k : Nat) (a : List α), a.length = n → k ≤ n → Heap c a k (n - 1) →
      ∃ a', heapBuild c n k a = .ok a' ∧ a'.Perm a ∧ Heap c a' 0 (n - 1) := by
  intro k
  induction k with
  | zero => intro a _ _ hh; exact ⟨a, rfl, .refl _, hh⟩
  | succ k ih =>
    intro a hl hk hh
    unfold heapBuild
    obtain ⟨a1, hsd, hp1, hh1, _, _⟩ :=
      shiftDown_spec h k (n - 1) (n + 1) a k (by omega) (Nat.le_refl _) (by omega) (by omega)
        ⟨fun i ch hlo hne => hh i ch (by omega), fun p ch hlo hp => by omega⟩
    rw [hsd, Res.bind_ok]
    obtain ⟨a2, hb, hp2, hh2⟩ := ih a1 (hp1.length_eq.trans hl) (by omega) hh1
    exact ⟨a2, hb, hp2.trans hp1, hh2⟩

/-- the extraction loop, with `[0, e]` a heap, the positions after `e` sorted, and everything in `[0, e]` `<=`
everything after -/
theorem heapExtract_spec {c : Cmp α} (h : c.Lawful) (n : Nat) :
    ∀ (e : Nat) (a : List α), a.length = n → e < n → Heap c a 0 e →
      (∀ i j, e < i → i < j → Dom c a j i) → (∀ i j, i ≤ e → e < j → Dom c a j i) →
      ∃ a', heapExtract c n e a = .ok a' ∧ a'.Perm a ∧ Sorted c a' := by
  intro e
  induction e with
  | zero =>
    intro a hl _ _ hs1 hs2
    refine ⟨a, rfl, .refl _, List.pairwise_iff_getElem.2 fun i j hi hj hij => ?_⟩
    by_cases h0 : i = 0
    · exact hs2 i j (by omega) (by omega) _ _ (List.getElem?_eq_getElem hj) (List.getElem?_eq_getElem hi)
    · exact hs1 i j (by omega) hij _ _ (List.getElem?_eq_getElem hj) (List.getElem?_eq_getElem hi)
  | succ e ih =>
    intro a hl he hh hs1 hs2
    unfold heapExtract
    obtain ⟨a1, hsw, hp1, hsw0, hswe, hswo⟩ := swapR_ok a 0 (e + 1) (by omega) (by omega)
    rw [hsw, Res.bind_ok]
    have hex : HeapEx c a1 0 e 0 :=
      ⟨fun i ch _ hi0 hch hchi =>
        (hh i ch (Nat.zero_le _) hch (by omega)).congr (hswo i hi0 (by omega)) (hswo ch (by omega) (by omega)),
       fun p ch _ hp => by omega⟩
    obtain ⟨a2, hsd, hp2, hh2, hfr2, hmem2⟩ :=
      shiftDown_spec h 0 e (n + 1) a1 0 (by rw [hp1.length_eq]; omega) (Nat.le_refl _) (Nat.zero_le _) (by omega) hex
    rw [hsd, Res.bind_ok]
    -- every value of the new prefix `[0, e]` sits in the old prefix `[0, e + 1]`
    have hpre : ∀ i x, i ≤ e → a2[i]? = some x → ∃ i', i' ≤ e + 1 ∧ a[i']? = some x := by
      intro i x hie hx
      obtain ⟨i', hi', hx1⟩ := hmem2 i x hie hx
      by_cases hi0 : i' = 0
      · exact ⟨e + 1, Nat.le_refl _, by rw [← hsw0, ← hi0]; exact hx1⟩
      · exact ⟨i', by omega, by rw [← hswo i' hi0 (by omega)]; exact hx1⟩
    obtain ⟨a3, hext, hp3, hs3⟩ := ih a2 (by rw [hp2.length_eq, hp1.length_eq]; exact hl) (by omega) hh2
      (by
        intro i j hei hij
        have hj : a2[j]? = a[j]? := by rw [hfr2 j (by omega), hswo j (by omega) (by omega)]
        by_cases hie : i = e + 1
        · -- position `e + 1` now holds the old root
          exact (hs2 0 j (Nat.zero_le _) (by omega)).congr hj (by rw [hfr2 i (by omega), hie, hswe])
        · exact (hs1 i j (by omega) hij).congr hj (by rw [hfr2 i (by omega), hswo i (by omega) hie]))
      (by
        intro i j hie hej x y hx hy
        obtain ⟨i', hi', hy'⟩ := hpre i y hie hy
        rw [hfr2 j (by omega)] at hx
        by_cases hje : j = e + 1
        · rw [hje, hswe] at hx
          exact heap_root_max h a (e + 1) (by omega) hh i' hi' x y hx hy'
        · rw [hswo j (by omega) hje] at hx
          exact hs2 i' j hi' (by omega) x y hx hy')
    exact ⟨a3, hext, hp3.trans (hp2.trans hp1), hs3⟩

theorem heapSort_spec {c : Cmp α} (h : c.Lawful) (xs : List α) :
    ∃ s, heapSort c xs = .ok s ∧ s.Perm xs ∧ Sorted c s := by
  unfold heapSort
  by_cases h1 : xs.length ≤ 1
  · rw [if_pos h1]; exact ⟨xs, rfl, .refl _, sorted_of_length_le_one c h1⟩
  · rw [if_neg h1]
    obtain ⟨a1, hb, hp1, hh1⟩ := heapBuild_spec h xs.length (by omega) (xs.length / 2) xs rfl (by omega)
      (fun i ch _ _ _ => by omega)
    rw [hb, Res.bind_ok]
    have hl1 : a1.length = xs.length := hp1.length_eq
    obtain ⟨a2, he, hp2, hs2⟩ := heapExtract_spec h xs.length (xs.length - 1) a1 hl1 (by omega) hh1
      (fun i j _ _ => dom_of_length_le (by omega)) (fun i j _ _ => dom_of_length_le (by omega))
    exact ⟨a2, he, hp2.trans hp1, hs2⟩

end ArrModel.Sort
