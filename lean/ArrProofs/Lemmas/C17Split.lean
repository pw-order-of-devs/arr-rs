import ArrProofs.Lemmas.C17
/-! helper lemmas for C17: the fuel loops (`splitF`, `splitnF`, `countF`) and the empty-separator forms -/
namespace ArrModel.C17

/-! ### non-empty separator: `split` is `splitn` with a limit that is never reached -/

theorem splitF_eq_splitnF (sep : Str) : ∀ (f n : Nat) (s : Str), f < n → splitF sep f s = splitnF sep f n s
  | 0, n + 1, s, _ => by cases n <;> rfl
  | f + 1, 1, s, h => absurd h (by omega)
  | f + 1, n + 2, s, h => by
    simp only [splitF, splitnF, splitF_eq_splitnF sep f (n + 1) _ (Nat.lt_of_succ_lt_succ h)]

theorem splitnF_ne_nil (sep : Str) : ∀ (f n : Nat) (s : Str), splitnF sep f (n + 1) s ≠ []
  | _, 0, s => by simp [splitnF]
  | 0, n + 1, s => by simp [splitnF]
  | f + 1, n + 1, s => by
    simp only [splitnF]
    split <;> simp

/-- the join law holds whatever the fuel: running out of fuel returns the rest unsplit -/
theorem join_splitnF (sep : Str) : ∀ (f n : Nat) (s : Str), joinWith sep (splitnF sep f (n + 1) s) = s
  | _, 0, s => by simp [splitnF, joinWith]
  | 0, n + 1, s => by simp [splitnF, joinWith]
  | f + 1, n + 1, s => by
    simp only [splitnF]
    split
    · simp [joinWith]
    · rename_i i hi
      rw [joinWith_cons _ _ _ (splitnF_ne_nil _ _ _ _), join_splitnF sep f n]
      exact (find_some_decomp s sep i hi).symm

theorem splitnF_length_le (sep : Str) : ∀ (f n : Nat) (s : Str), (splitnF sep f n s).length ≤ n
  | _, 0, _ => by simp [splitnF]
  | _, 1, _ => by simp [splitnF]
  | 0, n + 2, _ => by simp [splitnF]
  | f + 1, n + 2, s => by
    simp only [splitnF]
    split
    · simp
    · rename_i i _
      have := splitnF_length_le sep f (n + 1) (s.drop (i + sep.length))
      simp only [List.length_cons]; omega

theorem splitF_length (pat : Str) : ∀ (f : Nat) (s : Str), (splitF pat f s).length = countF pat f s + 1
  | 0, s => by simp [splitF, countF]
  | f + 1, s => by
    simp only [splitF, countF]
    split
    · simp
    · simp only [List.length_cons, splitF_length pat f]; omega

/-! ### empty separator -/

theorem splitnEmptyGo_ne_nil : ∀ (n : Nat) (s : Str), splitnEmptyGo (n + 1) s ≠ []
  | 0, s => by simp [splitnEmptyGo]
  | n + 1, [] => by simp [splitnEmptyGo]
  | n + 1, c :: cs => by simp [splitnEmptyGo]

theorem splitnEmpty_ne_nil : ∀ (n : Nat) (s : Str), splitnEmpty (n + 1) s ≠ []
  | 0, _ => nofun
  | _ + 1, _ => nofun

theorem join_splitnEmptyGo : ∀ (n : Nat) (s : Str), joinWith [] (splitnEmptyGo (n + 1) s) = s
  | 0, s => by simp [splitnEmptyGo, joinWith]
  | n + 1, [] => by simp [splitnEmptyGo, joinWith]
  | n + 1, c :: cs => by
    simp only [splitnEmptyGo]
    rw [joinWith_cons _ _ _ (splitnEmptyGo_ne_nil _ _), join_splitnEmptyGo n cs]
    simp

theorem join_splitnEmpty : ∀ (n : Nat) (s : Str), joinWith [] (splitnEmpty (n + 1) s) = s
  | 0, s => by simp [splitnEmpty, joinWith]
  | n + 1, s => by
    simp only [splitnEmpty]
    rw [joinWith_cons _ _ _ (splitnEmptyGo_ne_nil _ _), join_splitnEmptyGo]
    simp

theorem splitnEmptyGo_length_le : ∀ (n : Nat) (s : Str), (splitnEmptyGo n s).length ≤ n
  | 0, _ => by simp [splitnEmptyGo]
  | 1, _ => by simp [splitnEmptyGo]
  | n + 2, [] => by simp [splitnEmptyGo]
  | n + 2, c :: cs => by
    have := splitnEmptyGo_length_le (n + 1) cs
    simp only [splitnEmptyGo, List.length_cons]; omega

theorem splitnEmpty_length_le : ∀ (n : Nat) (s : Str), (splitnEmpty n s).length ≤ n
  | 0, _ => by simp [splitnEmpty]
  | 1, _ => by simp [splitnEmpty]
  | n + 2, s => by
    have := splitnEmptyGo_length_le (n + 1) s
    simp only [splitnEmpty, List.length_cons]; omega

/-- with enough pieces allowed, `splitn(n, "")` cuts at every boundary, like `split("")` -/
theorem splitnEmptyGo_length_succ : ∀ (s : Str), splitnEmptyGo (s.length + 1) s = s.map (fun c => [c]) ++ [[]]
  | [] => rfl
  | c :: cs => by
    rw [List.length_cons, splitnEmptyGo, splitnEmptyGo_length_succ cs]
    rfl

theorem splitEmpty_eq_splitnEmpty (s : Str) : splitEmpty s = splitnEmpty (s.length + 2) s := by
  rw [splitnEmpty, splitnEmptyGo_length_succ]
  rfl

/-- no limit is a limit that is never reached -/
theorem split_none_eq_some (s sep : Str) : split s sep none = split s sep (some (s.length + 2)) := by
  cases sep with
  | nil => exact splitEmpty_eq_splitnEmpty s
  | cons c cs => exact splitF_eq_splitnF (c :: cs) (s.length + 1) (s.length + 2) s (Nat.lt_succ_self _)

/-! ### fuel: more than `length` units are never exhausted, and every such fuel gives the same result -/

theorem drop_match_length_lt (s sep : Str) (i : Nat) (hsep : sep ≠ []) (h : find s sep = some i) :
    (s.drop (i + sep.length)).length < s.length := by
  have := find_some_le s sep i h
  have : 0 < sep.length := List.length_pos_iff.2 hsep
  simp only [List.length_drop]; omega

theorem splitnF_fuel (sep : Str) (hsep : sep ≠ []) : ∀ (f g n : Nat) (s : Str), s.length < f → s.length < g →
    splitnF sep f n s = splitnF sep g n s
  | _, _, 0, s, _, _ => by simp [splitnF]
  | _, _, 1, s, _, _ => by simp [splitnF]
  | 0, _, _ + 2, s, hf, _ => by omega
  | _ + 1, 0, _ + 2, s, _, hg => by omega
  | f + 1, g + 1, n + 2, s, hf, hg => by
    simp only [splitnF]
    split
    · rfl
    · rename_i i hi
      have := drop_match_length_lt s sep i hsep hi
      rw [splitnF_fuel sep hsep f g (n + 1) _ (by omega) (by omega)]

theorem splitF_fuel (sep : Str) (hsep : sep ≠ []) (f g : Nat) (s : Str) (hf : s.length < f) (hg : s.length < g) :
    splitF sep f s = splitF sep g s := by
  rw [splitF_eq_splitnF sep f (f + g + 1) s (by omega), splitF_eq_splitnF sep g (f + g + 1) s (by omega)]
  exact splitnF_fuel sep hsep f g _ s hf hg

theorem countF_fuel (pat : Str) (hp : pat ≠ []) (f g : Nat) (s : Str) (hf : s.length < f) (hg : s.length < g) :
    countF pat f s = countF pat g s := by
  have h := congrArg List.length (splitF_fuel pat hp f g s hf hg)
  rw [splitF_length, splitF_length] at h
  exact Nat.succ.inj h

/-! ### the pieces of an unlimited split -/

/-- the text before the first occurrence does not contain the pattern -/
theorem find_take_none (s sep : Str) (hsep : sep ≠ []) (i : Nat) (h : find s sep = some i) :
    find (s.take i) sep = none := by
  rw [find_eq_none_iff]
  intro j
  rw [Bool.eq_false_iff]
  intro hp
  -- an occurrence inside `s.take i` is one in `s` that ends before `i`, so it starts before `i`
  have hpre := List.isPrefixOf_iff_prefix.1 hp
  rw [List.drop_take] at hpre
  have hlen := hpre.length_le
  rw [List.length_take] at hlen
  have hpos : 0 < sep.length := List.length_pos_iff.2 hsep
  have hnot := ((find_eq_some_iff sep s i).1 h).2 j (by omega)
  rw [List.isPrefixOf_iff_prefix.2 (hpre.trans (List.take_prefix _ _))] at hnot
  cases hnot

theorem splitF_pieces_sep_free (sep : Str) (hsep : sep ≠ []) : ∀ (f : Nat) (s : Str), s.length < f →
    ∀ p ∈ splitF sep f s, find p sep = none
  | 0, s, hf => by omega
  | f + 1, s, hf => by
    intro p hp
    simp only [splitF] at hp
    split at hp
    · rename_i hn
      simp only [List.mem_singleton] at hp
      subst hp; exact hn
    · rename_i i hi
      rcases List.mem_cons.1 hp with rfl | hp'
      · exact find_take_none s sep hsep i hi
      · have := drop_match_length_lt s sep i hsep hi
        exact splitF_pieces_sep_free sep hsep f _ (by omega) p hp'

end ArrModel.C17
