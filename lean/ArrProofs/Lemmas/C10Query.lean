import ArrProofs.Lemmas.C10Heap
import ArrProofs.Lemmas.C10Tim
/-!
# C10 lemmas, part 4 — the common result of the four kinds, the selector parser, `argsort` (find / position / remove
loop), `argmax` / `argmin`, `unique`
-/
namespace ArrModel.Sort
open ArrModel

variable {α : Type}

theorem sortFlat_eq_mergeSort {c : Cmp α} (h : c.Lawful) (k : SortKind) (xs : List α) :
    sortFlat c k xs = .ok (xs.mergeSort c.le) := by
  cases k
  · exact congrArg Res.ok (h.eq_mergeSort_of_sorted_perm (quickSort_sorted h xs) (quickSort_perm c xs))
  · exact congrArg Res.ok (h.eq_mergeSort_of_sorted_perm (mergeSort_sorted h xs) (mergeSort_perm c xs))
  · obtain ⟨s, hs, hp, hsort⟩ := heapSort_spec h xs
    exact hs.trans (congrArg Res.ok (h.eq_mergeSort_of_sorted_perm hsort hp))
  · obtain ⟨s, hs, hp, hsort⟩ := timSort_spec h xs
    exact hs.trans (congrArg Res.ok (h.eq_mergeSort_of_sorted_perm hsort hp))

/-- one arm of a chain `if c then Ok a else …` whose rest answers `Ok` or the error value `e` -/
theorem ite_ok_or_err {β : Type} {c : Prop} [Decidable c] {a : β} {x : Res β} {e : Err}
    (h : (∃ k, x = .ok k) ∨ x = .err e) :
    (∃ k, (if c then .ok a else x) = .ok k) ∨ (if c then .ok a else x) = .err e := by
  by_cases hc : c
  · rw [if_pos hc]; exact .inl ⟨_, rfl⟩
  · rw [if_neg hc]; exact h

/-- … and when the chain answers `Ok k`: this arm was taken, or the rest answers `Ok k` -/
theorem ite_ok_eq {β : Type} {c : Prop} [Decidable c] {a k : β} {x : Res β}
    (h : (if c then .ok a else x) = .ok k) : (c ∧ a = k) ∨ x = .ok k := by
  by_cases hc : c
  · rw [if_pos hc] at h; exact .inl ⟨hc, Res.ok.inj h⟩
  · rw [if_neg hc] at h; exact .inr h

/-- `parse_kind` on lower-cased text selects a kind exactly on that kind's name … -/
theorem parseKindLower_eq_ok_iff (t : List Char) (k : SortKind) :
    parseKindLower t = .ok k ↔ t = match k with
      | .Quicksort => ['q','u','i','c','k','s','o','r','t']
      | .Mergesort => ['m','e','r','g','e','s','o','r','t']
      | .Heapsort => ['h','e','a','p','s','o','r','t']
      | .Stable => ['s','t','a','b','l','e'] := by
  constructor
  · intro h
    rcases ite_ok_eq h with ⟨h1, rfl⟩ | h
    · exact h1
    rcases ite_ok_eq h with ⟨h2, rfl⟩ | h
    · exact h2
    rcases ite_ok_eq h with ⟨h3, rfl⟩ | h
    · exact h3
    rcases ite_ok_eq h with ⟨h4, rfl⟩ | h
    · exact h4
    cases h
  · intro h
    subst h
    cases k <;> decide

/-- … and refuses every other text with an error value -/
theorem parseKindLower_ok_or_err (t : List Char) :
    (∃ k, parseKindLower t = .ok k) ∨ parseKindLower t = .err .ParameterError :=
  ite_ok_or_err (ite_ok_or_err (ite_ok_or_err (ite_ok_or_err (.inr rfl))))

theorem enumFrom_map_fst : ∀ (n : Nat) (l : List α), (enumFrom n l).map Prod.fst = List.range' n l.length
  | _, [] => rfl
  | n, x :: xs => by simp [enumFrom, enumFrom_map_fst (n + 1) xs, List.range'_succ]

theorem enumFrom_map_snd : ∀ (n : Nat) (l : List α), (enumFrom n l).map Prod.snd = l
  | _, [] => rfl
  | n, x :: xs => by simp [enumFrom, enumFrom_map_snd (n + 1) xs]

theorem mem_enumFrom : ∀ (n : Nat) (l : List α) (k : Nat) (x : α),
    (k, x) ∈ enumFrom n l ↔ ∃ i, k = n + i ∧ l[i]? = some x
  | _, [], k, x => by simp [enumFrom]
  | n, y :: ys, k, x => by
    rw [enumFrom, List.mem_cons, mem_enumFrom (n + 1) ys k x]
    constructor
    · rintro (h | ⟨i, rfl, hi⟩)
      · cases h; exact ⟨0, rfl, rfl⟩
      · exact ⟨i + 1, by omega, hi⟩
    · rintro ⟨i, rfl, hi⟩
      cases i with
      | zero => exact .inl (by rw [List.getElem?_cons_zero] at hi; cases hi; rfl)
      | succ i => exact .inr ⟨i, by omega, hi⟩

/-- `find` has returned the entry `it` behind `S1`, and no entry of `S1` carries `it`'s index: `position` finds `it`
there and `remove` takes it out -/
theorem argsortStep_spec {c : Cmp α} (h : c.Lawful) (S1 S2 : List (Nat × α)) (it : Nat × α) (x : α)
    (hf : (S1 ++ it :: S2).find? (fun p => c.beq p.2 x) = some it) (h1 : ∀ q ∈ S1, q.1 ≠ it.1) :
    argsortStep c (S1 ++ it :: S2) x = .ok (it.1, S1 ++ S2) := by
  unfold argsortStep
  rw [hf]
  have hi : (S1 ++ it :: S2).findIdx? (fun q => q.1 == it.1 && c.beq q.2 it.2) = some S1.length := by
    rw [List.findIdx?_append]
    have : S1.findIdx? (fun q => q.1 == it.1 && c.beq q.2 it.2) = none := by
      rw [List.findIdx?_eq_none_iff]
      intro q hq
      have := h1 q hq
      simp [this]
    rw [this]
    simp [List.findIdx?_cons, h.beq_refl]
  simp only [hi]
  rw [if_pos (by simp)]
  congr 2
  rw [List.eraseIdx_append_of_length_le (Nat.le_refl _)]
  simp

/-- the whole `map` of `argsort`, for any state `S` whose indices increase and whose values are the items -/
theorem argsortLoop_spec {c : Cmp α} (h : c.Lawful) : ∀ (items : List α) (S : List (Nat × α)),
    (S.map Prod.fst).Pairwise (· < ·) → items.Perm (S.map Prod.snd) →
    ∃ out, argsortLoop c S items = .ok out ∧ out.Perm (S.map Prod.fst) ∧
      (∀ (i : Nat) x (k : Nat), items[i]? = some x → out[i]? = some k → (k, x) ∈ S) ∧
      (∀ (i j : Nat) x (ki kj : Nat), i < j → items[i]? = some x → items[j]? = some x → out[i]? = some ki → out[j]? = some kj →
        ki < kj) := by
  intro items
  induction items with
  | nil =>
    intro S _ hp
    have : S = [] := by
      have := hp.length_eq; simp at this
      exact List.length_eq_zero_iff.1 this.symm
    subst this
    exact ⟨[], rfl, .refl _, by simp, by simp⟩
  | cons x items ih =>
    intro S hS hp
    -- `find` returns the first entry that holds `x`: `it`, behind `S1`
    obtain ⟨q, hq, hqx⟩ := List.mem_map.1 (hp.subset List.mem_cons_self)
    obtain ⟨it, hf⟩ := Option.isSome_iff_exists.1
      (List.find?_isSome.2 ⟨q, hq, hqx ▸ h.beq_refl _⟩ : (S.find? fun p => c.beq p.2 x).isSome = true)
    obtain ⟨hb, S1, S2, rfl, hS1⟩ := List.find?_eq_some_iff_append.1 hf
    obtain rfl : it.2 = x := (h.beq_iff _ _).1 hb
    simp only [List.map_append, List.map_cons] at hS hp
    have hS' := List.pairwise_append.1 hS
    have hfst : ∀ q ∈ S1, q.1 ≠ it.1 := by
      intro q hq
      have := hS'.2.2 q.1 (List.mem_map_of_mem hq) it.1 (List.mem_cons_self)
      omega
    unfold argsortLoop
    rw [argsortStep_spec h S1 S2 it _ hf hfst, Res.bind_ok]
    have hSsub : ((S1 ++ S2).map Prod.fst).Pairwise (· < ·) := by
      rw [List.map_append]
      exact List.Pairwise.sublist (List.Sublist.append_left (List.sublist_cons_self _ _) _) hS
    have hpsub : items.Perm ((S1 ++ S2).map Prod.snd) := by
      rw [List.map_append]
      exact (hp.trans List.perm_middle).cons_inv
    obtain ⟨out', ho, hperm, hpt, hst⟩ := ih (S1 ++ S2) hSsub hpsub
    rw [ho, Res.bind_ok]
    refine ⟨it.1 :: out', rfl, ?_, ?_, ?_⟩
    · simp only [List.map_append, List.map_cons] at hperm ⊢
      exact (hperm.cons it.1).trans List.perm_middle.symm
    · intro i y k hi hk
      cases i with
      | zero =>
        simp only [List.getElem?_cons_zero, Option.some.injEq] at hi hk
        subst hi hk
        simp
      | succ i =>
        simp only [List.getElem?_cons_succ] at hi hk
        have := hpt i y k hi hk
        simp only [List.mem_append, List.mem_cons] at this ⊢
        rcases this with h' | h'
        · exact .inl h'
        · exact .inr (.inr h')
    · intro i j y ki kj hij hi hj hki hkj
      cases j with
      | zero => omega
      | succ j =>
        simp only [List.getElem?_cons_succ] at hj hkj
        cases i with
        | zero =>
          simp only [List.getElem?_cons_zero, Option.some.injEq] at hi hki
          subst hi hki
          have hmem := hpt j _ kj hj hkj
          rcases List.mem_append.1 hmem with h' | h'
          · have := hS1 _ h'
            rw [h.beq_refl] at this
            cases this
          · exact hS'.2.1 |> fun hc2 => (List.pairwise_cons.1 hc2).1 kj (List.mem_map_of_mem (f := Prod.fst) h')
        | succ i =>
          simp only [List.getElem?_cons_succ] at hi hki
          exact hst i j y ki kj (by omega) hi hj hki hkj

theorem dedupAux_spec {c : Cmp α} (h : c.Lawful) : ∀ (l : List α) (last : α), Sorted c (last :: l) →
    (∀ y ∈ dedupAux c last l, c.lt last y = true) ∧
    (dedupAux c last l).Pairwise (fun a b => c.lt a b = true) ∧
    (∀ y, y ∈ dedupAux c last l ↔ (y ∈ l ∧ y ≠ last)) := by
  intro l
  induction l with
  | nil => intro last _; simp [dedupAux]
  | cons y l ih =>
    intro last hs
    have hs' := List.pairwise_cons.1 hs
    have hs'' := List.pairwise_cons.1 hs'.2
    unfold dedupAux
    cases hb : c.beq y last
    · -- a new value: kept
      have hne : y ≠ last := fun e => Bool.eq_false_iff.1 hb ((h.beq_iff y last).2 e)
      have hlt : c.lt last y = true := h.lt_of_le_of_ne (hs'.1 y List.mem_cons_self) (Ne.symm hne)
      obtain ⟨i1, i2, i3⟩ := ih y hs'.2
      simp only [Bool.false_eq_true, ↓reduceIte]
      refine ⟨?_, List.pairwise_cons.2 ⟨i1, i2⟩, ?_⟩
      · intro z hz
        rcases List.mem_cons.1 hz with rfl | hz
        · exact hlt
        · exact h.lt_trans hlt (i1 z hz)
      · intro z
        simp only [List.mem_cons, i3]
        constructor
        · rintro (rfl | ⟨hz, hzy⟩)
          · exact ⟨.inl rfl, hne⟩
          · refine ⟨.inr hz, ?_⟩
            rintro rfl
            exact hzy (h.le_antisymm _ _ (hs'.1 y List.mem_cons_self) (hs''.1 z hz))
        · rintro ⟨rfl | hz, hzl⟩
          · exact .inl rfl
          · by_cases hzy : z = y
            · exact .inl hzy
            · exact .inr ⟨hz, hzy⟩
    · -- equal to the last one kept: dropped
      have he : y = last := (h.beq_iff y last).1 hb
      subst he
      have hsub : Sorted c (y :: l) := hs'.2
      obtain ⟨i1, i2, i3⟩ := ih y hsub
      simp only [↓reduceIte]
      refine ⟨i1, i2, ?_⟩
      intro z
      rw [i3]
      simp only [List.mem_cons]
      constructor
      · rintro ⟨hz, hzy⟩; exact ⟨.inr hz, hzy⟩
      · rintro ⟨rfl | hz, hzy⟩
        · exact absurd rfl hzy
        · exact ⟨hz, hzy⟩

theorem dedup_spec {c : Cmp α} (h : c.Lawful) (l : List α) (hs : Sorted c l) :
    (dedup c l).Pairwise (fun a b => c.lt a b = true) ∧ (∀ y, y ∈ dedup c l ↔ y ∈ l) := by
  match l, hs with
  | [], _ => simp [dedup]
  | x :: l, hs =>
    obtain ⟨i1, i2, i3⟩ := dedupAux_spec h l x hs
    unfold dedup
    refine ⟨List.pairwise_cons.2 ⟨i1, i2⟩, ?_⟩
    intro y
    simp only [List.mem_cons, i3]
    constructor
    · rintro (rfl | ⟨hy, _⟩)
      · exact .inl rfl
      · exact .inr hy
    · rintro (rfl | hy)
      · exact .inl rfl
      · by_cases hyx : y = x
        · exact .inl hyx
        · exact .inr ⟨hy, hyx⟩

theorem sorted_last_max {c : Cmp α} (h : c.Lawful) (s : List α) (hs : Sorted c s) (m : α)
    (hm : s[s.length - 1]? = some m) : ∀ y ∈ s, c.le y m = true := by
  intro y hy
  obtain ⟨i, hi, rfl⟩ := List.getElem_of_mem hy
  have hml : s.length - 1 < s.length := by omega
  have hm' : m = s[s.length - 1] := by simpa [List.getElem?_eq_getElem hml] using hm.symm
  by_cases hil : i = s.length - 1
  · subst hm'; simp only [hil]; exact h.le_refl _
  · have := (List.pairwise_iff_getElem.1 hs) i (s.length - 1) hi hml (by omega)
    rw [hm']; exact this

theorem sorted_first_min {c : Cmp α} (h : c.Lawful) (s : List α) (hs : Sorted c s) (m : α)
    (hm : s[0]? = some m) : ∀ y ∈ s, c.le m y = true := by
  intro y hy
  match s, hs, hm, hy with
  | x :: s', hs, hm, hy =>
    simp only [List.getElem?_cons_zero, Option.some.injEq] at hm
    subst hm
    rcases List.mem_cons.1 hy with rfl | hy
    · exact h.le_refl _
    · exact (List.pairwise_cons.1 hs).1 y hy

/-- `iter().position(|item| item == m)` finds the first occurrence of a member -/
theorem findIdx_beq_spec {c : Cmp α} (h : c.Lawful) (xs : List α) (m : α) (hm : m ∈ xs) :
    ∃ p, xs.findIdx? (fun x => c.beq x m) = some p ∧ xs[p]? = some m ∧ ∀ q, q < p → xs[q]? ≠ some m := by
  cases hf : xs.findIdx? (fun x => c.beq x m) with
  | none =>
    rw [List.findIdx?_eq_none_iff] at hf
    have := hf m hm
    rw [h.beq_refl] at this; cases this
  | some p =>
    obtain ⟨hp, h1, h2⟩ := List.findIdx?_eq_some_iff_getElem.1 hf
    refine ⟨p, rfl, ?_, ?_⟩
    · rw [List.getElem?_eq_getElem hp]; exact congrArg some ((h.beq_iff _ _).1 h1)
    · intro q hq heq
      have hql : q < xs.length := by omega
      rw [List.getElem?_eq_getElem hql] at heq
      have := h2 q hq
      simp only [Option.some.injEq] at heq
      rw [heq, h.beq_refl] at this
      exact this rfl

/-- both queries on a non-empty lane: the answer is the first position of the value the sorted lane ends with
(`argmax`) / begins with (`argmin`) -/
theorem argExtremePos_spec {c : Cmp α} (h : c.Lawful) (isMax : Bool) (xs : List α) (hne : xs ≠ []) :
    ∃ p m, argExtremePos c isMax xs = .ok p ∧ xs[p]? = some m ∧
      (xs.mergeSort c.le)[if isMax then (xs.mergeSort c.le).length - 1 else 0]? = some m ∧
      (∀ q, q < p → xs[q]? ≠ some m) := by
  have hnan : xs.findIdx? c.isNan = none := List.findIdx?_eq_none_iff.2 fun x _ => h.not_nan x
  have hq : resolveKind (.str ['q','u','i','c','k','s','o','r','t']) = .ok .Quicksort := by decide
  have hlen : 0 < (xs.mergeSort c.le).length := by
    rw [List.length_mergeSort]; exact List.length_pos_iff.2 hne
  have hidx : (if isMax then (xs.mergeSort c.le).length - 1 else 0) < (xs.mergeSort c.le).length := by
    cases isMax
    · exact hlen
    · exact Nat.sub_lt hlen Nat.one_pos
  obtain ⟨p, hp, hpm, hfirst⟩ := findIdx_beq_spec h xs _ (List.mem_mergeSort.1 (List.getElem_mem hidx))
  refine ⟨p, _, ?_, hpm, List.getElem?_eq_getElem hidx, hfirst⟩
  unfold argExtremePos
  rw [hnan]
  simp only [hq, Res.bind_ok, sortFlat_eq_mergeSort h .Quicksort]
  rw [Res.idx_of_lt hidx, Res.bind_ok, hp]
  rfl

/-- the flat form refuses the empty array with an error value … -/
theorem argExtremeLane_nil {c : Cmp α} (isMax : Bool) (x : Arr α) (kd : Option Bool) (he : x.elems = []) :
    argExtremeLane c isMax x kd = .err .ParameterError := by
  unfold argExtremeLane Arr.isEmpty
  rw [he]; rfl

/-- … and otherwise hands the position found to the `keepdims` tail -/
theorem argExtremeLane_of_pos {c : Cmp α} (isMax : Bool) (x : Arr α) (kd : Option Bool) (p : Nat) (hne : x.elems ≠ [])
    (hp : argExtremePos c isMax x.elems = .ok p) :
    argExtremeLane c isMax x kd = Arr.keepdimsTail x.ndim kd (Arr.single p) := by
  unfold argExtremeLane
  rw [if_neg (by unfold Arr.isEmpty; rw [beq_iff_eq, List.length_eq_zero_iff]; exact hne), hp, Res.bind_ok]

end ArrModel.Sort
