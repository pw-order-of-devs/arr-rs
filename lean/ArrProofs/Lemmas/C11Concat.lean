import ArrProofs.Lemmas.C11Append
/-!
C11: `concatenate` along an axis (the shape validation, then the fold of `append`; the result is stated with the axis lengths
`axLen` and their prefix sums `offsetOf`), `concatenate` with `axis = None`, and `stack` (the same fold, then a reshape)
-/
namespace ArrModel.C11
open ArrModel Arr
variable {α : Type}

def axLen (k : Nat) (b : Arr α) : Nat := b.shape.getD k 0

/-- prefix sum of the axis lengths: where input `i` starts -/
def offsetOf (k : Nat) (arrs : List (Arr α)) (i : Nat) : Nat := ((arrs.take i).map (axLen k)).sum

theorem axLen_cut (b : Arr α) (P Q : List Nat) (n : Nat) (h : b.shape = P ++ n :: Q) : axLen P.length b = n := by
  rw [axLen, h, getD_mid]

theorem offsetOf_zero (k : Nat) (arrs : List (Arr α)) : offsetOf k arrs 0 = 0 := rfl

theorem offsetOf_succ (k : Nat) (a : Arr α) (arrs : List (Arr α)) (i : Nat) :
    offsetOf k (a :: arrs) (i + 1) = axLen k a + offsetOf k arrs i := rfl

/-- every position below the total axis length lies in the block of one input -/
theorem coord_in_block (k : Nat) (arrs : List (Arr α)) (j : Nat) (h : j < (arrs.map (axLen k)).sum) :
    ∃ i d, ∃ hi : i < arrs.length, d < axLen k arrs[i] ∧ j = offsetOf k arrs i + d := by
  obtain ⟨i, d, hi, hd, e⟩ := exists_block _ j h
  rw [List.length_map] at hi
  refine ⟨i, d, hi, ?_, by rw [e, offsetOf, List.map_take]⟩
  simpa [List.getD_eq_getElem?_getD, hi] using hd

/-! ### the fold of `append` -/

theorem foldAppend_cons (a0 b : Arr α) (rest : List (Arr α)) (zero : α) (axis : Option Nat) (r : Arr α)
    (h : a0.append b zero axis = .ok r) :
    foldAppend a0 (b :: rest) zero axis = foldAppend r rest zero axis := by
  simp only [foldAppend, List.foldl_cons, Res.bind_ok, h]

theorem foldAppend_cut (zero : α) (P Q : List Nat) :
    ∀ (rest : List (Arr α)) (a0 : Arr α), a0.WF → a0.shape = P ++ axLen P.length a0 :: Q →
      (∀ b ∈ rest, b.WF ∧ b.shape = P ++ axLen P.length b :: Q) →
      ∃ r, foldAppend a0 rest zero (some P.length) = .ok r ∧
        r.shape = P ++ (((a0 :: rest).map (axLen P.length)).sum) :: Q ∧ r.WF ∧
        ∀ i (hi : i < (a0 :: rest).length) p q j, inRange P p = true → inRange Q q = true →
          j < axLen P.length ((a0 :: rest)[i]) →
          r.get? (p ++ (offsetOf P.length (a0 :: rest) i + j) :: q) = ((a0 :: rest)[i]).get? (p ++ j :: q) := by
  intro rest
  induction rest with
  | nil =>
    intro a0 hwf hs _
    refine ⟨a0, rfl, by rw [List.map_cons, List.map_nil, List.sum_cons, List.sum_nil, Nat.add_zero]; exact hs, hwf, ?_⟩
    intro i hi p q j _ _ _
    have : i = 0 := Nat.lt_one_iff.1 hi
    subst this
    rw [offsetOf_zero, Nat.zero_add]; rfl
  | cons b rest ih =>
    intro a0 hwf hs hr
    obtain ⟨hbw, hbs⟩ := hr b List.mem_cons_self
    obtain ⟨a1, h1, h2, h3, h4, h5⟩ := appendAxis_cut a0 b zero _ _ P Q hwf hbw hs hbs
    have hl1 : axLen P.length a1 = axLen P.length a0 + axLen P.length b := axLen_cut a1 P Q _ h2
    obtain ⟨r, g1, g2, g3, g4⟩ := ih a1 h3 (by rw [hl1]; exact h2) (fun x hx => hr x (List.mem_cons_of_mem _ hx))
    refine ⟨r, ?_, ?_, g3, ?_⟩
    · rw [foldAppend_cons a0 b rest zero (some P.length) a1 h1]; exact g1
    · rw [g2, List.map_cons, List.sum_cons, hl1, List.map_cons, List.map_cons, List.sum_cons, List.sum_cons, Nat.add_assoc]
    · -- input 0 and input 1 lie in the first block `a1` of the remaining fold, the others follow it
      intro i hi p q j hp hq hj
      rcases i with _ | _ | i
      · have := g4 0 (Nat.succ_pos _) p q j hp hq (by rw [List.getElem_cons_zero, hl1]; exact Nat.lt_add_right _ hj)
        rw [offsetOf_zero, Nat.zero_add] at this ⊢
        exact this.trans (h4 p q j hp hq hj)
      · have := g4 0 (Nat.succ_pos _) p q (axLen P.length a0 + j) hp hq
          (by rw [List.getElem_cons_zero, hl1]; exact Nat.add_lt_add_left hj _)
        rw [offsetOf_zero, Nat.zero_add] at this
        rw [offsetOf_succ, offsetOf_zero, Nat.add_zero]
        exact this.trans (h5 p q j hp hq hj)
      · have := g4 (i + 1) (Nat.lt_of_succ_lt_succ hi) p q j hp hq hj
        rw [offsetOf_succ, hl1] at this
        rw [offsetOf_succ, offsetOf_succ, ← Nat.add_assoc]
        exact this

/-! ### `validate_stack_shapes` -/

theorem validate_go_cons (k : Nat) (a b : Arr α) (rest : List (Arr α)) (ha : k < a.ndim) (hb : k < b.ndim) :
    validateStackShapes.go k (a :: b :: rest) =
      if a.shape.eraseIdx k ≠ b.shape.eraseIdx k then .err .ConcatenateShapeMismatch
      else validateStackShapes.go k (b :: rest) := by
  have ha' : ¬ k ≥ a.shape.length := Nat.not_le.2 ha
  have hb' : ¬ k ≥ b.shape.length := Nat.not_le.2 hb
  simp only [validateStackShapes.go, vecRemove, if_neg ha', if_neg hb', Res.bind_ok]

theorem validate_go_ok (k : Nat) (R : List Nat) (l : List (Arr α))
    (h : ∀ b ∈ l, k < b.ndim ∧ b.shape.eraseIdx k = R) : validateStackShapes.go k l = .ok () := by
  induction l with
  | nil => rfl
  | cons a l ih =>
    cases l with
    | nil => rfl
    | cons b rest =>
      obtain ⟨ha1, ha2⟩ := h a List.mem_cons_self
      obtain ⟨hb1, hb2⟩ := h b (List.mem_cons_of_mem _ List.mem_cons_self)
      rw [validate_go_cons k a b rest ha1 hb1, ha2, hb2, if_neg (not_not.2 rfl)]
      exact ih (fun x hx => h x (List.mem_cons_of_mem _ hx))

theorem validate_ok (k : Nat) (R : List Nat) (l : List (Arr α)) (h : ∀ b ∈ l, k < b.ndim ∧ b.shape.eraseIdx k = R) :
    validateStackShapes l k k = .ok () := by
  unfold validateStackShapes
  rw [if_neg]
  · exact validate_go_ok k R l h
  · simp only [List.any_eq_true, decide_eq_true_eq, not_exists, not_and]
    intro x hx; exact Nat.not_le.2 (h x hx).1

theorem validate_go_err (k : Nat) (l : List (Arr α)) : ∀ (a0 : Arr α), (∀ b ∈ a0 :: l, k < b.ndim) →
    (∃ b ∈ l, b.shape.eraseIdx k ≠ a0.shape.eraseIdx k) →
    validateStackShapes.go k (a0 :: l) = .err .ConcatenateShapeMismatch := by
  induction l with
  | nil => intro _ _ h; obtain ⟨b, hb, _⟩ := h; cases hb
  | cons b rest ih =>
    intro a0 hk h
    rw [validate_go_cons k a0 b rest (hk a0 List.mem_cons_self) (hk b (List.mem_cons_of_mem _ List.mem_cons_self))]
    by_cases he : a0.shape.eraseIdx k = b.shape.eraseIdx k
    · rw [if_neg (not_not.2 he)]
      apply ih b (fun x hx => hk x (List.mem_cons_of_mem _ hx))
      obtain ⟨x, hx, hne⟩ := h
      rcases List.mem_cons.1 hx with rfl | hx
      · exact absurd he.symm hne
      · exact ⟨x, hx, by rw [← he]; exact hne⟩
    · rw [if_pos he]

theorem validate_err (k : Nat) (a0 : Arr α) (rest : List (Arr α))
    (h : ∃ b ∈ a0 :: rest, k ≥ b.ndim ∨ b.shape.eraseIdx k ≠ a0.shape.eraseIdx k) :
    ∃ e, validateStackShapes (a0 :: rest) k k = .err e := by
  unfold validateStackShapes
  by_cases hany : (a0 :: rest).any (fun a => decide (k ≥ a.ndim)) = true
  · rw [if_pos hany]; exact ⟨_, rfl⟩
  · rw [if_neg hany]
    have hk : ∀ b ∈ a0 :: rest, k < b.ndim := by
      intro b hb
      simp only [List.any_eq_true, decide_eq_true_eq, not_exists, not_and] at hany
      exact Nat.not_le.1 (hany b hb)
    refine ⟨_, validate_go_err k rest a0 hk ?_⟩
    obtain ⟨b, hb, hor⟩ := h
    rcases hor with h1 | h1
    · exact absurd (hk b hb) (Nat.not_lt.2 h1)
    · rcases List.mem_cons.1 hb with rfl | hb
      · exact absurd rfl h1
      · exact ⟨b, hb, h1⟩

/-! ### `concatenate` along an axis -/

theorem concatenate_cut (zero : α) (P Q : List Nat) (a0 : Arr α) (rest : List (Arr α))
    (h : ∀ b ∈ a0 :: rest, b.WF ∧ b.shape = P ++ axLen P.length b :: Q) :
    ∃ r, concatenate (a0 :: rest) zero (some P.length) = .ok r ∧
      r.shape = P ++ (((a0 :: rest).map (axLen P.length)).sum) :: Q ∧ r.WF ∧
      ∀ i (hi : i < (a0 :: rest).length) p q j, inRange P p = true → inRange Q q = true →
        j < axLen P.length ((a0 :: rest)[i]) →
        r.get? (p ++ (offsetOf P.length (a0 :: rest) i + j) :: q) = ((a0 :: rest)[i]).get? (p ++ j :: q) := by
  have hv : validateStackShapes (a0 :: rest) P.length P.length = .ok () :=
    validate_ok P.length (P ++ Q) _ fun b hb =>
      ⟨lt_ndim_cut b P Q _ (h b hb).2, by rw [(h b hb).2, eraseIdx_mid]⟩
  obtain ⟨hw0, hs0⟩ := h a0 List.mem_cons_self
  obtain ⟨r, h1, h2⟩ := foldAppend_cut zero P Q rest a0 hw0 hs0 (fun b hb => h b (List.mem_cons_of_mem _ hb))
  refine ⟨r, ?_, h2⟩
  simp only [concatenate, hv, Res.bind_ok]
  exact h1

theorem concatenate_coord (zero : α) (k : Nat) (a0 : Arr α) (rest : List (Arr α))
    (h : ∀ b ∈ a0 :: rest, b.WF ∧ k < b.ndim ∧ b.shape.eraseIdx k = a0.shape.eraseIdx k) :
    ∃ r, concatenate (a0 :: rest) zero (some k) = .ok r ∧
      r.shape = a0.shape.set k (((a0 :: rest).map (axLen k)).sum) ∧ r.WF ∧
      ∀ i (hi : i < (a0 :: rest).length) c, inRange ((a0 :: rest)[i]).shape c = true →
        r.get? (c.set k (offsetOf k (a0 :: rest) i + c.getD k 0)) = ((a0 :: rest)[i]).get? c := by
  obtain ⟨P, Q, rfl, hs, her⟩ := exists_cut a0.shape k (h a0 List.mem_cons_self).2.1
  have hcut : ∀ b ∈ a0 :: rest, b.WF ∧ b.shape = P ++ axLen P.length b :: Q := fun b hb =>
    ⟨(h b hb).1, shape_cut_of_eraseIdx b.shape P.length P Q (h b hb).2.1 rfl ((h b hb).2.2.trans her)⟩
  obtain ⟨r, h1, h2, h3, h4⟩ := concatenate_cut zero P Q a0 rest hcut
  refine ⟨r, h1, by rw [h2, hs, set_mid], h3, fun i hi c hc => ?_⟩
  rw [(hcut _ (List.getElem_mem hi)).2] at hc
  exact shift_of_cut r.get? ((a0 :: rest)[i]).get? (offsetOf P.length (a0 :: rest) i + ·) P Q _ (h4 i hi) c hc

theorem concatenate_singleton (a : Arr α) (zero : α) (k : Nat) (hk : k < a.ndim) :
    concatenate [a] zero (some k) = .ok a := by
  have hd : ¬ (decide (k ≥ a.ndim) = true) := fun h => Nat.not_le.2 hk (of_decide_eq_true h)
  have hv : validateStackShapes [a] k k = .ok () := by
    unfold validateStackShapes
    simp only [List.any_cons, List.any_nil, Bool.or_false, hd, Bool.false_eq_true, if_false, validateStackShapes.go]
  simp only [concatenate, hv, Res.bind_ok, foldAppend, List.foldl_nil]

theorem concatenate_axis0 (zero : α) (Q : List Nat) (a0 : Arr α) (rest : List (Arr α))
    (h : ∀ b ∈ a0 :: rest, b.WF ∧ b.shape = axLen 0 b :: Q) :
    concatenate (a0 :: rest) zero (some 0) =
      .ok ⟨(a0 :: rest).flatMap (·.elems), (((a0 :: rest).map (axLen 0)).sum) :: Q⟩ := by
  obtain ⟨r, h1, h2, h3, h4⟩ := concatenate_cut zero [] Q a0 rest h
  simp only [List.length_nil, List.nil_append] at h1 h2 h4
  rw [h1]; congr 1
  generalize a0 :: rest = arrs at *
  have hlen : ∀ b ∈ arrs, b.elems.length = axLen 0 b * Q.prod := by
    intro b hb; obtain ⟨g1, g2⟩ := h b hb; rw [g1, g2, List.prod_cons]
  have hwfT : (arrs.flatMap (·.elems)).length = ((arrs.map (axLen 0)).sum :: Q).prod := by
    rw [List.length_flatMap, List.prod_cons, ← sum_map_mul]
    congr 1
    exact List.map_congr_left hlen
  apply Arr.ext_get r ⟨arrs.flatMap (fun x : Arr α => x.elems), (arrs.map (axLen 0)).sum :: Q⟩ h3 hwfT h2
  intro c hc
  rw [h2] at hc
  obtain ⟨p, j, q, rfl, hp', hj, hq⟩ := inRange_cut [] Q _ c hc
  have hp0 : p = [] := List.eq_nil_of_length_eq_zero (inRange_length _ _ hp')
  subst hp0
  -- `j` lies in the block of one input `i`, whose elements start at `offsetOf 0 arrs i * Q.prod` of the chain
  obtain ⟨i, d, hi, hd, rfl⟩ := coord_in_block 0 arrs j hj
  have h4' := h4 i hi [] q d rfl hq hd
  simp only [List.nil_append] at h4' ⊢
  rw [h4']
  simp only [Arr.get?, ravel, (h _ (List.getElem_mem hi)).2]
  have hz : d * Q.prod + ravel Q q < (arrs[i]).elems.length := by
    rw [hlen _ (List.getElem_mem hi)]
    exact mul_add_lt hd (ravel_lt _ _ hq)
  rw [← getElem?_flatMap_offset (fun x : Arr α => x.elems) arrs i hi _ hz]
  have e : ((arrs.take i).map (fun x => x.elems.length)).sum = offsetOf 0 arrs i * Q.prod := by
    rw [offsetOf, ← sum_map_mul]
    congr 1
    exact List.map_congr_left (fun b hb => hlen b (List.mem_of_mem_take hb))
  rw [e, Nat.add_mul, Nat.add_assoc]

/-! ### `concatenate(…, None)` -/

theorem foldAppend_none (zero : α) (rest : List (Arr α)) : ∀ (a0 : Arr α),
    foldAppend a0 rest zero none = .ok (rest.foldl appendFlat' a0) := by
  induction rest with
  | nil => exact fun _ => rfl
  | cons b rest ih =>
    intro a0
    have := ih (a0.appendFlat' b)
    simp only [foldAppend, List.foldl_cons, Res.bind_ok, Arr.append] at this ⊢
    exact this

theorem foldl_appendFlat_elems (rest : List (Arr α)) : ∀ (a0 : Arr α),
    (rest.foldl appendFlat' a0).elems = a0.elems ++ rest.flatMap (·.elems) := by
  induction rest with
  | nil => exact fun _ => (List.append_nil _).symm
  | cons b rest ih =>
    intro a0
    rw [List.foldl_cons, ih, List.flatMap_cons, ← List.append_assoc]; rfl

theorem foldl_appendFlat_shape (rest : List (Arr α)) : ∀ (a0 b : Arr α),
    ((b :: rest).foldl appendFlat' a0).shape = [((b :: rest).foldl appendFlat' a0).elems.length] := by
  induction rest with
  | nil => exact fun _ _ => rfl
  | cons c rest ih => exact fun a0 b => ih (a0.appendFlat' b) c

theorem concatenate_none_two (zero : α) (a0 b : Arr α) (rest : List (Arr α)) :
    concatenate (a0 :: b :: rest) zero none = .ok (Arr.flat ((a0 :: b :: rest).flatMap (·.elems))) := by
  simp only [concatenate, Res.bind_ok, foldAppend_none]
  congr 1
  have h1 := foldl_appendFlat_elems (b :: rest) a0
  have h2 := foldl_appendFlat_shape rest a0 b
  cases hr : (b :: rest).foldl appendFlat' a0 with
  | mk E S =>
    rw [hr] at h1 h2
    simp only at h1 h2
    simp only [Arr.flat, List.flatMap_cons] at h1 ⊢
    rw [h2, h1]

theorem concatenate_none_one (zero : α) (a0 : Arr α) : concatenate [a0] zero none = .ok a0 := rfl

theorem concatenate_none_elems (zero : α) (a0 : Arr α) (rest : List (Arr α)) :
    ∃ r, concatenate (a0 :: rest) zero none = .ok r ∧ r.elems = (a0 :: rest).flatMap (·.elems) := by
  refine ⟨rest.foldl appendFlat' a0, by simp only [concatenate, Res.bind_ok, foldAppend_none], ?_⟩
  rw [foldl_appendFlat_elems]; rfl

/-! ### `stack`: guards, then the fold of `append` and a reshape -/

theorem stack_some_eq (zero : α) (k : Nat) (a0 : Arr α) (rest : List (Arr α)) :
    stack (a0 :: rest) zero (some k) =
      if ∃ b ∈ a0 :: rest, b.ndim ≤ k then .err .AxisOutOfBounds
      else if ∃ b ∈ a0 :: rest, b.shape ≠ a0.shape then .err .ParameterError
      else vecInsert a0.shape k (rest.length + 1) >>= fun newShape =>
        foldAppend a0 rest zero (some k) >>= fun r => r.reshape newShape := by
  unfold Arr.stack
  simp only [List.any_eq_true, decide_eq_true_eq, ge_iff_le, Option.getD_some, List.length_cons]

theorem stack_none_eq (zero : α) (a0 : Arr α) (rest : List (Arr α)) :
    stack (a0 :: rest) zero none =
      if ∃ b ∈ a0 :: rest, b.shape ≠ a0.shape then .err .ParameterError
      else vecInsert a0.shape 0 (rest.length + 1) >>= fun newShape =>
        foldAppend a0 rest zero (some 0) >>= fun r => r.reshape newShape := by
  unfold Arr.stack
  simp only [Bool.false_eq_true, if_false, List.any_eq_true, decide_eq_true_eq, Option.getD_none, List.length_cons]

/-- `stack` with an axis that is not inside the rank of some input is refused — in particular the new LAST position
`axis = rank` -/
theorem stack_axis_refused (zero : α) (k : Nat) (arrs : List (Arr α)) (h : ∃ b ∈ arrs, b.ndim ≤ k) :
    stack arrs zero (some k) = .err .AxisOutOfBounds :=
  have ⟨b, hb, hle⟩ := h
  if_pos (List.any_eq_true.2 ⟨b, hb, decide_eq_true hle⟩)

theorem stack_cut (zero : α) (P Q : List Nat) (n : Nat) (a0 : Arr α) (rest : List (Arr α))
    (h : ∀ b ∈ a0 :: rest, b.WF ∧ b.shape = P ++ n :: Q) :
    ∃ r, stack (a0 :: rest) zero (some P.length) = .ok r ∧ r.shape = P ++ (rest.length + 1) :: n :: Q ∧ r.WF ∧
      ∀ i (hi : i < (a0 :: rest).length) p q j, inRange P p = true → inRange Q q = true → j < n →
        r.get? (p ++ i :: j :: q) = ((a0 :: rest)[i]).get? (p ++ j :: q) := by
  have hax : ∀ b ∈ a0 :: rest, axLen P.length b = n := fun b hb => axLen_cut b P Q n (h b hb).2
  have hcut : ∀ b ∈ a0 :: rest, b.WF ∧ b.shape = P ++ axLen P.length b :: Q := by
    intro b hb; rw [hax b hb]; exact h b hb
  obtain ⟨hw0, hs0⟩ := hcut a0 List.mem_cons_self
  obtain ⟨r, h1, h2, h3, h4⟩ := foldAppend_cut zero P Q rest a0 hw0 hs0 (fun b hb => hcut b (List.mem_cons_of_mem _ hb))
  rw [sum_map_const _ n _ hax, List.length_cons] at h2
  have hs0' : a0.shape = P ++ n :: Q := (h a0 List.mem_cons_self).2
  have hprod : (P ++ (rest.length + 1) :: n :: Q).prod = r.elems.length := by
    rw [h3, h2]; simp only [List.prod_append, List.prod_cons, Nat.mul_assoc]
  refine ⟨⟨r.elems, P ++ (rest.length + 1) :: n :: Q⟩, ?_, rfl, hprod.symm, ?_⟩
  · rw [stack_some_eq, if_neg, if_neg, hs0', vecInsert, if_neg (by simp), Res.bind_ok, h1, Res.bind_ok, insertIdx_mid]
    · exact Arr.new_of_prod hprod
    · rintro ⟨b, hb, hne⟩
      exact hne (by rw [(h b hb).2, hs0'])
    · rintro ⟨b, hb, hle⟩
      exact Nat.not_le.2 (lt_ndim_cut b P Q n (h b hb).2) hle
  · intro i hi p q j hp hq hj
    have hoff : offsetOf P.length (a0 :: rest) i = i * n := by
      rw [offsetOf, sum_map_const _ n _ (fun b hb => hax b (List.mem_of_mem_take hb)), List.length_take]
      rw [Nat.min_eq_left (Nat.le_of_lt hi)]
    have := h4 i hi p q j hp hq (by rw [hax _ (List.getElem_mem hi)]; exact hj)
    rw [hoff] at this
    have hpl := (inRange_length _ _ hp).symm
    rw [← this, Arr.get?, Arr.get?, h2, ravel_mid _ _ _ _ _ _ hpl, ravel_mid _ _ _ _ _ _ hpl, ravel, List.prod_cons, lin_stack]

end ArrModel.C11
