import ArrProofs.Lemmas.C18Nest
/-!
# Lemmas for C18 — `build_string`, and `FromStr` of `Tuple2/Tuple3/List` on the text their `Display` prints

The plain form of `build_string` is the canonical nesting `nest`; the pretty form differs from it by white space
(`strip`).  `from_str` trims the outer brackets (`trim_wrapped`), turns `", "` into `","` and splits at the commas: on the
printed text of `SepFree` components this gives the component texts back.
-/
namespace ArrModel.C18

/-! ### Display -/

theorem chunks_one_head (n : Nat) (es : List Str) (hl : es.length = n) :
    (chunks 1 n es).map (fun c => c.headD []) = es := by
  induction n generalizing es with
  | zero => simp at hl; simp [chunks, hl]
  | succ n ih =>
    cases es with
    | nil => simp at hl
    | cons e r =>
      simp only [chunks, List.map_cons, List.take_succ_cons, List.take_zero, List.drop_succ_cons, List.drop_zero,
        List.headD_cons, ih r (by simpa using hl)]

theorem nest_flat (n : Nat) (es : List Str) (hl : es.length = n) :
    nest [n] es = '[' :: joinWith [',', ' '] es ++ [']'] := by
  simp only [nest, List.prod_nil]
  rw [chunks_one_head n es hl]

theorem buildString_eq_nest {α} (pr : α → Str) (pre : Nat) (s : List Nat) (elems : List α)
    (hs : s ≠ []) (hpos : ∀ d ∈ s, 1 ≤ d) (hl : elems.length = s.prod) :
    buildString pr false pre s elems = nest s (elems.map pr) := by
  induction s generalizing elems pre with
  | nil => exact absurd rfl hs
  | cons n s ih =>
    have hp : 1 ≤ (n :: s).prod := prod_pos_of _ hpos
    have hne : elems.isEmpty = false := by
      cases elems with
      | nil => rw [List.length_nil] at hl; omega
      | cons _ _ => rfl
    cases s with
    | nil =>
      simp only [buildString, hne]
      rw [nest_flat n _ (by simpa using hl)]
      simp
    | cons m rest =>
      simp only [buildString, hne, Bool.false_eq_true, if_false]
      rw [nest, chunks_map, List.map_map]
      congr 2
      congr 1
      apply List.map_congr_left
      intro c hc
      have := mem_chunks (by simpa [Nat.mul_comm] using hl) hc
      exact ih (pre + 1) c (by simp) (fun d hd => hpos d (by simp [hd])) this.1

theorem buildString_single {α} (pr : α → Str) (alt : Bool) (pre r : Nat) (x : α) :
    buildString pr alt pre (List.replicate (r + 1) 1) [x] = rep '[' (r + 1) ++ pr x ++ rep ']' (r + 1) := by
  induction r generalizing pre with
  | zero => simp [buildString]
  | succ r ih =>
    have : buildString pr alt pre (List.replicate (r + 1 + 1) 1) [x]
        = '[' :: buildString pr alt (pre + 1) (List.replicate (r + 1) 1) [x] ++ [']'] := by
      simp [List.replicate_succ, buildString, chunks]
    rw [this, ih (pre + 1)]
    simp [List.replicate_succ, rep_snoc]

def notWs (c : Char) : Bool := c != ' ' && c != '\n'
/-- drop blanks and line breaks -/
def strip (s : Str) : Str := s.filter notWs

theorem strip_append (A B : Str) : strip (A ++ B) = strip A ++ strip B := List.filter_append ..

theorem strip_joinWith (sep : Str) (ys : List Str) : strip (joinWith sep ys) = joinWith (strip sep) (ys.map strip) :=
  filter_joinWith notWs sep ys

theorem strip_buildString {α} (pr : α → Str) (pre : Nat) (s : List Nat) (elems : List α) :
    strip (buildString pr true pre s elems) = strip (buildString pr false pre s elems) := by
  induction s generalizing elems pre with
  | nil => simp [buildString]
  | cons n s ih =>
    cases s with
    | nil => simp [buildString]
    | cons m rest =>
      simp only [buildString]
      split
      · rfl
      · simp only [if_true, Bool.false_eq_true, if_false]
        rw [show ∀ X : Str, ('[' :: X ++ [']']) = ['['] ++ X ++ [']'] from fun X => rfl,
          show ∀ X : Str, ('[' :: X ++ [']']) = ['['] ++ X ++ [']'] from fun X => rfl]
        simp only [strip_append, strip_joinWith, List.map_map]
        congr 3
        · simp [strip, rep, notWs]
        · exact List.map_congr_left fun c _ => ih (pre + 1) c

/-! ### text forms of pairs, triples, lists -/

theorem trimStart_cons_mem {cs : List Char} {c : Char} {A : Str} (hc : c ∈ cs) : trimStart cs (c :: A) = trimStart cs A := by
  simp [trimStart, List.dropWhile, hc]

theorem trimStart_of_head {cs : List Char} {A : Str} (h : ∀ c, A.head? = some c → c ∉ cs) : trimStart cs A = A := by
  cases A with
  | nil => rfl
  | cons a A =>
    have := h a rfl
    simp [trimStart, List.dropWhile, this]

theorem trimEnd_snoc_mem {cs : List Char} {c : Char} {A : Str} (hc : c ∈ cs) : trimEnd cs (A ++ [c]) = trimEnd cs A := by
  simp [trimEnd, hc]

theorem trimEnd_of_last {cs : List Char} {A : Str} (h : ∀ c, A.getLast? = some c → c ∉ cs) : trimEnd cs A = A := by
  unfold trimEnd
  have : trimStart cs A.reverse = A.reverse := trimStart_of_head (by simpa using h)
  unfold trimStart at this
  rw [this, List.reverse_reverse]

/-- a text whose characters avoid `,` `(` `)` `[` `]` -/
def SepFree (e : Str) : Prop := ∀ c ∈ e, c ≠ ',' ∧ c ≠ '(' ∧ c ≠ ')' ∧ c ≠ '[' ∧ c ≠ ']'

theorem SepFree.comma {e : Str} (h : SepFree e) : ',' ∉ e := fun hm => (h _ hm).1 rfl

theorem replace_commaSp_join (ts : List Str) (h : ∀ t ∈ ts, ',' ∉ t) :
    replace [',', ' '] [','] (joinWith [',', ' '] ts) = joinWith [','] ts := by
  by_cases hne : ts = []
  · subst hne; rfl
  · have := joinWith_rel (pass_segRel (replace [',', ' '] [','])) (p := Any) (q := Any) id id (fun _ => [])
      [',', ' '] [','] ts hne (fun t ht => pass_noStart (noStart_of_head_not_mem (h t ht)) _) (pass_pat (by simp))
    simpa using this.whole trivial (replace_nil _ _)

/-- `(body)` / `[body]` loses its brackets -/
theorem trim_wrapped (o c : Char) (cs ce : List Char) (body : Str) (ho : o ∈ cs) (hc : c ∈ ce) (hc' : c ∉ cs)
    (hb : ∀ x ∈ body, x ∉ cs ∧ x ∉ ce) :
    trimEnd ce (trimStart cs (o :: (body ++ [c]))) = body := by
  rw [trimStart_cons_mem ho, trimStart_of_head, trimEnd_snoc_mem hc, trimEnd_of_last]
  · intro x hx; exact (hb x (List.mem_of_getLast? hx)).2
  · intro x hx
    cases body with
    | nil => simp at hx; subst hx; exact hc'
    | cons b r => simp at hx; subst hx; exact (hb _ (by simp)).1

theorem mem_join_commaSp {x : Char} {ts : List Str} (h : x ∈ joinWith [',', ' '] ts) :
    x = ',' ∨ x = ' ' ∨ ∃ t ∈ ts, x ∈ t := by
  rcases mem_joinWith h with h | h
  · simp at h; rcases h with h | h; exact Or.inl h; exact Or.inr (Or.inl h)
  · exact Or.inr (Or.inr h)

theorem tupleParts_show (ts : List Str) (h : ∀ t ∈ ts, SepFree t) :
    tupleParts ('(' :: (joinWith [',', ' '] ts ++ [')'])) = splitChar ',' (joinWith [','] ts) := by
  unfold tupleParts
  rw [trim_wrapped '(' ')' ['('] [')'] _ (by simp) (by simp) (by decide), replace_commaSp_join ts (fun t ht => (h t ht).comma)]
  intro x hx
  rcases mem_join_commaSp hx with rfl | rfl | ⟨t, ht, hxt⟩
  · decide
  · decide
  · have := h t ht x hxt
    simp [this.2.1, this.2.2.1]

theorem parseList_show_body (ts : List Str) (h : ∀ t ∈ ts, SepFree t) :
    replace [',', ' '] [','] (trimEnd [')', ']'] (trimStart ['(', '['] ('[' :: (joinWith [',', ' '] ts ++ [']']))))
      = joinWith [','] ts := by
  rw [trim_wrapped '[' ']' ['(', '['] [')', ']'] _ (by simp) (by simp) (by decide), replace_commaSp_join ts (fun t ht => (h t ht).comma)]
  intro x hx
  rcases mem_join_commaSp hx with rfl | rfl | ⟨t, ht, hxt⟩
  · decide
  · decide
  · have := h t ht x hxt
    simp [this.2.1, this.2.2.1, this.2.2.2.1, this.2.2.2.2]

theorem mapM_option_map {α} (sa : α → Str) (pa : Str → Option α) (xs : List α) (h : ∀ x ∈ xs, pa (sa x) = some x) :
    (xs.map sa).mapM pa = some xs := by
  induction xs with
  | nil => rfl
  | cons x r ih =>
    rw [List.map_cons, List.mapM_cons, h x (by simp), ih (fun y hy => h y (by simp [hy]))]
    rfl

end ArrModel.C18
