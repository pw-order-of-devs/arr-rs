import ArrProofs.Lemmas.C19
import ArrProofs.Lemmas.C08List
/-!
# Lemmas for C19 — the reference lane semantics `alongRef` (gather / scatter are inverse)
-/
namespace ArrModel.C19
open ArrModel

/-! ### index arithmetic for `(o, j, i) ↦ (o·m + j)·I + i` -/

theorem idx_decomp (o j i m I : Nat) (hj : j < m) (hi : i < I) :
    ((o * m + j) * I + i) % I = i ∧ ((o * m + j) * I + i) / I = o * m + j ∧
    ((o * m + j) * I + i) / I % m = j ∧ ((o * m + j) * I + i) / (m * I) = o := by
  obtain ⟨h2, h1⟩ := mul_add_divmod (o * m + j) i I hi
  obtain ⟨h4, h3⟩ := mul_add_divmod o j m hj
  exact ⟨h1, h2, by rw [h2, h3], by rw [Nat.mul_comm m I, ← Nat.div_div_eq_div_mul, h2, h4]⟩

theorem idx_recomp (p m I : Nat) :
    (p / (m * I) * m + p / I % m) * I + p % I = p := by
  have h1 : p / (m * I) = p / I / m := by rw [Nat.mul_comm m I, Nat.div_div_eq_div_mul]
  rw [h1]
  have h2 : p / I / m * m + p / I % m = p / I := by rw [Nat.mul_comm]; exact Nat.div_add_mod (p / I) m
  rw [h2, Nat.mul_comm]; exact Nat.div_add_mod p I

/-! ### lists -/

theorem laneAt_length (xs : List Nat) (n I o i : Nat) : (laneAt xs n I o i).length = n := by simp [laneAt]
theorem lanes_length (xs : List Nat) (O n I : Nat) : (lanes xs O n I).length = O * I := by simp [lanes]
theorem unlanes_length (ls : List (List Nat)) (O m I : Nat) : (unlanes ls O m I).length = O * m * I := by
  simp [unlanes]

theorem mem_lanes_length (xs : List Nat) (O n I : Nat) : ∀ l ∈ lanes xs O n I, l.length = n := by
  intro l hl
  simp only [lanes, List.mem_map] at hl
  obtain ⟨q, _, rfl⟩ := hl
  exact laneAt_length _ _ _ _ _

/-- the elements of a lane are elements of the array (for in-range lanes) -/
theorem mem_lanes_mem (xs : List Nat) (O n I : Nat) (hI : 0 < I) (hlen : xs.length = O * n * I) :
    ∀ l ∈ lanes xs O n I, ∀ b ∈ l, b ∈ xs := by
  intro l hl b hb
  simp only [lanes, List.mem_map, List.mem_range] at hl
  obtain ⟨q, hq, rfl⟩ := hl
  simp only [laneAt, List.mem_map, List.mem_range] at hb
  obtain ⟨j, hj, rfl⟩ := hb
  have ho : q / I < O := (Nat.div_lt_iff_lt_mul hI).2 hq
  have hlt : (q / I * n + j) * I + q % I < xs.length := by
    rw [hlen]; exact mul_add_lt (mul_add_lt ho hj) (Nat.mod_lt _ hI)
  rw [getD_eq_getElem _ hlt]
  exact List.getElem_mem hlt

/-- **gather ∘ scatter = id** -/
theorem lanes_unlanes (ls : List (List Nat)) (O m I : Nat) (hI : 0 < I) (hlen : ls.length = O * I)
    (hm : ∀ l ∈ ls, l.length = m) : lanes (unlanes ls O m I) O m I = ls := by
  apply List.ext_getElem (by simp [lanes, hlen])
  intro q h1 h2
  have hq : q < O * I := by simpa [lanes] using h1
  simp only [lanes, List.getElem_map, List.getElem_range]
  apply List.ext_getElem (by simp [laneAt, hm _ (List.getElem_mem h2)])
  intro j hj1 hj2
  have hj : j < m := by simpa [laneAt] using hj1
  simp only [laneAt, List.getElem_map, List.getElem_range]
  have ho : q / I < O := (Nat.div_lt_iff_lt_mul hI).2 hq
  have hi : q % I < I := Nat.mod_lt _ hI
  obtain ⟨d1, _, d3, d4⟩ := idx_decomp (q / I) j (q % I) m I hj hi
  unfold unlanes
  rw [getD_map_range, if_pos (mul_add_lt (mul_add_lt ho hj) hi), d4, d1, d3]
  rw [Nat.div_add_mod' q I, getD_eq_getElem _ h2, getD_eq_getElem _ hj2]

/-- **scatter ∘ gather = id** -/
theorem unlanes_lanes (xs : List Nat) (O n I : Nat) (hn : 0 < n) (hI : 0 < I) (hlen : xs.length = O * n * I) :
    unlanes (lanes xs O n I) O n I = xs := by
  apply List.ext_getElem (by simp [unlanes, hlen])
  intro p h1 h2
  simp only [unlanes, List.getElem_map, List.getElem_range]
  have hp : p < O * n * I := by rw [← hlen]; exact h2
  have ho : p / (n * I) < O := by
    rw [Nat.div_lt_iff_lt_mul (Nat.mul_pos hn hI), ← Nat.mul_assoc]; exact hp
  have hi : p % I < I := Nat.mod_lt _ hI
  have hq : p / (n * I) * I + p % I < O * I := by
    have : (p / (n * I) + 1) * I ≤ O * I := Nat.mul_le_mul_right I ho
    rw [Nat.add_mul] at this; omega
  obtain ⟨q1, q2⟩ := mul_add_divmod (p / (n * I)) (p % I) I hi
  unfold lanes
  rw [getD_map_range, if_pos hq, q1, q2]
  unfold laneAt
  rw [getD_map_range, if_pos (Nat.mod_lt _ hn), idx_recomp p n I, getD_eq_getElem _ h2]

/-! ### shapes -/

theorem prod_split : ∀ (s : List Nat) (k : Nat), k < s.length →
    s.prod = (s.take k).prod * s.getD k 0 * (s.drop (k + 1)).prod
  | [], k, h => by simp at h
  | d :: ds, 0, _ => by simp
  | d :: ds, k + 1, h => by
    have ih := prod_split ds k (by simpa using h)
    simp only [List.prod_cons, List.take_succ_cons, List.drop_succ_cons, List.getD_cons_succ]
    rw [ih]; simp [Nat.mul_assoc]

/-! ### the lifting obligation and its proof for the reference semantics -/

/-- an `apply_along_axis` through which a lane-wise inverse pair `(f, g)` — `f` sends every lane of length
`shape[k]` to a 1-D array of one common length `m > 0`, `g` sends that back — lifts to an array-wise inverse pair;
rank and non-emptiness are kept so that the second call sees the same axis.  (The obligation on the axis
machinery: the shared axis model discharges it for the crate's pipeline, `alongRef_lifts` for `alongRef`.) -/
def AlongLifts (along : Along) (a : Arr Nat) (k : Nat) : Prop :=
  ∀ (f g : Arr Nat → Res (Arr Nat)) (m : Nat), 0 < m →
    (∀ l : List Nat, l.length = a.shape.getD k 0 → (∀ b ∈ l, b ∈ a.elems) →
        ∃ r : List Nat, r.length = m ∧ f (Arr.flat l) = .ok (Arr.flat r) ∧ g (Arr.flat r) = .ok (Arr.flat l)) →
    -- both lane functions are total with a fixed output length (what `apply_along_axis` needs to run at all)
    (∀ l : List Nat, l.length = a.shape.getD k 0 → ∃ r, f (Arr.flat l) = .ok r ∧ r.elems.length = m) →
    (∀ l : List Nat, l.length = m → ∃ r, g (Arr.flat l) = .ok r ∧ r.elems.length = a.shape.getD k 0) →
    ∃ u, along a k f = .ok u ∧ u.ndim = a.ndim ∧ u.isEmpty = false ∧ along u k g = .ok a

/-- the lengths that `alongRef` splits the element list by: outer × axis × inner, all positive on a non-empty array -/
theorem axis_split (a : Arr Nat) (k : Nat) (hwf : a.WF) (hk : k < a.ndim) (hne : a.isEmpty = false) :
    a.elems.length = (a.shape.take k).prod * a.shape.getD k 0 * (a.shape.drop (k + 1)).prod ∧
    0 < (a.shape.take k).prod ∧ 0 < a.shape.getD k 0 ∧ 0 < (a.shape.drop (k + 1)).prod := by
  have hlen := hwf.trans (prod_split a.shape k hk)
  have hpos : a.elems.length ≠ 0 := by simpa [Arr.isEmpty] using hne
  rw [hlen] at hpos
  exact ⟨hlen, Nat.pos_of_ne_zero fun h => hpos (by rw [h, Nat.zero_mul, Nat.zero_mul]),
    Nat.pos_of_ne_zero fun h => hpos (by rw [h, Nat.mul_zero, Nat.zero_mul]),
    Nat.pos_of_ne_zero fun h => hpos (by rw [h, Nat.mul_zero])⟩

/-- value of `alongRef` when the lane function sends every lane `l` of `a` to `g l`, all with `m` elements -/
theorem alongRef_eq (a : Arr Nat) (k : Nat) (hk : k < a.ndim) (f : Arr Nat → Res (Arr Nat)) (g : List Nat → Arr Nat) (m : Nat)
    (hpos : 0 < (a.shape.take k).prod * (a.shape.drop (k + 1)).prod)
    (hf : ∀ l ∈ lanes a.elems (a.shape.take k).prod (a.shape.getD k 0) (a.shape.drop (k + 1)).prod,
      f (Arr.flat l) = .ok (g l) ∧ (g l).elems.length = m) :
    alongRef a k f = .ok ⟨unlanes ((lanes a.elems (a.shape.take k).prod (a.shape.getD k 0) (a.shape.drop (k + 1)).prod).map
      fun l => (g l).elems) (a.shape.take k).prod m (a.shape.drop (k + 1)).prod, a.shape.set k m⟩ := by
  unfold alongRef
  rw [if_neg (Nat.not_le.2 hk)]
  simp only
  rw [Res.mapM'_ok fun l hl => (hf l hl).1, Res.bind_ok]
  cases hL : lanes a.elems (a.shape.take k).prod (a.shape.getD k 0) (a.shape.drop (k + 1)).prod with
  | nil =>
    have := lanes_length a.elems (a.shape.take k).prod (a.shape.getD k 0) (a.shape.drop (k + 1)).prod
    rw [hL] at this
    exact absurd this.symm (Nat.ne_of_gt hpos)
  | cons l0 L' =>
    simp only [List.map_cons, List.map_map, Function.comp_def]
    rw [(hf l0 (by rw [hL]; exact List.mem_cons_self)).2]

theorem alongRef_lifts (a : Arr Nat) (k : Nat) (hwf : a.WF) (hk : k < a.ndim) (hne : a.isEmpty = false) :
    AlongLifts alongRef a k := by
  intro f g m hm hfg _ _
  have hk' : k < a.shape.length := hk
  obtain ⟨hlen, hO, hn, hI⟩ := axis_split a k hwf hk hne
  -- the values of `f` and `g` as functions of the lane
  obtain ⟨F, hF⟩ : ∃ F : List Nat → Arr Nat, ∀ l r, f (Arr.flat l) = .ok r → F l = r :=
    ⟨fun l => match f (Arr.flat l) with | .ok r => r | _ => Arr.flat [], fun l r h => by simp only [h]⟩
  obtain ⟨G, hG⟩ : ∃ G : List Nat → Arr Nat, ∀ l r, g (Arr.flat l) = .ok r → G l = r :=
    ⟨fun l => match g (Arr.flat l) with | .ok r => r | _ => Arr.flat [], fun l r h => by simp only [h]⟩
  generalize hOd : (a.shape.take k).prod = O at hlen hO
  generalize hnd : a.shape.getD k 0 = n at hlen hn hfg
  generalize hId : (a.shape.drop (k + 1)).prod = I at hlen hI
  have hlane : ∀ l ∈ lanes a.elems O n I, ∃ r : List Nat, r.length = m ∧ f (Arr.flat l) = .ok (Arr.flat r) ∧
      g (Arr.flat r) = .ok (Arr.flat l) ∧ F l = Arr.flat r ∧ G r = Arr.flat l := by
    intro l hl
    obtain ⟨r, h1, h2, h3⟩ := hfg l (mem_lanes_length _ _ _ _ l hl) (mem_lanes_mem _ _ _ _ hI hlen l hl)
    exact ⟨r, h1, h2, h3, hF _ _ h2, hG _ _ h3⟩
  -- first pass
  have hu := alongRef_eq a k hk f F m (by rw [hOd, hId]; exact Nat.mul_pos hO hI) (by
    rw [hOd, hnd, hId]
    intro l hl
    obtain ⟨r, h1, h2, _, h4, _⟩ := hlane l hl
    exact ⟨h4 ▸ h2, h4 ▸ h1⟩)
  rw [hOd, hnd, hId] at hu
  have hmid : lanes (unlanes ((lanes a.elems O n I).map fun l => (F l).elems) O m I) O m I =
      (lanes a.elems O n I).map fun l => (F l).elems :=
    lanes_unlanes _ O m I hI (by rw [List.length_map, lanes_length]) (by
      intro l' hl'
      obtain ⟨l, hl, rfl⟩ := List.mem_map.1 hl'
      obtain ⟨r, h1, _, _, h4, _⟩ := hlane l hl
      rw [h4]; exact h1)
  refine ⟨_, hu, by simp [Arr.ndim], ?_, ?_⟩
  · have : O * m * I ≠ 0 := Nat.mul_ne_zero (Nat.mul_ne_zero (by omega) (by omega)) (by omega)
    simpa [Arr.isEmpty, unlanes_length] using this
  -- second pass: the same axis, the lanes are the images of the lanes of `a`
  · have hv := alongRef_eq ⟨unlanes ((lanes a.elems O n I).map fun l => (F l).elems) O m I, a.shape.set k m⟩ k
      (by simpa [Arr.ndim] using hk') g G n
    simp only [List.take_set_of_le (Nat.le_refl k), List.drop_set_of_lt (Nat.lt_succ_self k), getD_set_self _ _ _ hk',
      hOd, hId, hmid] at hv
    rw [hv (Nat.mul_pos hO hI) (by
      intro l' hl'
      obtain ⟨l, hl, rfl⟩ := List.mem_map.1 hl'
      obtain ⟨r, _, _, h3, h4, h5⟩ := hlane l hl
      rw [h4]
      show g (Arr.flat r) = .ok (G r) ∧ (G r).elems.length = n
      rw [h5]
      exact ⟨h3, mem_lanes_length _ _ _ _ l hl⟩)]
    have hback : ((lanes a.elems O n I).map fun l => (F l).elems).map (fun l => (G l).elems) = lanes a.elems O n I := by
      rw [List.map_map, List.map_congr_left (g := id), List.map_id]
      intro l hl
      obtain ⟨r, _, _, _, h4, h5⟩ := hlane l hl
      simp only [Function.comp_def, h4, id]
      exact congrArg Arr.elems h5
    rw [hback, unlanes_lanes a.elems O n I hn hI hlen, ← hnd, List.set_set, set_getD_self]

end ArrModel.C19
