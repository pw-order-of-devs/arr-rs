import ArrProofs.Lemmas.C08Empty
import ArrProofs.Lemmas.C10Basic
/-!
# C10 lemmas, part 5 — lane functions through `apply_along_axis`

Built on the stage lemmas of `Lemmas/C08AlongAxis`, `C08Reduce`, `C08Empty`.  Everything up to
`keepdimsTail_single_total` is about `apply_along_axis` with an arbitrary lane function and says nothing of sorting; it
stands in namespace `ArrModel.Sort` beside its users.
* `lanesOf a axis`: the lanes of `a` along `axis` in the order in which `apply_along_axis` processes them
  (`mem_lanesOf`: exactly the lanes `laneOf a axis cd` through the positions of `a`).
* `applyAlongAxis_pure`: the COMPLETE outcome of `apply_along_axis` for a lane function that answers `Ok(flat (g lane))`
  on every lane, whatever the lengths of the `g lane` (`unique(axis)`): with `k0` = the length of the FIRST lane's answer
  and `buf` = the concatenation of all answers, the call answers `Ok` (shape with the axis replaced by `k0`, `buf` read
  back along the axis) exactly when `rest.prod * k0 = buf.length`, and `Err(ShapeMustMatchValuesLength)` otherwise.
* `length_flatMap_le`, `length_flatMap_lt`: the length of `buf` for two families of answers compared lane by lane (lanes
  of `unique(axis)` against `k0`).
* `applyAlongAxis_lanes_uniform`: when every lane's answer has the same length `m` the result has `shape[axis := m]`
  and every lane of the result is `g` of the corresponding input lane; `along_lanewise` is the length-preserving case
  (sort, argsort).
* `countAxis_single`: a one-element lane function behind the `keepdims` wrapper `countAxis` (argmax, argmin).
* `along_zero_*`: arrays with a zero-length axis.
* `single_atleast_total`, `keepdimsTail_single_total`: what follows `Array::single(p)` in the flat argmax / argmin answers
  `Ok` with a well-formed array or an error value.

About the lane functions of this property:
* `lanesOf_headD` (the first lane processed is the lane through the origin) and `uniqueFlat_eq_model_sort` (the sort
  inside `unique` is the model's `merge_sort`, which `decide` can run): what the `unique(axis)` examples need.
* `before`, `rankOf`, `perm_range_eq_count`, `rank_unique`: the closed form of `argsort` and the uniqueness of a list of
  positions with its three facts.
-/
namespace ArrModel.Sort
open ArrModel Arr

variable {α β : Type}

/-- the lanes of `a` along `axis`, in processing order: lane number `k` runs through the position whose remaining
coordinates are `unravel rest k` -/
def lanesOf (a : Arr α) (axis : Nat) : List (List α) :=
  (List.range (a.shape.eraseIdx axis).prod).map
    (fun k => laneOf a axis ((unravel (a.shape.eraseIdx axis) k).insertIdx axis 0))

theorem lanesOf_length (a : Arr α) (axis : Nat) : (lanesOf a axis).length = (a.shape.eraseIdx axis).prod := by
  simp [lanesOf]

/-- the position `unravel rest k` with `0` inserted at the axis is a position of `a` -/
theorem lanePos_inRange (a : Arr α) (axis k : Nat) (hax : axis < a.ndim) (hnz : 0 ∉ a.shape)
    (hk : k < (a.shape.eraseIdx axis).prod) :
    inRange a.shape ((unravel (a.shape.eraseIdx axis) k).insertIdx axis 0) = true := by
  have hax' : axis < a.shape.length := hax
  have hn : 0 < a.shape.getD axis 0 := getD_mem_pos _ _ hax hnz
  have h := inRange_insertIdx _ _ axis (a.shape.getD axis 0) 0 (ravel_unravel _ k hk).2 hn
  rwa [insertIdx_eraseIdx_self _ _ _ hax', set_getD_self] at h

/-- the lane through a position `cd` of `a` is lane number `ravel rest (cd without the axis)` -/
theorem laneOf_eq_lanesOf (a : Arr α) (axis : Nat) (cd : List Nat) (hax : axis < a.ndim)
    (hcd : inRange a.shape cd = true) :
    ∃ h : ravel (a.shape.eraseIdx axis) (cd.eraseIdx axis) < (lanesOf a axis).length,
      (lanesOf a axis)[ravel (a.shape.eraseIdx axis) (cd.eraseIdx axis)] = laneOf a axis cd := by
  have hax' : axis < a.shape.length := hax
  have hc' : inRange (a.shape.eraseIdx axis) (cd.eraseIdx axis) = true := inRange_eraseIdx _ _ axis hcd
  have hlt := ravel_lt _ _ hc'
  have hcl : cd.length = a.shape.length := inRange_length _ _ hcd
  refine ⟨by rw [lanesOf_length]; exact hlt, ?_⟩
  simp only [lanesOf, List.getElem_map, List.getElem_range]
  rw [unravel_ravel _ _ hc', insertIdx_eraseIdx_self _ _ _ (by omega), laneOf_set]

theorem mem_lanesOf (a : Arr α) (axis : Nat) (hax : axis < a.ndim) (hnz : 0 ∉ a.shape) (lane : List α) :
    lane ∈ lanesOf a axis ↔ ∃ cd, inRange a.shape cd = true ∧ lane = laneOf a axis cd := by
  constructor
  · intro h
    simp only [lanesOf, List.mem_map, List.mem_range] at h
    obtain ⟨k, hk, rfl⟩ := h
    exact ⟨_, lanePos_inRange a axis k hax hnz hk, rfl⟩
  · rintro ⟨cd, hcd, rfl⟩
    obtain ⟨h, e⟩ := laneOf_eq_lanesOf a axis cd hax hcd
    rw [← e]; exact List.getElem_mem h

/-- after the axis has been moved last, the consecutive chunks of the buffer are the lanes in processing order -/
theorem chunks_eq_lanesOf (a arr : Arr α) (axis : Nat) (hax : axis < a.ndim) (hnz : 0 ∉ a.shape)
    (hs : arr.shape = a.shape.eraseIdx axis ++ [a.shape.getD axis 0])
    (hget : ∀ c, inRange a.shape c = true → arr.get? (c.eraseIdx axis ++ [c.getD axis 0]) = a.get? c) :
    (List.range (a.shape.eraseIdx axis).prod).map
        (fun k => Arr.flat ((arr.elems.drop (k * a.shape.getD axis 0)).take (a.shape.getD axis 0)))
      = (lanesOf a axis).map Arr.flat := by
  simp only [lanesOf, List.map_map]
  apply List.map_congr_left
  intro k hk
  have hk' : k < (a.shape.eraseIdx axis).prod := by simpa using hk
  have hin := lanePos_inRange a axis k hax hnz hk'
  have hl : (unravel (a.shape.eraseIdx axis) k).length = (a.shape.eraseIdx axis).length := unravel_length _ _
  have hrl := length_eraseIdx_ndim a axis hax
  have hin' : inRange (a.shape.set axis (a.shape.getD axis 0))
      ((unravel (a.shape.eraseIdx axis) k).insertIdx axis 0) = true := by rw [set_getD_self]; exact hin
  have := chunk_eq_lane a arr axis (a.shape.getD axis 0) _ hax hs hget hin'
  rw [List.eraseIdx_insertIdx_self, (ravel_unravel _ k hk').1] at this
  simp only [Function.comp, this]

/-- **complete outcome of `apply_along_axis` for a lane function that succeeds with arbitrary output lengths** -/
theorem applyAlongAxis_pure (a : Arr α) (zero : α) (zb : β) (axis : Nat) (f : Arr α → Res (Arr β)) (g : List α → List β)
    (hwf : a.WF) (hax : axis < a.ndim) (hnz : 0 ∉ a.shape)
    (hf : ∀ lane ∈ lanesOf a axis, f (Arr.flat lane) = .ok (Arr.flat (g lane))) :
    ((a.shape.eraseIdx axis).prod * (g ((lanesOf a axis).headD [])).length = ((lanesOf a axis).flatMap g).length →
      ∃ r, a.applyAlongAxis zero zb axis f = .ok r ∧
        r.shape = a.shape.set axis (g ((lanesOf a axis).headD [])).length ∧ r.WF ∧
        ∀ c' j, inRange (a.shape.eraseIdx axis) c' = true → j < (g ((lanesOf a axis).headD [])).length →
          r.get? (c'.insertIdx axis j) =
            ((lanesOf a axis).flatMap g)[ravel (a.shape.eraseIdx axis) c' * (g ((lanesOf a axis).headD [])).length + j]?) ∧
    ((a.shape.eraseIdx axis).prod * (g ((lanesOf a axis).headD [])).length ≠ ((lanesOf a axis).flatMap g).length →
      a.applyAlongAxis zero zb axis f = .err .ShapeMustMatchValuesLength) := by
  have hax' : axis < a.shape.length := hax
  have hP : 0 < (a.shape.eraseIdx axis).prod := prod_pos_of_not_mem _ (not_mem_eraseIdx _ _ hnz)
  have hLl := lanesOf_length a axis
  obtain ⟨arr, ha2, _, ha4, happ⟩ := applyAlongAxis_chunks a zero zb axis hwf hax hnz
  rw [happ, chunks_eq_lanesOf a arr axis hax hnz ha2 ha4]
  generalize lanesOf a axis = L at *
  -- the outputs, the first of them, their concatenation
  have ho1 : Res.mapM' f (L.map Arr.flat) = .ok (L.map fun l => Arr.flat (g l)) := by
    rw [mapM'_ok f (fun x => Arr.flat (g x.elems)) _ fun x hx => by
      obtain ⟨lane, hl, rfl⟩ := List.mem_map.1 hx; exact hf lane hl, List.map_map]
    rfl
  obtain ⟨l0, lt, rfl⟩ := List.exists_cons_of_ne_nil (l := L) (by intro h0; rw [h0] at hLl; exact absurd hLl (Nat.ne_of_lt hP))
  have hflat : ((l0 :: lt).map fun l => Arr.flat (g l)).flatMap (·.elems) = (l0 :: lt).flatMap g := List.flatMap_map ..
  have hidx : Res.idx ((l0 :: lt).map fun l => Arr.flat (g l)) 0 = .ok (Arr.flat (g l0)) := rfl
  have hlen0 : (Arr.flat (g l0)).len = (g l0).length := rfl
  unfold alongAssemble
  rw [ho1, Res.bind_ok, hflat, hidx, Res.bind_ok, hlen0, List.headD_cons]
  have hprod : (a.shape.eraseIdx axis ++ [(g l0).length]).prod = (a.shape.eraseIdx axis).prod * (g l0).length := by
    rw [List.prod_append, List.prod_singleton]
  constructor
  · intro heq
    obtain ⟨r, hr1, hr2, hr3, hr4⟩ := moveBack_spec ⟨(l0 :: lt).flatMap g, a.shape.eraseIdx axis ++ [(g l0).length]⟩ zb
      (a.shape.eraseIdx axis) (g l0).length axis (hprod.trans heq).symm rfl (by rw [length_eraseIdx_ndim a axis hax]; omega)
    refine ⟨r, ?_, ?_, hr3, ?_⟩
    · rw [show (Arr.flat ((l0 :: lt).flatMap g)).reshape _ = .ok _ from Arr.new_of_prod (hprod.trans heq), Res.bind_ok]
      exact hr1
    · rw [hr2, insertIdx_eraseIdx_self _ _ _ hax']
    · intro c' j hc hj
      rw [hr4 c' j hc hj]
      show ((l0 :: lt).flatMap g)[ravel (a.shape.eraseIdx axis ++ [(g l0).length]) (c' ++ [j])]? = _
      rw [ravel_append_singleton _ _ _ _ (inRange_length _ _ hc).symm]
  · intro hneq
    rw [show (Arr.flat ((l0 :: lt).flatMap g)).reshape _ = .err .ShapeMustMatchValuesLength from
      Arr.new_of_not_prod (by rw [hprod]; exact hneq)]
    rfl

/-- lists produced by `g₁` no longer than those produced by `g₂`, summed over `L` -/
theorem length_flatMap_le {ι γ : Type} (g₁ : ι → List β) (g₂ : ι → List γ) : ∀ (L : List ι),
    (∀ l ∈ L, (g₁ l).length ≤ (g₂ l).length) → (L.flatMap g₁).length ≤ (L.flatMap g₂).length
  | [], _ => Nat.le_refl _
  | x :: xs, h => by
    have ih := length_flatMap_le g₁ g₂ xs (fun l hl => h l (List.mem_cons_of_mem _ hl))
    have hx := h x List.mem_cons_self
    rw [List.flatMap_cons, List.flatMap_cons, List.length_append, List.length_append]
    exact Nat.add_le_add hx ih

/-- … and strictly shorter as soon as one of them is -/
theorem length_flatMap_lt {ι γ : Type} (g₁ : ι → List β) (g₂ : ι → List γ) (L : List ι)
    (h : ∀ l ∈ L, (g₁ l).length ≤ (g₂ l).length) (hex : ∃ l ∈ L, (g₁ l).length < (g₂ l).length) :
    (L.flatMap g₁).length < (L.flatMap g₂).length := by
  obtain ⟨l, hl, hlt⟩ := hex
  obtain ⟨L₁, L₂, rfl⟩ := List.append_of_mem hl
  have h₁ := length_flatMap_le g₁ g₂ L₁ fun x hx => h x (List.mem_append_left _ hx)
  have h₂ := length_flatMap_le g₁ g₂ L₂ fun x hx => h x (List.mem_append_right _ (List.mem_cons_of_mem _ hx))
  simp only [List.flatMap_append, List.flatMap_cons, List.length_append]
  omega

/-- **uniform output length**: every lane of `a` is mapped to `m` elements — the result has `shape[axis := m]` and
every lane of the result is `g` of the corresponding lane of `a` -/
theorem applyAlongAxis_lanes_uniform (a : Arr α) (zero : α) (zb : β) (axis m : Nat) (f : Arr α → Res (Arr β))
    (g : List α → List β) (hwf : a.WF) (hax : axis < a.ndim) (hnz : 0 ∉ a.shape)
    (hf : ∀ cd, inRange a.shape cd = true → f (Arr.flat (laneOf a axis cd)) = .ok (Arr.flat (g (laneOf a axis cd))))
    (hm : ∀ cd, inRange a.shape cd = true → (g (laneOf a axis cd)).length = m) :
    ∃ r, a.applyAlongAxis zero zb axis f = .ok r ∧ r.shape = a.shape.set axis m ∧ r.WF ∧
      ∀ cd, inRange a.shape cd = true → laneOf r axis cd = g (laneOf a axis cd) := by
  have hax' : axis < a.shape.length := hax
  have hP : 0 < (a.shape.eraseIdx axis).prod := prod_pos_of_not_mem _ (not_mem_eraseIdx _ _ hnz)
  have hmem := mem_lanesOf a axis hax hnz
  have hf' : ∀ lane ∈ lanesOf a axis, f (Arr.flat lane) = .ok (Arr.flat (g lane)) := by
    intro lane hl; obtain ⟨cd, hcd, rfl⟩ := (hmem lane).1 hl; exact hf cd hcd
  have hm' : ∀ lane ∈ lanesOf a axis, (g lane).length = m := by
    intro lane hl; obtain ⟨cd, hcd, rfl⟩ := (hmem lane).1 hl; exact hm cd hcd
  have hLl := lanesOf_length a axis
  have hhead : (lanesOf a axis).headD [] ∈ lanesOf a axis := by
    cases hL : lanesOf a axis with
    | nil => rw [hL] at hLl; simp at hLl; omega
    | cons x xs => simp
  have hk0 : (g ((lanesOf a axis).headD [])).length = m := hm' _ hhead
  have hsum : ((lanesOf a axis).flatMap g).length = (a.shape.eraseIdx axis).prod * m := by
    rw [length_flatMap_uniform g m _ hm', hLl]
  obtain ⟨r, h1, h2, h3, h4⟩ := (applyAlongAxis_pure a zero zb axis f g hwf hax hnz hf').1 (by rw [hk0, hsum])
  rw [hk0] at h2
  refine ⟨r, h1, h2, h3, ?_⟩
  intro cd hcd
  have hcl : cd.length = a.shape.length := inRange_length _ _ hcd
  have hc' : inRange (a.shape.eraseIdx axis) (cd.eraseIdx axis) = true := inRange_eraseIdx _ _ axis hcd
  have hrs : r.shape.set axis (a.shape.getD axis 0) = a.shape := by rw [h2, List.set_set, set_getD_self]
  have hcr : inRange (r.shape.set axis (a.shape.getD axis 0)) cd = true := by rw [hrs]; exact hcd
  have hrget : r.shape.getD axis 0 = m := by rw [h2]; exact getD_set_self _ _ _ hax'
  have hlr : (laneOf r axis cd).length = m := by rw [laneOf_length r axis _ cd h3 hcr, hrget]
  apply List.ext_getElem?
  intro j
  by_cases hj : j < m
  · rw [laneOf_getElem? r axis _ cd h3 hcr j (by rw [hrget]; exact hj)]
    have h4' := h4 (cd.eraseIdx axis) j hc' (by rw [hk0]; exact hj)
    rw [insertIdx_eraseIdx_self _ _ _ (by omega)] at h4'
    rw [h4', hk0]
    obtain ⟨hlt, he⟩ := laneOf_eq_lanesOf a axis cd hax hcd
    rw [getElem?_flatMap_uniform g m _ _ j hlt hm' hj, he]
  · rw [List.getElem?_eq_none (by omega), List.getElem?_eq_none (by rw [hm cd hcd]; omega)]

/-- `apply_along_axis` with a lane function `f` that maps every lane `l` to the 1-D array `g l` of the same length:
the shape is kept and **every lane of the result is `g` of the corresponding input lane** -/
theorem along_lanewise (a : Arr α) (zero : α) (zb : β) (axis : Nat) (f : Arr α → Res (Arr β)) (g : List α → List β)
    (hwf : a.WF) (hax : axis < a.ndim) (hnz : 0 ∉ a.shape)
    (hg : ∀ lane : List α, lane.length = a.shape.getD axis 0 →
      f (Arr.flat lane) = .ok (Arr.flat (g lane)) ∧ (g lane).length = lane.length) :
    ∃ r, a.applyAlongAxis zero zb axis f = .ok r ∧ r.shape = a.shape ∧ r.WF ∧
      ∀ c, inRange a.shape c = true → laneOf r axis c = g (laneOf a axis c) := by
  have hl : ∀ cd, inRange a.shape cd = true → (laneOf a axis cd).length = a.shape.getD axis 0 :=
    fun cd hcd => laneOf_length a axis _ cd hwf (by rw [set_getD_self]; exact hcd)
  obtain ⟨r, h1, h2, h3, h4⟩ := applyAlongAxis_lanes_uniform a zero zb axis (a.shape.getD axis 0) f g hwf hax hnz
    (fun cd hcd => (hg _ (hl cd hcd)).1) (fun cd hcd => (hg _ (hl cd hcd)).2.trans (hl cd hcd))
  exact ⟨r, h1, by rw [h2, set_getD_self], h3, h4⟩

/-- the `keepdims` wrapper `countAxis` around a lane function returning one element (argmax / argmin):
`keepdims = Some(true)` keeps the axis with length 1, otherwise the axis is removed; the value at every position of
the remaining axes is the element returned on the lane through that position -/
theorem countAxis_single (a : Arr α) (zero : α) (zb : β) (ax : Int) (kd : Option Bool)
    (f1 : Arr α → Option Bool → Res (Arr β))
    (hwf : a.WF) (hnz : 0 ∉ a.shape) (hax : normalizeAxis a.ndim ax < a.ndim)
    (hf : ∀ lane : List α, lane.length = a.shape.getD (normalizeAxis a.ndim ax) 0 →
      ∃ y, f1 (Arr.flat lane) kd = .ok y ∧ y.elems.length = 1) :
    ∃ r, a.countAxis zero zb (some ax) kd f1 = .ok r ∧
      r.shape = (if kd = some true then a.shape.set (normalizeAxis a.ndim ax) 1
                 else a.shape.eraseIdx (normalizeAxis a.ndim ax)) ∧
      r.WF ∧
      ∀ c, inRange (a.shape.eraseIdx (normalizeAxis a.ndim ax)) c = true →
        ∃ y v, f1 (Arr.flat (laneOf a (normalizeAxis a.ndim ax) (c.insertIdx (normalizeAxis a.ndim ax) 0))) kd = .ok y ∧
          y.elems = [v] ∧
          r.get? (if kd = some true then c.insertIdx (normalizeAxis a.ndim ax) 0 else c) = some v := by
  generalize haxis : normalizeAxis a.ndim ax = axis at *
  have hax' : axis < a.shape.length := hax
  obtain ⟨r, h1, h2, h3, h4, h5⟩ := applyAlongAxis_single a zero zb axis (fun arr => f1 arr kd) hwf hax hnz hf
  by_cases hkd : kd = some true
  · subst hkd
    refine ⟨r, ?_, by simp [h2], h3, ?_⟩
    · simp only [Arr.countAxis, haxis, h1, Res.bind_ok, if_true]
    · intro c hc
      obtain ⟨y, v, e1, e2, _, e4⟩ := h5 c hc
      exact ⟨y, v, e1, e2, by simpa using e4⟩
  · refine ⟨⟨r.elems, a.shape.eraseIdx axis⟩, ?_, by simp [hkd], h4, ?_⟩
    · simp only [Arr.countAxis, haxis, h1, Res.bind_ok, if_neg hkd]
      rw [removeAxis_reshape r a.shape axis hax', Arr.new_of_prod h4.symm]
    · intro c hc
      obtain ⟨y, v, e1, e2, e3, _⟩ := h5 c hc
      exact ⟨y, v, e1, e2, by simpa [hkd, Arr.get?] using e3⟩

/-- a lane function that maps the empty lane to the empty lane, on an array with a zero-length axis: when another axis
has length 0 the call is refused (`split(0, None)`), otherwise the (empty) array comes back with its shape -/
theorem along_zero_empty_lane (a : Arr α) (zero : α) (zb : β) (axis : Nat) (f : Arr α → Res (Arr β))
    (hwf : a.WF) (hax : axis < a.ndim) (h0 : 0 ∈ a.shape) (hf : f (Arr.flat []) = .ok (Arr.flat [])) :
    a.applyAlongAxis zero zb axis f =
      if 0 ∈ a.shape.eraseIdx axis then .err .ParameterError else .ok ⟨[], a.shape⟩ := by
  rcases zero_mem_cases a.shape axis hax h0 with h | ⟨hrest, hn⟩
  · rw [if_pos h]; exact applyAlongAxis_other_zero a zero zb axis f hwf hax h
  · rw [if_neg hrest, applyAlongAxis_axis_zero a zero zb axis f hwf hax hrest hn, hf]
    simp only [Res.bind_ok, Arr.flat, List.length_nil, or_true, if_true]
    rw [← hn, set_getD_self]

/-- a lane function that refuses the empty lane: every call on an array with a zero-length axis is refused -/
theorem along_zero_refusing_lane (a : Arr α) (zero : α) (zb : β) (axis : Nat) (f : Arr α → Res (Arr β)) (e : Err)
    (hwf : a.WF) (hax : axis < a.ndim) (h0 : 0 ∈ a.shape) (hf : f (Arr.flat []) = .err e) :
    a.applyAlongAxis zero zb axis f = .err (if 0 ∈ a.shape.eraseIdx axis then .ParameterError else e) := by
  rcases zero_mem_cases a.shape axis hax h0 with h | ⟨hrest, hn⟩
  · rw [if_pos h]; exact applyAlongAxis_other_zero a zero zb axis f hwf hax h
  · rw [if_neg hrest, applyAlongAxis_axis_zero a zero zb axis f hwf hax hrest hn, hf]; rfl

/-- `Array::single(p).atleast(n)`: `Ok` with a well-formed array, or an error value (`n >= 4`) -/
theorem single_atleast_total (p : β) : ∀ nd : Nat,
    (∃ r, (Arr.single p).atleast nd = .ok r ∧ r.WF) ∨ (∃ e, (Arr.single p).atleast nd = .err e)
  | 0 => Or.inl ⟨_, rfl, rfl⟩
  | 1 => Or.inl ⟨_, rfl, rfl⟩
  | 2 => Or.inl ⟨⟨[p], [1, 1]⟩, rfl, rfl⟩
  | 3 => Or.inl ⟨⟨[p], [1, 1, 1]⟩, rfl, rfl⟩
  | _ + 4 => Or.inr ⟨_, rfl⟩

/-- the `keepdims` tail after `Array::single(p)`: `Ok` with a well-formed array, or an error value -/
theorem keepdimsTail_single_total (p : β) (nd : Nat) (kd : Option Bool) :
    (∃ r, Arr.keepdimsTail nd kd (Arr.single p) = .ok r ∧ r.WF) ∨ (∃ e, Arr.keepdimsTail nd kd (Arr.single p) = .err e) := by
  unfold Arr.keepdimsTail
  split
  · exact single_atleast_total p nd
  · exact Or.inl ⟨_, rfl, rfl⟩

/-! ## the first lane, and the model's own `merge_sort` inside `unique` (for evaluation by `decide`) -/

theorem headD_eq_getElem_zero : ∀ (L : List β) (d : β) (h : 0 < L.length), L.headD d = L[0]
  | _ :: _, _, _ => rfl

/-- the first lane processed is the lane through the origin -/
theorem lanesOf_headD (a : Arr α) (axis : Nat) (hax : axis < a.ndim) (hnz : 0 ∉ a.shape) :
    (lanesOf a axis).headD [] = laneOf a axis (List.replicate a.ndim 0) := by
  obtain ⟨hlt, he⟩ := laneOf_eq_lanesOf a axis (List.replicate a.ndim 0) hax (inRange_replicate_zero a.shape hnz)
  have hz : ravel (a.shape.eraseIdx axis) ((List.replicate a.ndim 0).eraseIdx axis) = 0 :=
    ravel_all_zero _ _ (fun x hx => (List.mem_replicate.1 (List.mem_of_mem_eraseIdx hx)).2)
  simp only [hz] at he hlt
  rw [← he]
  exact headD_eq_getElem_zero _ _ _

/-- on a lawful order `unique`'s standard stable sort is the model's own `merge_sort` (which `decide` can evaluate) -/
theorem uniqueFlat_eq_model_sort {c : Cmp α} (h : c.Lawful) (xs : List α) :
    uniqueFlat c xs = dedup c (mergeSort c xs) := by
  rw [uniqueFlat, ← h.eq_mergeSort_of_sorted_perm (mergeSort_sorted h xs) (mergeSort_perm c xs)]

theorem uniqueLane_eq_model_sort {c : Cmp α} (h : c.Lawful) :
    uniqueLane c = fun a => .ok (Arr.flat (dedup c (mergeSort c a.elems))) :=
  funext fun a => by simp only [uniqueLane, uniqueFlat_eq_model_sort h]

/-! ## ranks: the closed form of `argsort` -/

/-- `j` comes before `i` in the sorted lane: its value is smaller, or equal and it appears earlier -/
def before (c : Cmp α) (xs : List α) (j i : Nat) : Bool :=
  match xs[j]?, xs[i]? with
  | some y, some x => c.lt y x || (c.beq y x && decide (j < i))
  | _, _ => false

/-- the rank of position `i`: the number of elements smaller than `xs[i]`, plus the number of equal elements that
appear before position `i` -/
def rankOf (c : Cmp α) (xs : List α) (i : Nat) : Nat :=
  ((List.range xs.length).filter (fun j => before c xs j i)).length

theorem filter_lt_range (p : Nat) : ∀ n, ((List.range n).filter (fun v => decide (v < p))).length = min p n
  | 0 => by simp
  | n + 1 => by
    rw [List.range_succ, List.filter_append, List.length_append, filter_lt_range p n]
    by_cases h : n < p
    · simp [h]; omega
    · simp [h]; omega

/-- counting: a permutation `r` of `0..n` that is monotone for a relation `b` comparing any two positions assigns to
every position the number of positions `b`-before it (`r i` entries of `r` lie below `r i`, and they are exactly those) -/
theorem perm_range_eq_count (r : List Nat) (n : Nat) (b : Nat → Nat → Bool) (hperm : r.Perm (List.range n))
    (hmono : ∀ j i, j < n → i < n → b j i = true → r.getD j 0 < r.getD i 0)
    (htot : ∀ j i, j < n → i < n → j ≠ i → b j i = true ∨ b i j = true) :
    r = (List.range n).map (fun i => ((List.range n).filter (fun j => b j i)).length) := by
  have hrl : r.length = n := by rw [hperm.length_eq, List.length_range]
  apply List.ext_getElem
  · rw [List.length_map, List.length_range, hrl]
  · intro i hi1 hi2
    have hi : i < n := by rw [← hrl]; exact hi1
    rw [List.getElem_map, List.getElem_range]
    have hgi : r.getD i 0 = r[i] := by simp [List.getD_eq_getElem?_getD, hi1]
    have hlt : r[i] < n := List.mem_range.1 (hperm.mem_iff.1 (List.getElem_mem hi1))
    generalize r[i] = p at hgi hlt ⊢
    -- `p` entries of `r` lie below `p` …
    have hc : (r.filter (fun v => decide (v < p))).length = p := by
      rw [(hperm.filter _).length_eq, filter_lt_range]; omega
    rw [← map_getD_range' r _ hrl, List.filter_map, List.length_map] at hc
    -- … and they sit at the positions `b`-before `i`
    rw [← hc]
    congr 1
    apply List.filter_congr
    intro j hj
    have hj' : j < n := List.mem_range.1 hj
    rw [← hgi]
    cases hb : b j i
    · simp only [Function.comp, decide_eq_false_iff_not]
      intro hlt'
      have hne : j ≠ i := by intro e; subst e; omega
      rcases htot j i hj' hi hne with h1 | h1
      · rw [hb] at h1; cases h1
      · have := hmono i j hi hj' h1; omega
    · simp only [Function.comp, decide_eq_true_eq]
      exact hmono j i hj' hi hb

/-- a list of positions that is a permutation of `0..n`, is compatible with the sorted lane `s` (`s[r[i]] = xs[i]`)
and ranks equal elements in order of appearance, is the list of ranks — **the three facts of `argsort_spec`
determine the answer** -/
theorem rank_unique {c : Cmp α} (h : c.Lawful) (xs s : List α) (r : List Nat) (hs : Sorted c s)
    (hperm : r.Perm (List.range xs.length))
    (hA : ∀ (i : Nat) (x : α) (p : Nat), xs[i]? = some x → r[i]? = some p → s[p]? = some x)
    (hB : ∀ (i j : Nat) (x : α) (pi pj : Nat), i < j → xs[i]? = some x → xs[j]? = some x → r[i]? = some pi →
        r[j]? = some pj → pi < pj) :
    r = (List.range xs.length).map (rankOf c xs) := by
  have hrl : r.length = xs.length := by rw [hperm.length_eq, List.length_range]
  refine perm_range_eq_count r xs.length (before c xs) hperm ?_ ?_
  · -- `r` is monotone for `before`
    intro j i hj hi hb
    have hrj : r[j]? = some (r.getD j 0) := by simp [List.getD_eq_getElem?_getD, hrl, hj]
    have hri : r[i]? = some (r.getD i 0) := by simp [List.getD_eq_getElem?_getD, hrl, hi]
    have hxj : xs[j]? = some xs[j] := List.getElem?_eq_getElem hj
    have hxi : xs[i]? = some xs[i] := List.getElem?_eq_getElem hi
    simp only [before, hxj, hxi, Bool.or_eq_true, Bool.and_eq_true, decide_eq_true_eq] at hb
    rcases hb with hlt | ⟨heq, hji⟩
    · -- a smaller value sits earlier in the sorted lane
      have sj := hA j _ _ hxj hrj
      have si := hA i _ _ hxi hri
      apply Nat.lt_of_not_le
      intro hle
      have hle' : c.le xs[i] xs[j] = true := by
        rcases Nat.lt_or_eq_of_le hle with hl | he
        · obtain ⟨hp, e1⟩ := List.getElem?_eq_some_iff.1 si
          obtain ⟨hq, e2⟩ := List.getElem?_eq_some_iff.1 sj
          have := List.pairwise_iff_getElem.1 hs _ _ hp hq hl
          rwa [e1, e2] at this
        · rw [he] at si
          have : xs[i] = xs[j] := Option.some.inj (si.symm.trans sj)
          rw [this]; exact h.le_refl _
      rw [h.not_le_of_lt hlt] at hle'
      cases hle'
    · have e : xs[j] = xs[i] := (h.beq_iff _ _).1 heq
      exact hB j i xs[j] _ _ hji hxj (by rw [hxi, e]) hrj hri
  · -- any two positions are comparable
    intro j i hj hi hne
    have hxj : xs[j]? = some xs[j] := List.getElem?_eq_getElem hj
    have hxi : xs[i]? = some xs[i] := List.getElem?_eq_getElem hi
    simp only [before, hxj, hxi, Bool.or_eq_true, Bool.and_eq_true, decide_eq_true_eq]
    by_cases h1 : c.lt xs[j] xs[i] = true
    · exact Or.inl (Or.inl h1)
    · by_cases h2 : c.lt xs[i] xs[j] = true
      · exact Or.inr (Or.inl h2)
      · have e : xs[j] = xs[i] :=
          h.le_antisymm _ _ (h.le_of_not_lt (Bool.eq_false_iff.2 h2)) (h.le_of_not_lt (Bool.eq_false_iff.2 h1))
        rcases Nat.lt_or_gt_of_ne hne with hl | hg
        · exact Or.inl (Or.inr ⟨(h.beq_iff _ _).2 e, hl⟩)
        · exact Or.inr (Or.inr ⟨(h.beq_iff _ _).2 e.symm, hg⟩)

end ArrModel.Sort
