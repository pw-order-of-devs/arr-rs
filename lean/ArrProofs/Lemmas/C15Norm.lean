import ArrProofs.Lemmas.C15Basic
import ArrProofs.Props.C08
import ArrModel.C15Ext
/-!
# Lemmas for C15: the reductions of `normX` (`ArrModel/C15Ext.lean`) through the C08 lane theorem

`redAx_spec`: for a 1-D body that answers `single (g lane)` on every lane of the right length, the shared reduction
(`Arr.reduceAxis`, i.e. `sum(Some(axis))` / `max(Some(axis))` / `min(Some(axis))` branch for branch) of a well-formed array
without zero-length axes answers the array whose entry at `c` is `g` of the lane through `c` (`C08.reduce_spec`).
`arm_spec` puts an elementwise image in front of that reduction and an elementwise wrapping behind it, which is the shape of
every one-axis arm of `normX`; `extreme_arm_spec` is its instance for the orders `inf` / `-inf`.  Before them: lanes of an
elementwise image, the three 1-D bodies on a flat array, and what the entries of a lane are.
-/
namespace ArrModel.C15
open ArrModel Arr

/-! ### lanes of an elementwise image -/

theorem laneOf_image {α β : Type} (f : α → β) (a : Arr α) (b : Arr β) (hs : b.shape = a.shape) (he : b.elems = a.elems.map f)
    (axis : Nat) (c : List Nat) : laneOf b axis c = (laneOf a axis c).map f := by
  unfold laneOf
  rw [hs, List.map_filterMap]
  congr 1
  funext j
  simp only [Arr.get?, hs, he, List.getElem?_map]

theorem laneOf_mapArr (f : Rat → Rat) (a : Arr Rat) (axis : Nat) (c : List Nat) :
    laneOf (mapArr f a) axis c = (laneOf a axis c).map f :=
  laneOf_image f a (mapArr f a) rfl rfl axis c

theorem mapArr_wf (f : Rat → Rat) (a : Arr Rat) (h : a.WF) : (mapArr f a).WF := by
  unfold Arr.WF mapArr at *; simpa using h

@[simp] theorem mapArr_shape (f : Rat → Rat) (a : Arr Rat) : (mapArr f a).shape = a.shape := rfl
@[simp] theorem mapArr_ndim (f : Rat → Rat) (a : Arr Rat) : (mapArr f a).ndim = a.ndim := rfl

/-! ### 1-D bodies -/

theorem sumBody_flat (lane : List Rat) : sumBody (Arr.flat lane) = .ok (Arr.single (sumL lane)) := rfl

theorem maxBody_flat (lane : List Rat) (h : lane.length ≠ 0) : maxBody (Arr.flat lane) = .ok (Arr.single (maxL lane)) := by
  exact if_neg h

theorem minBody_flat (lane : List Rat) (h : lane.length ≠ 0) : minBody (Arr.flat lane) = .ok (Arr.single (minL lane)) := by
  exact if_neg h

theorem maxBody_nil : maxBody (Arr.flat []) = .err .ParameterError := rfl
theorem minBody_nil : minBody (Arr.flat []) = .err .ParameterError := rfl

/-! ### lanes through a position of the remaining axes -/

theorem lane_inRange {s : List Nat} (k : Nat) (c : List Nat) (hk : k < s.length) (hc : inRange (s.eraseIdx k) c = true) :
    inRange (s.set k 1) (c.insertIdx k 0) = true := by
  rw [← insertIdx_eraseIdx_self _ _ _ hk]
  exact inRange_insertIdx _ _ _ _ _ hc Nat.one_pos

theorem lane_length {α : Type} (a : Arr α) (k : Nat) (c : List Nat) (hwf : a.WF) (hk : k < a.ndim)
    (hc : inRange (a.shape.eraseIdx k) c = true) : (laneOf a k (c.insertIdx k 0)).length = a.shape.getD k 0 :=
  laneOf_length a _ 1 _ hwf (lane_inRange k c hk hc)

theorem lane_entry {α : Type} (a : Arr α) (k : Nat) (c : List Nat) (hwf : a.WF) (hk : k < a.ndim)
    (hc : inRange (a.shape.eraseIdx k) c = true) (j : Nat) (hj : j < a.shape.getD k 0) :
    (laneOf a k (c.insertIdx k 0))[j]? = a.get? (c.insertIdx k j) := by
  have hkl : k < a.shape.length := hk
  rw [laneOf_getElem? a _ 1 _ hwf (lane_inRange k c hk hc) j hj]
  have hal : k ≤ c.length := by rw [inRange_length _ _ hc, List.length_eraseIdx, if_pos hkl]; omega
  rw [← insertIdx_eraseIdx_self (c.insertIdx k 0) _ j (by rw [List.length_insertIdx, if_pos hal]; omega),
    List.eraseIdx_insertIdx_self]

/-- a lane whose entries are known is the list of them -/
theorem lane_eq_map {α : Type} (a : Arr α) (k : Nat) (c : List Nat) (hwf : a.WF) (hk : k < a.ndim)
    (hc : inRange (a.shape.eraseIdx k) c = true) (f : Nat → α)
    (hf : ∀ j, j < a.shape.getD k 0 → a.get? (c.insertIdx k j) = some (f j)) :
    laneOf a k (c.insertIdx k 0) = (List.range (a.shape.getD k 0)).map f := by
  apply List.ext_getElem?
  intro j
  by_cases hj : j < a.shape.getD k 0
  · rw [lane_entry a k c hwf hk hc j hj, hf j hj, List.getElem?_map, List.getElem?_range hj]; rfl
  · rw [List.getElem?_eq_none (by rw [lane_length a k c hwf hk hc]; omega),
      List.getElem?_eq_none (by rw [List.length_map, List.length_range]; omega)]

/-! ### the reduction along an axis, entry by entry -/

/-- **generic lane statement** for a reduction whose 1-D body is `single ∘ g` on lanes of the length of the axis -/
theorem redAx_spec {α β : Type} (a : Arr α) (zero : α) (zb : β) (ax : Int) (body : Arr α → Res (Arr β)) (g : List α → β)
    (hwf : a.WF) (hnz : 0 ∉ a.shape) (hax : normalizeAxis a.ndim ax < a.ndim)
    (hbody : ∀ lane : List α, lane.length = a.shape.getD (normalizeAxis a.ndim ax) 0 →
      body (Arr.flat lane) = .ok (Arr.single (g lane))) :
    ∃ r, a.reduceAxis zero zb (some ax) body = .ok r ∧
      r.shape = (if a.ndim > 1 then a.shape.eraseIdx (normalizeAxis a.ndim ax) else [1]) ∧ r.WF ∧
      ∀ c, inRange (a.shape.eraseIdx (normalizeAxis a.ndim ax)) c = true →
        r.get? (if a.ndim > 1 then c else [0]) =
          some (g (laneOf a (normalizeAxis a.ndim ax) (c.insertIdx (normalizeAxis a.ndim ax) 0))) := by
  obtain ⟨r, h1, h2, h3, h4⟩ := C08.reduce_spec a zero zb ax body hwf hnz hax
    (fun lane hl => ⟨_, hbody lane hl, rfl⟩)
  refine ⟨r, h1, h2, h3, fun c hc => ?_⟩
  obtain ⟨y, v, e1, e2, e3⟩ := h4 c hc
  rw [hbody _ (lane_length a _ c hwf hax hc)] at e1
  cases e1
  cases e2
  exact e3

/-! ### one arm of the one-axis dispatch: elementwise image, reduce, wrap -/

theorem get?_wrap {α β : Type} (wrap : α → β) (r : Arr α) (c : List Nat) :
    (⟨r.elems.map wrap, r.shape⟩ : Arr β).get? c = (r.get? c).map wrap :=
  List.getElem?_map ..

/-- the reduction of an elementwise image `b` of `a`, followed by an elementwise `wrap`, entry by entry: for a body that is
`single ∘ g` on non-empty lanes, the entry at `c` is `wrap (g (image of the lane of a through c))` -/
theorem arm_spec {α β γ : Type} (a : Arr Rat) (b : Arr α) (f : Rat → α) (hs : b.shape = a.shape) (he : b.elems = a.elems.map f)
    (zero : α) (zb : β) (ax : Int) (body : Arr α → Res (Arr β)) (g : List α → β) (wrap : β → γ)
    (hbody : ∀ lane : List α, lane.length ≠ 0 → body (Arr.flat lane) = .ok (Arr.single (g lane)))
    (hwf : a.WF) (hnz : 0 ∉ a.shape) (hax : normalizeAxis a.ndim ax < a.ndim) :
    ∃ r : Arr γ, ((b.reduceAxis zero zb (some ax) body).map fun r => (⟨r.elems.map wrap, r.shape⟩ : Arr γ)) = .ok r ∧
      r.shape = (if a.ndim > 1 then a.shape.eraseIdx (normalizeAxis a.ndim ax) else [1]) ∧ r.WF ∧
      ∀ c, inRange (a.shape.eraseIdx (normalizeAxis a.ndim ax)) c = true →
        r.get? (if a.ndim > 1 then c else [0]) =
          some (wrap (g ((laneOf a (normalizeAxis a.ndim ax) (c.insertIdx (normalizeAxis a.ndim ax) 0)).map f))) := by
  have hnd : b.ndim = a.ndim := congrArg List.length hs
  have hbwf : b.WF := by rw [Arr.WF, he, List.length_map, hs]; exact hwf
  obtain ⟨r, h1, h2, h3, h4⟩ := redAx_spec b zero zb ax body g hbwf (hs ▸ hnz) (hnd ▸ hax)
    (fun lane hl => hbody lane (by rw [hl, hnd, hs]; exact Nat.ne_of_gt (getD_mem_pos a.shape _ hax hnz)))
  rw [hnd, hs] at h2 h4
  refine ⟨⟨r.elems.map wrap, r.shape⟩, by rw [h1]; rfl, h2, (List.length_map _).trans h3, fun c hc => ?_⟩
  rw [get?_wrap, h4 c hc, laneOf_image f a b hs he]
  rfl

/-- the two extreme orders of the one-axis arm: `g` picks, on every non-empty list, an element `m` of it with `R x m` for all its
elements (`maxL` with `· ≤ ·`, `minL` with `· ≥ ·`); the entry at `c` is then such an extreme of the absolute values of the lane -/
theorem extreme_arm_spec (a : Arr Rat) (ax : Int) (hwf : a.WF) (hnz : 0 ∉ a.shape) (hax : normalizeAxis a.ndim ax < a.ndim)
    (body : Arr Rat → Res (Arr Rat)) (g : List Rat → Rat) (R : Rat → Rat → Prop)
    (hbody : ∀ lane : List Rat, lane.length ≠ 0 → body (Arr.flat lane) = .ok (Arr.single (g lane)))
    (hg : ∀ l : List Rat, l ≠ [] → g l ∈ l ∧ ∀ x ∈ l, R x (g l)) :
    ∃ r, ((mapArr absR a).reduceAxis 0 0 (some ax) body).map symArr = .ok r ∧
      r.shape = (if a.ndim > 1 then a.shape.eraseIdx (normalizeAxis a.ndim ax) else [1]) ∧ r.WF ∧
      ∀ c, inRange (a.shape.eraseIdx (normalizeAxis a.ndim ax)) c = true →
        ∃ v, r.get? (if a.ndim > 1 then c else [0]) = some (.rat v) ∧
          (∃ x ∈ laneOf a (normalizeAxis a.ndim ax) (c.insertIdx (normalizeAxis a.ndim ax) 0), v = |x|) ∧
          ∀ x ∈ laneOf a (normalizeAxis a.ndim ax) (c.insertIdx (normalizeAxis a.ndim ax) 0), R |x| v := by
  obtain ⟨r, h1, h2, h3, h4⟩ := arm_spec a (mapArr absR a) absR rfl rfl 0 0 ax body g Sym.rat hbody hwf hnz hax
  refine ⟨r, h1, h2, h3, fun c hc => ?_⟩
  have hne : (laneOf a (normalizeAxis a.ndim ax) (c.insertIdx (normalizeAxis a.ndim ax) 0)).map absR ≠ [] := by
    intro h
    have hl := lane_length a _ c hwf hax hc
    rw [← List.length_map (f := absR), h] at hl
    exact Nat.ne_of_gt (getD_mem_pos a.shape _ hax hnz) hl.symm
  obtain ⟨hmem, hext⟩ := hg _ hne
  obtain ⟨x, hx, hxe⟩ := List.mem_map.1 hmem
  exact ⟨_, h4 c hc, ⟨x, hx, by rw [← hxe, absR_eq_abs]⟩, fun y hy => absR_eq_abs y ▸ hext _ (List.mem_map.2 ⟨y, hy, rfl⟩)⟩

end ArrModel.C15
