import ArrProofs.Lemmas.C11Split
/-!
C11: `append(values, Some(axis))` lays the two inputs one after the other along the axis (`appendAxis_cut`: every rank, every
axis).  The code splits both inputs along the axis, chains the pieces and moves the front axis of the chain back: so first
`split_axis` followed by flattening (`splitAxis_flat`) and the temporary shape (`listSwap_tmp`).
-/
namespace ArrModel.C11
open ArrModel Arr
variable {α : Type}

theorem sum_take_replicate_one (n i : Nat) (hi : i ≤ n) : ((List.replicate n 1).take i).sum = i := by
  rw [List.take_replicate, List.sum_replicate_nat, Nat.min_eq_left hi, Nat.mul_one]

theorem getD_replicate_one (n i : Nat) (h : i < n) : (List.replicate n 1).getD i 0 = 1 := by
  simp [List.getD_eq_getElem?_getD, h]

theorem mem_append_cons_iff (P Q : List Nat) (n : Nat) : 0 ∉ P ++ n :: Q ↔ (0 ∉ P ∧ n ≠ 0 ∧ 0 ∉ Q) := by
  simp only [List.mem_append, List.mem_cons, not_or]
  constructor
  · rintro ⟨h1, h2, h3⟩; exact ⟨h1, fun e => h2 e.symm, h3⟩
  · rintro ⟨h1, h2, h3⟩; exact ⟨h1, fun e => h2 e.symm, h3⟩

/-- **`split_axis` followed by flattening**: the flat buffer holds the input with the axis moved to the front -/
theorem splitAxis_flat (a : Arr α) (zero : α) (na : Nat) (P Q : List Nat) (hwf : a.WF) (hs : a.shape = P ++ na :: Q) :
    ∃ pieces, a.splitAxis zero P.length = .ok pieces ∧
      (pieces.flatMap (·.elems)).length = na * (P.prod * Q.prod) ∧
      ∀ p q i, inRange P p = true → inRange Q q = true → i < na →
        (pieces.flatMap (·.elems))[(i * P.prod + ravel P p) * Q.prod + ravel Q q]? = a.get? (p ++ i :: q) := by
  have hnd := ndim_cut a P Q na hs
  have hL : a.elems.length = na * (P.prod * Q.prod) := by
    rw [hwf, hs, List.prod_append, List.prod_cons, Nat.mul_left_comm]
  rw [splitAxis_eq, if_neg (Nat.not_le.2 (lt_ndim_cut a P Q na hs))]
  by_cases he : a.isEmpty = true ∨ a.ndim = 1
  · rw [if_pos he]
    refine ⟨[a], rfl, by rw [List.flatMap_singleton]; exact hL, ?_⟩
    intro p q i hp hq hi
    rw [List.flatMap_singleton]
    rw [Arr.get?, hs, ravel_mid _ _ _ _ _ _ (inRange_length _ _ hp).symm]
    rcases he with h | h
    · -- no element: no position on either side
      have h0 : a.elems.length = 0 := by rwa [Arr.isEmpty, beq_iff_eq] at h
      rw [List.getElem?_eq_none (h0 ▸ Nat.zero_le _), List.getElem?_eq_none (h0 ▸ Nat.zero_le _)]
    · -- rank 1
      have hP0 : P = [] :=
        List.eq_nil_of_length_eq_zero (Nat.eq_zero_of_add_eq_zero_right (Nat.succ.inj (hnd.symm.trans h)))
      subst hP0
      cases p with
      | nil =>
        show a.elems[(i * 1 + 0) * Q.prod + ravel Q q]? = a.elems[(0 * na + i) * Q.prod + ravel Q q]?
        rw [Nat.mul_one, Nat.add_zero, Nat.zero_mul, Nat.zero_add]
      | cons _ _ => cases hp
  · rw [if_neg he]
    have hnz : 0 ∉ a.shape := mt (isEmpty_iff_zero_mem a hwf).2 fun h => he (.inl h)
    have hna : 0 < na := Nat.pos_of_ne_zero ((mem_append_cons_iff P Q na).1 (hs ▸ hnz)).2.1
    obtain ⟨pieces, h1, h2, h3⟩ := arraySplit_cut a zero na na P Q hwf hs hnz hna
    rw [sectionSizes_self na hna] at h3
    have hm : ∀ x ∈ pieces, x.elems.length = P.prod * Q.prod := by
      intro x hx
      obtain ⟨i, hi, rfl⟩ := List.getElem_of_mem hx
      obtain ⟨g1, g2, _⟩ := h3 i hi
      rw [g2, g1, getD_replicate_one na i (h2 ▸ hi), List.prod_append, List.prod_cons, Nat.one_mul]
    refine ⟨pieces, ?_, ?_, ?_⟩
    · rw [idx_getD a.shape P.length (lt_ndim_cut a P Q na hs), hs, getD_mid, Res.bind_ok]; exact h1
    · rw [length_flatMap_uniform _ _ pieces hm, h2]
    · intro p q i hp hq hi
      have hi' : i < pieces.length := h2.symm ▸ hi
      obtain ⟨g1, _, g3⟩ := h3 i hi'
      rw [getD_replicate_one na i hi] at g1 g3
      have := g3 p q 0 hp hq Nat.zero_lt_one
      rw [sum_take_replicate_one na i (Nat.le_of_lt hi), Nat.add_zero] at this
      rw [← this, lin3_eq, getElem?_flatMap_uniform (·.elems) _ pieces i _ hi' hm
        (mul_add_lt (ravel_lt _ _ hp) (ravel_lt _ _ hq))]
      rw [Arr.get?, g1, ravel_mid _ _ _ _ _ _ (inRange_length _ _ hp).symm, Nat.mul_one, Nat.add_zero]

/-- the shape `append` reshapes the chained buffer to before transposing: the new axis in front, then a rearrangement
of the leading axes (same length, same product), then the trailing axes -/
theorem listSwap_tmp (P Q : List Nat) (N : Nat) :
    ∃ P', listSwap (P ++ N :: Q) 0 P.length = N :: P' ++ Q ∧ P'.length = P.length ∧ P'.prod = P.prod := by
  cases P with
  | nil => exact ⟨[], rfl, rfl, rfl⟩
  | cons d P1 =>
    refine ⟨P1 ++ [d], ?_, by rw [List.length_append]; rfl,
      by rw [List.prod_append, List.prod_cons, List.prod_cons, List.prod_nil, Nat.mul_one, Nat.mul_comm]⟩
    have h1 : (d :: P1 ++ N :: Q)[0]? = some d := rfl
    have h2 : (d :: P1 ++ N :: Q)[(d :: P1).length]? = some N := by
      rw [List.getElem?_append_right (Nat.le_refl _), Nat.sub_self]; rfl
    simp only [listSwap, h1, h2]
    rw [List.cons_append, List.set_cons_zero, List.length_cons, List.set_cons_succ, set_mid, List.cons_append, List.append_assoc]; rfl

/-- `append` along an axis: the guards (axis inside the rank, equal ranks, equal shapes off the axis); then both inputs
are split along the axis, the pieces chained, the chain read under the temporary shape and its front axis moved to `k` -/
theorem appendAxis_eq (a v : Arr α) (zero : α) (k : Nat) :
    a.appendAxis v zero k =
      if a.ndim ≤ k then .err .AxisOutOfBounds
      else if a.ndim ≠ v.ndim then .err .ParameterError
      else if a.shape.eraseIdx k ≠ v.shape.eraseIdx k then .err .ParameterError
      else a.splitAxis zero k >>= fun arrays => v.splitAxis zero k >>= fun vals =>
        (Arr.flat ((arrays ++ vals).flatMap (·.elems))).reshape
            (listSwap (a.shape.set k (a.shape.getD k 0 + v.shape.getD k 0)) 0 k) >>= fun t =>
        t.transpose zero (some (((List.range' 1 (a.ndim - 1)).insertIdx k 0).map Int.ofNat)) >>= fun tr =>
        tr.reshape (a.shape.set k (a.shape.getD k 0 + v.shape.getD k 0)) := by
  unfold Arr.appendAxis
  by_cases h1 : a.ndim ≤ k
  · rw [if_pos h1, if_pos h1]
  by_cases h2 : a.ndim ≠ v.ndim
  · rw [if_neg h1, if_neg h1, if_pos h2, if_pos h2]
  have hka : k < a.shape.length := Nat.not_le.1 h1
  have hkv : k < v.shape.length := Nat.lt_of_lt_of_eq hka (not_not.1 h2)
  rw [if_neg h1, if_neg h1, if_neg h2, if_neg h2]
  simp only [vecRemove, ge_iff_le, if_neg (Nat.not_le.2 hka), if_neg (Nat.not_le.2 hkv), Res.bind_ok, idx_getD _ _ hka,
    idx_getD _ _ hkv]

theorem appendAxis_cut (a v : Arr α) (zero : α) (na nv : Nat) (P Q : List Nat) (hwa : a.WF) (hwv : v.WF)
    (hsa : a.shape = P ++ na :: Q) (hsv : v.shape = P ++ nv :: Q) :
    ∃ r, a.appendAxis v zero P.length = .ok r ∧ r.shape = P ++ (na + nv) :: Q ∧ r.WF ∧
      (∀ p q j, inRange P p = true → inRange Q q = true → j < na → r.get? (p ++ j :: q) = a.get? (p ++ j :: q)) ∧
      (∀ p q j, inRange P p = true → inRange Q q = true → j < nv → r.get? (p ++ (na + j) :: q) = v.get? (p ++ j :: q)) := by
  have hnda := ndim_cut a P Q na hsa
  have hndv := ndim_cut v P Q nv hsv
  obtain ⟨pa, ha1, ha2, ha3⟩ := splitAxis_flat a zero na P Q hwa hsa
  obtain ⟨pv, hv1, hv2, hv3⟩ := splitAxis_flat v zero nv P Q hwv hsv
  generalize hFa : pa.flatMap (·.elems) = Fa at *
  generalize hFv : pv.flatMap (·.elems) = Fv at *
  -- the chained buffer `Fa ++ Fv` holds both inputs with the axis in front; under the temporary shape the front axis
  -- is moved to position `k`, which only asks for the product of the leading axes (`moveFront_flat`)
  obtain ⟨P', hsw, hP'l, hP'p⟩ := listSwap_tmp P Q (na + nv)
  have hFl : (Fa ++ Fv).length = (na + nv) * (P'.prod * Q.prod) := by rw [List.length_append, ha2, hv2, hP'p, Nat.add_mul]
  obtain ⟨r, hr1, hr2, hr3, hr4⟩ := moveFront_flat (Fa ++ Fv) zero (na + nv) P' Q hFl
  have hrl : (P ++ (na + nv) :: Q).prod = r.elems.length := by
    rw [hr3, hr2]; simp only [List.prod_append, List.prod_cons, hP'p]
  have hget : ∀ p q j, inRange P p = true → inRange Q q = true → j < na + nv →
      r.elems[ravel (P ++ (na + nv) :: Q) (p ++ j :: q)]? = (Fa ++ Fv)[(j * P.prod + ravel P p) * Q.prod + ravel Q q]? := by
    intro p q j hp hq hj
    rw [ravel_mid _ _ _ _ _ _ (inRange_length _ _ hp).symm,
      hr4 _ _ j (hP'p ▸ ravel_lt _ _ hp) (ravel_lt _ _ hq) hj, hP'p]
  refine ⟨⟨r.elems, P ++ (na + nv) :: Q⟩, ?_, rfl, hrl.symm, ?_, ?_⟩
  · have htnd : (⟨Fa ++ Fv, (na + nv) :: P' ++ Q⟩ : Arr α).ndim = a.ndim := by
      show ((na + nv) :: P' ++ Q).length = _
      rw [hnda, List.cons_append, List.length_cons, List.length_append, hP'l]
    rw [moveaxis_frontTo _ zero _ (by rw [htnd, hP'l]; exact lt_ndim_cut a P Q na hsa), htnd, hP'l] at hr1
    have hn : a.shape.getD P.length 0 + v.shape.getD P.length 0 = na + nv := by rw [hsa, hsv, getD_mid, getD_mid]
    rw [appendAxis_eq, if_neg (Nat.not_le.2 (lt_ndim_cut a P Q na hsa)), if_neg (not_not.2 (hnda.trans hndv.symm)),
      if_neg (not_not.2 (by rw [hsa, hsv, eraseIdx_mid, eraseIdx_mid])), ha1, Res.bind_ok, hv1, Res.bind_ok, hn,
      List.flatMap_append, hFa, hFv, hsa, set_mid, hsw,
      show (Arr.flat (Fa ++ Fv)).reshape ((na + nv) :: P' ++ Q) = .ok ⟨Fa ++ Fv, (na + nv) :: P' ++ Q⟩ from
        Arr.new_of_prod (by show _ = (Fa ++ Fv).length; rw [hFl, List.cons_append, List.prod_cons, List.prod_append]),
      Res.bind_ok, hr1, Res.bind_ok]
    exact Arr.new_of_prod hrl
  · intro p q j hp hq hj
    show r.elems[ravel (P ++ (na + nv) :: Q) (p ++ j :: q)]? = _
    rw [hget p q j hp hq (Nat.lt_add_right _ hj), ← ha3 p q j hp hq hj]
    exact List.getElem?_append_left (by rw [ha2, ← Nat.mul_assoc]; exact mul_add_lt (mul_add_lt hj (ravel_lt _ _ hp)) (ravel_lt _ _ hq))
  · intro p q j hp hq hj
    show r.elems[ravel (P ++ (na + nv) :: Q) (p ++ (na + j) :: q)]? = _
    rw [hget p q (na + j) hp hq (Nat.add_lt_add_left hj _), ← hv3 p q j hp hq hj, lin3_add, ← ha2,
      List.getElem?_append_right (Nat.le_add_right _ _), Nat.add_sub_cancel_left]

theorem appendAxis_refuses (a v : Arr α) (zero : α) (k : Nat)
    (h : a.ndim ≠ v.ndim ∨ a.shape.eraseIdx k ≠ v.shape.eraseIdx k) : ∃ e, a.appendAxis v zero k = .err e := by
  rw [appendAxis_eq]
  exact Res.err_ite (fun _ => ⟨_, rfl⟩) fun _ =>
    Res.err_ite (fun _ => ⟨_, rfl⟩) fun h2 => ⟨_, if_pos (h.resolve_left h2)⟩

end ArrModel.C11
