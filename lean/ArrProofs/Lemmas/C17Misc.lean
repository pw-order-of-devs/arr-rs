import ArrProofs.Lemmas.C17
/-! helper lemmas for C17: strip, comparisons, splitlines, `_join` -/
namespace ArrModel.C17

/-! ### strip -/

theorem mem_takeWhile (p : Char → Bool) (l : Str) (c : Char) (h : c ∈ l.takeWhile p) : p c = true :=
  List.all_eq_true.1 List.all_takeWhile c h

theorem lstrip_eq_dropWhile (s cs : Str) : lstrip s cs = s.dropWhile (fun c => cs.contains c) := by
  simp [lstrip, rstrip]

/-- what `_rstrip` removes is a suffix made of characters of the set, and what is left does not end in one -/
theorem rstrip_decomp (s cs : Str) :
    ∃ t, s = rstrip s cs ++ t ∧ (∀ c ∈ t, cs.contains c = true) ∧
      (∀ l, (rstrip s cs).getLast? = some l → cs.contains l = false) := by
  refine ⟨(s.reverse.takeWhile (fun c => cs.contains c)).reverse, ?_, ?_, ?_⟩
  · have h := @List.takeWhile_append_dropWhile _ (fun c => cs.contains c) s.reverse
    have h2 := congrArg List.reverse h
    simp only [List.reverse_append, List.reverse_reverse] at h2
    exact h2.symm
  · intro c hc
    exact mem_takeWhile _ _ c (List.mem_reverse.1 hc)
  · intro l hl
    simp only [rstrip, List.getLast?_reverse] at hl
    have := List.head?_dropWhile_not (fun c => cs.contains c) s.reverse
    rw [hl] at this
    exact this

theorem lstrip_decomp (s cs : Str) :
    ∃ t, s = t ++ lstrip s cs ∧ (∀ c ∈ t, cs.contains c = true) ∧
      (∀ h, (lstrip s cs).head? = some h → cs.contains h = false) := by
  rw [lstrip_eq_dropWhile]
  refine ⟨s.takeWhile (fun c => cs.contains c), List.takeWhile_append_dropWhile.symm, mem_takeWhile _ _, ?_⟩
  intro h hh
  have := List.head?_dropWhile_not (fun c => cs.contains c) s
  rw [hh] at this
  exact this

/-- `_rstrip` keeps a first character that is not in the set -/
theorem rstrip_head (s cs : Str) (h : Char) (hh : s.head? = some h) (hn : cs.contains h = false) :
    (rstrip s cs).head? = some h := by
  obtain ⟨r, rfl⟩ := List.head?_eq_some_iff.1 hh
  obtain ⟨t, ht, hin, -⟩ := rstrip_decomp (h :: r) cs
  cases hr : rstrip (h :: r) cs with
  | nil =>
    rw [hr, List.nil_append] at ht
    rw [hin h (ht ▸ List.mem_cons_self)] at hn
    cases hn
  | cons y ys =>
    rw [hr] at ht
    rw [(List.cons.inj ht).1]
    rfl

/-! ### comparisons -/

theorem char_lt_iff (a b : Char) : a.toNat < b.toNat ↔ a < b := by
  rw [Char.lt_def, UInt32.lt_iff_toNat_lt]; rfl

/-- `cmpStr` decides the lexicographic order of core `List` over the code points -/
theorem cmpStr_spec : ∀ (a b : Str), (cmpStr a b = .lt ↔ a < b) ∧ (cmpStr a b = .eq ↔ a = b) ∧ (cmpStr a b = .gt ↔ b < a)
  | [], [] => by simp [cmpStr, List.not_lt_nil]
  | [], b :: bs => by simp [cmpStr, List.not_lt_nil, List.nil_lt_cons]
  | a :: as, [] => by simp [cmpStr, List.not_lt_nil, List.nil_lt_cons]
  | a :: as, b :: bs => by
    obtain ⟨ih1, ih2, ih3⟩ := cmpStr_spec as bs
    rw [List.cons_lt_cons_iff, List.cons_lt_cons_iff, ← char_lt_iff, ← char_lt_iff, List.cons.injEq, ← ih1, ← ih2, ← ih3,
      cmpStr]
    rcases Nat.lt_trichotomy a.toNat b.toNat with h | h | h
    · have hne : a ≠ b := fun e => Nat.lt_irrefl _ (e ▸ h)
      simp [h, hne, hne.symm, Nat.lt_asymm h]
    · have he : a = b := Char.toNat_inj.1 h
      simp [he]
    · have hne : a ≠ b := fun e => Nat.lt_irrefl _ (e ▸ h)
      simp [h, hne, hne.symm, Nat.lt_asymm h]

/-! ### splitlines -/

theorem splitlinesAux_keep_flatten : ∀ (s cur : Str), (splitlinesAux true s cur).flatten = cur.reverse ++ s
  | [], cur => by
    rw [splitlinesAux]
    cases cur with
    | nil => rfl
    | cons x xs => exact List.flatten_singleton.trans (List.append_nil _).symm
  | [c], cur => by
    rw [splitlinesAux, if_pos rfl, ite_self, List.flatten_singleton, List.reverse_cons]
  | c :: d :: rest, cur => by
    rw [splitlinesAux, if_pos rfl, if_pos rfl]
    split
    · rw [List.flatten_cons, splitlinesAux_keep_flatten rest [], List.reverse_cons, List.reverse_cons]
      simp only [List.append_assoc, List.reverse_nil, List.nil_append, List.cons_append]
    · split
      · rw [List.flatten_cons, splitlinesAux_keep_flatten (d :: rest) [], List.reverse_cons]
        simp only [List.append_assoc, List.reverse_nil, List.nil_append, List.cons_append]
      · rw [splitlinesAux_keep_flatten (d :: rest) (c :: cur), List.reverse_cons, List.append_assoc]
        rfl

/-- no line break among the characters -/
def NoBreak (l : Str) : Prop := ∀ c ∈ l, c ≠ '\n' ∧ c ≠ '\r'

theorem NoBreak.reverse {l : Str} (h : NoBreak l) : NoBreak l.reverse := fun c hc => h c (List.mem_reverse.1 hc)

theorem NoBreak.cons {x : Char} {l : Str} (hx : ¬ (x = '\n' ∨ x = '\r')) (h : NoBreak l) : NoBreak (x :: l) :=
  List.forall_mem_cons.2 ⟨⟨fun e => hx (.inl e), fun e => hx (.inr e)⟩, h⟩

theorem splitlinesAux_clean : ∀ (s cur : Str), NoBreak cur → ∀ l ∈ splitlinesAux false s cur, NoBreak l
  | [], cur, hcur => by
    rw [splitlinesAux]
    split
    · exact nofun
    · exact List.forall_mem_singleton.2 hcur.reverse
  | [x], cur, hcur => by
    rw [splitlinesAux, if_neg Bool.false_ne_true]
    split
    · exact List.forall_mem_singleton.2 hcur.reverse
    · exact List.forall_mem_singleton.2 (hcur.cons ‹_›).reverse
  | x :: d :: rest, cur, hcur => by
    rw [splitlinesAux, if_neg Bool.false_ne_true, if_neg Bool.false_ne_true]
    split
    · exact List.forall_mem_cons.2 ⟨hcur.reverse, splitlinesAux_clean rest [] nofun⟩
    · split
      · exact List.forall_mem_cons.2 ⟨hcur.reverse, splitlinesAux_clean (d :: rest) [] nofun⟩
      · exact splitlinesAux_clean (d :: rest) (x :: cur) (hcur.cons ‹_›)

/-! ### `_join` -/

theorem joinChars_foldl (sep : Str) : ∀ (cs acc : Str), acc ≠ [] →
    cs.foldl (fun acc c => (if acc.isEmpty then acc else acc ++ sep) ++ [c]) acc =
      acc ++ (cs.map (fun c => sep ++ [c])).flatten
  | [], acc, _ => by simp
  | c :: cs, acc, h => by
    have hne : acc.isEmpty = false := by cases acc <;> simp_all
    simp only [List.foldl_cons, hne, Bool.false_eq_true, if_false]
    rw [joinChars_foldl sep cs _ (by simp)]
    simp [List.append_assoc]

theorem joinWith_singletons (sep : Str) : ∀ (cs y : Str),
    joinWith sep (y :: cs.map (fun c => [c])) = y ++ (cs.map (fun c => sep ++ [c])).flatten
  | [], y => by simp [joinWith]
  | c :: cs, y => by
    rw [List.map_cons, joinWith_cons _ _ _ (by simp), joinWith_singletons sep cs [c]]
    simp [List.append_assoc]

end ArrModel.C17
