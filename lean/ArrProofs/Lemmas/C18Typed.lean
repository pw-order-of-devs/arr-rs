import ArrProofs.Lemmas.C18Shape
import ArrProofs.Lemmas.Res
/-!
# Lemmas for C18 — the typed front ends `array_char!`, `array_string!`, `array_tuple!`, `array_list!`

Each front end runs `array_parse_input!` (`", "` between two quotes → `","`, then `], [` → `],[`, then the escapes),
counts the leading brackets, cuts the elements out of the text (a `while text.contains(opener)` loop that replaces each
by `_`), and parses the shape from the blanked text.  On the Debug text of a written literal every step is a pass in
the sense of `SegRel`: it is proved for a leaf and for a separator and lifted by `frame_rel`.
-/
namespace ArrModel.C18

theorem parseInput_eq {X X1 T : Str} (h1 : replace quoteSepL quoteSepT X = X1) (h2 : replace brSepL brSepT X1 = T)
    (hb : '\\' ∉ T) : parseInput X = T := by
  have hne : ∀ (c : Char) (t : Str), replace ['\\', c] t T = T :=
    fun c t => replace_of_not_mem (c := '\\') (by simp) hb
  unfold parseInput
  rw [h1, h2, hne, hne, hne, hne, hne]

/-- `array_parse_input!` from its second step on: `], [` loses its blank between rows, the escape rewrites find nothing -/
theorem parseInput_frame {X z0 : Str} {a b : Nat} {s : List Nat} {es : List Str} (hpos : ∀ d ∈ s, 1 ≤ d)
    (hl : es.length = s.prod) (h1 : replace quoteSepL quoteSepT X = frame a b (sepG z0 [' ']) s es)
    (hz : ∀ c ∈ z0, c = ' ') (hbr : ∀ e ∈ es, NoStart brSepL e) (hback : ∀ e ∈ es, '\\' ∉ e) :
    parseInput X = frame a b (sepG z0 []) s es :=
  parseInput_eq h1 (replace_br_frame z0 (fun hm => absurd (hz _ hm) (by decide)) a b s es hpos hl hbr)
    (not_mem_frame hpos hl (by decide) (by decide)
      (not_mem_sepG (by decide) (by decide) (by decide) (fun hm => absurd (hz _ hm) (by decide)) (by simp)) hback)

/-! ### `", "` between two quotes, inside the leaves -/

/-- what `array_parse_input!` does to the inside of a piece: `", "` between two quotes loses its blank -/
def quoteTight (b : Str) : Str := replace quoteSepL quoteSepT b

theorem not_mem_quoteTight {x : Char} {b : Str} (hb : x ∉ b) (h1 : x ≠ '"') (h2 : x ≠ ',') : x ∉ quoteTight b := by
  intro h
  rcases mem_replaceAux b 0 h with h | h
  · exact hb h
  · simp [quoteSepT] at h; rcases h with h | h | h <;> simp_all

/-- a leaf `o b c` whose brackets `o`, `c` take no part in the pattern: the pass works on the body alone -/
theorem pass_wrapped {p t : Str} (hp : p ≠ []) (o c : Char) (ho : p.head? ≠ some o) (hc : c ∉ p) (b : Str)
    (i : List Str) : Pass (replace p t) Any Any (o :: (b ++ [c])) (o :: (replace p t b ++ [c])) i := by
  intro Z _
  refine ⟨trivial, ?_⟩
  have hnp : p.isPrefixOf (o :: (b ++ [c] ++ Z)) = false := by
    cases p with
    | nil => exact absurd rfl hp
    | cons x p => exact isPrefixOf_cons_ne fun e => ho (by simp [e])
  show replace p t (o :: (b ++ [c] ++ Z)) = _
  rw [replace_cons_of_not_prefix hnp, List.append_assoc, List.singleton_append, replace_stop hp hc]
  simp

theorem not_mem_wrap {x o c : Char} {b : Str} (ho : x ≠ o) (hc : x ≠ c) (hb : x ∉ b) : x ∉ o :: (b ++ [c]) := by
  simp [ho, hc, hb]

theorem quote_not_mem_sepL (j : Nat) : '"' ∉ sepL j :=
  not_mem_sepG (by decide) (by decide) (by decide) (by decide) (by decide) j

theorem replace_quote_frame (o c : Char) (ho : o ≠ '"') (hc : c ∉ quoteSepL) (a b : Nat) (s : List Nat)
    (bs : List Str) (hpos : ∀ d ∈ s, 1 ≤ d) (hl : bs.length = s.prod) :
    replace quoteSepL quoteSepT (frame a b sepL s (bs.map fun x => o :: (x ++ [c])))
      = frame a b sepL s (bs.map fun x => o :: (quoteTight x ++ [c])) := by
  have hq : ∀ A : Str, '"' ∉ A → NoStart quoteSepL A := fun A hA =>
    noStart_of_head_not_mem (c := '"') (p := [',', ' ', '"']) hA
  exact (frame_rel (pass_segRel _) sepL sepL (fun x => o :: (x ++ [c])) (fun x => o :: (quoteTight x ++ [c])) id a b
    s bs hpos hl (pass_noStart (hq _ (not_mem_rep (by decide) a)) []) (fun j _ => pass_noStart (hq _ (quote_not_mem_sepL j)) [])
    (fun x _ => pass_wrapped (p := quoteSepL) (by decide) o c (by simpa [quoteSepL] using Ne.symm ho) hc x _)
    (pass_end (c := '"') (by decide) (not_mem_rep (by decide) b) [])).whole rfl (replace_nil _ _)

/-- a bracketed body in which `], [` does not occur never starts a `], [` match (brackets other than `]`) -/
theorem noStart_br_wrapped {o c : Char} (ho : o ≠ ']') (hc : c ∉ brSepL) {b : Str}
    (hocc : ∀ k, brSepL.isPrefixOf (b.drop k) = false) : NoStart brSepL (o :: (b ++ [c])) := by
  rw [noStart_cons]
  refine ⟨fun Z => isPrefixOf_cons_ne (Ne.symm ho), ?_⟩
  refine noStart_of_ctx (fun Z k hk => ?_) (noStart_of_head_not_mem (c := ']') (p := [',', ' ', '[']) (by
    simp only [List.mem_singleton]; intro e; subst e; exact hc (by simp [brSepL])))
  exact Bool.eq_false_iff.2 fun hh => Bool.eq_false_iff.1 (hocc k) (isPrefixOf_append_stop (d := c) hc hh)

/-! ### cut-out loops (`while text.contains(opener) { … }`) as passes

`run fuel text acc` is the loop with `fuel` iterations left; `Free cs A` says that the already treated part `A` of the
text holds none of the characters the loop looks for.  `CutRel run cs _ _ X X' items`: in any context `A · Z` with
`Free cs A`, the loop spends exactly `items.length` iterations on the segment `X`, leaves `X'` in its place and collects
`items`; `X'` is `Free` in its turn (it joins the treated part), and `X` has at least as many characters as items are cut
out of it (so the fuel `text.length + 1` is enough for the whole text). -/

def Free (cs : List Char) (A : Str) : Prop := ∀ c ∈ cs, c ∉ A

theorem Free.append {cs : List Char} {a b : Str} (ha : Free cs a) (hb : Free cs b) : Free cs (a ++ b) :=
  fun c hc hm => (List.mem_append.1 hm).elim (ha c hc) (hb c hc)

def CutRel (run : Nat → Str → List Str → Res (List Str × Str)) (cs : List Char) (_ _ : Unit) (X X' : Str)
    (items : List Str) : Prop :=
  Free cs X' ∧ items.length ≤ X.length ∧
    ∀ (A Z : Str) (acc : List Str) (fuel : Nat), Free cs A →
      run (fuel + items.length) (A ++ (X ++ Z)) acc = run fuel (A ++ (X' ++ Z)) (items.reverse ++ acc)

theorem cutRel_segRel (run : Nat → Str → List Str → Res (List Str × Str)) (cs : List Char) :
    SegRel (CutRel run cs) := by
  refine ⟨?_⟩
  rintro _ _ _ a a' b b' i i' ⟨oka, la, ha⟩ ⟨okb, lb, hb⟩
  refine ⟨oka.append okb, by simp; omega, fun A Z acc fuel hA => ?_⟩
  have e1 : fuel + (i ++ i').length = (fuel + i'.length) + i.length := by simp; omega
  have e2 : A ++ (a ++ b ++ Z) = A ++ (a ++ (b ++ Z)) := by simp [List.append_assoc]
  have e3 : A ++ (a' ++ (b ++ Z)) = (A ++ a') ++ (b ++ Z) := by simp [List.append_assoc]
  rw [e1, e2, ha A (b ++ Z) acc _ hA, e3, hb (A ++ a') Z _ fuel (hA.append oka)]
  simp [List.append_assoc]

theorem cutRel_gap {run : Nat → Str → List Str → Res (List Str × Str)} {cs : List Char} {G : Str} (h : Free cs G) :
    CutRel run cs () () G G [] :=
  ⟨h, by simp, fun A Z acc fuel _ => by simp⟩

/-- a cut-out loop on the tight text of a literal, with the fuel the model gives it (`text.length + 1`): the pieces in
reading order, every leaf blanked -/
theorem cut_frame {β} {run : Nat → Str → List Str → Res (List Str × Str)} {cs : List Char}
    (hdone : ∀ fuel s acc, Free cs s → run (fuel + 1) s acc = .ok (acc.reverse, s))
    (hcs : ∀ c ∈ cs, c ≠ '[' ∧ c ≠ ']' ∧ c ≠ ',' ∧ c ≠ ' ') (z : Str) (hz : ∀ c ∈ z, c = ' ') (f h : β → Str)
    (a b : Nat) (s : List Nat) (bs : List β) (hpos : ∀ d ∈ s, 1 ≤ d) (hl : bs.length = s.prod)
    (hleaf : ∀ x ∈ bs, CutRel run cs () () (f x) ['_'] [h x]) :
    run ((frame a b (sepG z []) s (bs.map f)).length + 1) (frame a b (sepG z []) s (bs.map f)) []
      = .ok (bs.map h, frame a b (sepG z []) s (bs.map fun _ => ['_'])) := by
  obtain ⟨hX', hlen, hrun⟩ := frame_rel (cutRel_segRel run cs) (sepG z []) (sepG z []) f (fun _ => ['_']) h a b s bs
    hpos hl (cutRel_gap fun c hc => not_mem_rep (hcs c hc).1 a)
    (fun j _ => cutRel_gap fun c hc => not_mem_sepG (hcs c hc).1 (hcs c hc).2.1 (hcs c hc).2.2.1
      (fun hm => (hcs c hc).2.2.2 (hz c hm)) (by simp) j)
    hleaf (cutRel_gap fun c hc => not_mem_rep (hcs c hc).2.1 b)
  have := hrun [] [] [] ((frame a b (sepG z []) s (bs.map f)).length - (bs.map h).length + 1) (fun _ _ => by simp)
  simp only [List.nil_append, List.append_nil] at this
  rw [show (frame a b (sepG z []) s (bs.map f)).length + 1
      = (frame a b (sepG z []) s (bs.map f)).length - (bs.map h).length + 1 + (bs.map h).length by omega,
    this, hdone _ _ _ hX']
  simp

/-- the blanked text is that of an ordinary literal, to which `parseShape_frame` applies -/
theorem valid_blank {β} (s : List Nat) (cs : List β) (hpos : ∀ d ∈ s, 1 ≤ d) (hl : cs.length = s.prod) :
    Valid s (cs.map (fun _ => ['_'])) :=
  ⟨hpos, by simpa using hl, by
    intro e he
    obtain ⟨_, _, rfl⟩ := List.mem_map.1 he
    exact ⟨by simp, by decide, by decide⟩⟩

/-! ### `array_char!` / `array_string!` (both repaired) -/

/-- a quoted piece -/
def wrapQ (q : Char) (c : Str) : Str := q :: (c ++ [q])

/-- one iteration of the quote loop on a piece: found, pushed (a string without its closing quote), blanked -/
theorem cutQuoted_leaf (q : Char) (isString : Bool) (hq : q ≠ '_') (hs : isString = true → q = '"') (c : Str)
    (hc : q ∉ c) : CutRel (cutQuoted q isString) [q] () () (wrapQ q c) ['_'] [c] := by
  refine ⟨by simpa [Free] using hq, by simp [wrapQ], fun A Z acc fuel hA => ?_⟩
  have hA : q ∉ A := hA q (by simp)
  have hf1 : find [q] (A ++ (wrapQ q c ++ Z)) = some A.length := find_char_first _ hA
  have hdrop : (A ++ (wrapQ q c ++ Z)).drop (A.length + 1) = c ++ q :: Z :=
    drop_mid _ (A ++ [q]) _ _ (by simp [wrapQ]) (by simp)
  have hf2 : find [q] (c ++ q :: Z) = some c.length := find_char_first _ hc
  have hpiece : (if isString then (slice (A ++ (wrapQ q c ++ Z)) (A.length + 1) (A.length + c.length + 2)).map (remove '"')
      else slice (A ++ (wrapQ q c ++ Z)) (A.length + 1) (A.length + c.length + 1)) = .ok c := by
    cases hi : isString with
    | false =>
      rw [if_neg (by simp)]
      exact slice_mid _ (A ++ [q]) c (q :: Z) _ _ (by simp [wrapQ]) (by simp) (by simp; omega)
    | true =>
      rw [if_pos rfl, slice_mid _ (A ++ [q]) (c ++ [q]) Z _ _ (by simp [wrapQ]) (by simp) (by simp; omega)]
      simp only [Res.map]
      rw [← hs hi, remove_snoc_self hc]
  have hrr : replaceRange (A ++ (wrapQ q c ++ Z)) A.length (A.length + c.length + 2) ['_'] = .ok (A ++ ['_'] ++ Z) :=
    replaceRange_mid _ A (wrapQ q c) Z ['_'] _ _ (by simp) rfl (by simp [wrapQ]; omega)
  show cutQuoted q isString (fuel + 1) _ _ = _
  rw [cutQuoted, hf1]
  simp only [hdrop, hf2, hpiece, hrr]
  simp [List.append_assoc]

theorem cutQuoted_done (q : Char) (isString : Bool) (fuel : Nat) (s : Str) (acc : List Str) (h : Free [q] s) :
    cutQuoted q isString (fuel + 1) s acc = .ok (acc.reverse, s) := by
  rw [cutQuoted, find_char_none (h q (by simp))]

/-- the front end from the tight text on: rank, the contents in reading order, the shape -/
theorem arrayQuoted_frame (q : Char) (isString : Bool) (hq : q ≠ '_') (hs : isString = true → q = '"')
    (hq' : q ≠ '[' ∧ q ≠ ']' ∧ q ≠ ',' ∧ q ≠ ' ') (z : Str) (hz : ∀ c ∈ z, c = ' ') (X : Str) (s : List Nat)
    (cs : List Str) (hs0 : s ≠ []) (hpos : ∀ d ∈ s, 1 ≤ d) (hl : cs.length = s.prod) (hc : ∀ c ∈ cs, q ∉ c)
    (hPI : parseInput X = frame (s.length + 1) (s.length + 1) (sepG z []) s (cs.map (wrapQ q))) :
    arrayQuoted q isString X = .ok (s, cs) := by
  have hr : 1 ≤ s.length := by cases s with | nil => exact absurd rfl hs0 | cons _ _ => simp
  have hnd : ndimOf 1 (frame (s.length + 1) (s.length + 1) (sepG z []) s (cs.map (wrapQ q))) = .ok s.length := by
    refine ndimOf_frame (k := 0) hpos (by simpa using hl) (fun e he T => ?_) (by omega) (by omega)
    obtain ⟨c, _, rfl⟩ := List.mem_map.1 (List.mem_of_head? he)
    exact findP_cons_ne hq'.1 _
  have hcut := cut_frame (cutQuoted_done q isString) (by simpa using hq') z hz (wrapQ q) id (s.length + 1)
    (s.length + 1) s cs hpos hl (fun c hcm => cutQuoted_leaf q isString hq hs c (hc c hcm))
  have hshape : parseShape s.length _ = .ok s :=
    parseShape_frame z hz (valid_blank s cs hpos hl) (s.length + 1) (s.length + 1) (by omega)
  unfold arrayQuoted
  simp only [hPI, hnd, hcut, hshape, List.map_id]

theorem arrayChar_literal (s : List Nat) (cs : List Char) (hs : s ≠ []) (hpos : ∀ d ∈ s, 1 ≤ d)
    (hl : cs.length = s.prod) (hc : ∀ c ∈ cs, c ≠ '\'' ∧ c ≠ '\\' ∧ c ≠ '"') :
    arrayChar (debugVec s (cs.map (fun c => ['\'', c, '\'']))) = .ok (s, cs.map (fun c => [c])) := by
  have hleaves : cs.map (fun c => ['\'', c, '\'']) = (cs.map (fun c => [c])).map (wrapQ '\'') := by
    simp [List.map_map, wrapQ, Function.comp_def]
  have hl2 : (cs.map (fun c => [c])).length = s.prod := by simpa using hl
  have hl3 : ((cs.map (fun c => [c])).map (wrapQ '\'')).length = s.prod := by simpa using hl
  have hleaf : ∀ x : Char, x ≠ '\'' → x ∉ cs → ∀ e ∈ (cs.map (fun c => [c])).map (wrapQ '\''), x ∉ e :=
    fun x h1 h2 => List.forall_mem_map.2 <| List.forall_mem_map.2 fun c hcm =>
      not_mem_wrap h1 h1 fun hx => h2 (List.mem_singleton.1 hx ▸ hcm)
  rw [hleaves, debugVec_eq hpos hl3]
  have h1 : replace quoteSepL quoteSepT (frame (s.length + 1) (s.length + 1) sepL s ((cs.map (fun c => [c])).map (wrapQ '\'')))
      = frame (s.length + 1) (s.length + 1) sepL s ((cs.map (fun c => [c])).map (wrapQ '\'')) :=
    replace_of_not_mem (c := '"') (by decide) (not_mem_frame hpos hl3 (by decide) (by decide) quote_not_mem_sepL
      (hleaf '"' (by decide) (fun h => (hc _ h).2.2 rfl)))
  exact arrayQuoted_frame '\'' false (by decide) (by simp) (by decide) [' '] (by simp) _ s _ hs hpos hl2
    (List.forall_mem_map.2 fun x hx => by simpa using Ne.symm (hc x hx).1)
    (parseInput_frame hpos hl3 h1 (by simp)
      (List.forall_mem_map.2 <| List.forall_mem_map.2 fun c _ => noStart_br_wrapped (by decide) (by decide)
        fun k => isPrefixOf_of_length_lt (by simp [brSepL]; omega))
      (hleaf '\\' (by decide) (fun h => (hc _ h).2.1 rfl)))

/-! ### `array_string!`: the `"\", \"" → "\",\""` step

Seen from the string contents the separators are `"<sep>"`, and the one between two leaves *is* the pattern; the other
separators end in a quote that starts a match exactly when the next content is `, `. -/

/-- separators seen from the string contents: closing quote, separator, opening quote -/
def sepQ (sep : Nat → Str) (j : Nat) : Str := '"' :: sep j ++ ['"']

theorem frame_wrapQ (a b : Nat) (sep : Nat → Str) (s : List Nat) (cs : List Str) (hpos : ∀ d ∈ s, 1 ≤ d)
    (hl : cs.length = s.prod) :
    frame a b sep s (cs.map (wrapQ '"')) = rep '[' a ++ ['"'] ++ mid (sepQ sep) s cs ++ '"' :: rep ']' b := by
  have e1 : wrapQ '"' = fun c => ['"'] ++ c ++ ['"'] := by funext c; simp [wrapQ]
  have e2 : (fun j => ['"'] ++ sep j ++ ['"']) = sepQ sep := by funext j; simp [sepQ]
  rw [frame, e1, mid_wrap ['"'] ['"'] sep s cs hpos hl, e2]
  simp [List.append_assoc]

theorem quote_not_prefix {c W : Str} (h1 : '"' ∉ c) (h2 : c ≠ [',', ' ']) :
    quoteSepL.isPrefixOf ('"' :: (c ++ '"' :: W)) = false := by
  simp only [quoteSepL, List.isPrefixOf_cons_cons, beq_self_eq_true, Bool.true_and]
  match c with
  | [] => simp [List.isPrefixOf_cons_cons]
  | [x] =>
    simp only [List.cons_append, List.nil_append, List.isPrefixOf_cons_cons]
    by_cases hx : x = ','
    · subst hx; simp
    · have : (',' == x) = false := by simpa using fun e => hx e.symm
      simp [this]
  | x :: y :: r =>
    simp only [List.cons_append, List.isPrefixOf_cons_cons]
    by_cases hx : x = ','
    · by_cases hy : y = ' '
      · subst hx hy
        cases r with
        | nil => exact absurd rfl h2
        | cons z r =>
          have hz : z ≠ '"' := by intro e; subst e; simp at h1
          have : ('"' == z) = false := by simpa using fun e => hz e.symm
          simp [List.isPrefixOf_cons_cons, this]
      · have : (' ' == y) = false := by simpa using fun e => hy e.symm
        simp [this]
    · have : (',' == x) = false := by simpa using fun e => hx e.symm
      simp [this]

/-- what follows begins with a quote -/
def QuoteNext (Z : Str) : Prop := ∃ W, Z = '"' :: W

/-- what follows is a string content that is not `, `, and its closing quote -/
def ContentNext (Z : Str) : Prop := ∃ c W, Z = c ++ '"' :: W ∧ '"' ∉ c ∧ c ≠ [',', ' ']

theorem pass_quote_sep (j : Nat) :
    Pass (replace quoteSepL quoteSepT) QuoteNext ContentNext (sepQ sepL j) (sepQ (sepG [] [' ']) j) [] := by
  rintro _ ⟨c, W, rfl, h1, h2⟩
  refine ⟨⟨_, rfl⟩, ?_⟩
  cases j with
  | zero => exact replace_append_pat _ (by simp [quoteSepL])
  | succ j =>
    rw [show sepQ (sepG [] [' ']) (j + 1) = sepQ sepL (j + 1) from rfl]
    apply replace_ctx
    show NoStartCtx quoteSepL (['"'] ++ (sepL (j + 1) ++ ['"'])) _
    refine noStartCtx_append ?_ (noStartCtx_append ?_ ?_)
    · intro k hk
      obtain rfl : k = 0 := by simpa using hk
      simp [sepG, quoteSepL, rep, List.replicate_succ, List.isPrefixOf_cons_cons]
    · exact (noStart_of_head_not_mem (c := '"') (p := [',', ' ', '"']) (quote_not_mem_sepL (j + 1))).ctx _
    · intro k hk
      obtain rfl : k = 0 := by simpa using hk
      simpa using quote_not_prefix (W := W) h1 h2

theorem replace_quote_strings (a b : Nat) (s : List Nat) (cs : List Str) (hpos : ∀ d ∈ s, 1 ≤ d)
    (hl : cs.length = s.prod) (hc : ∀ c ∈ cs, '"' ∉ c ∧ c ≠ [',', ' ']) :
    replace quoteSepL quoteSepT (frame a b sepL s (cs.map (wrapQ '"')))
      = frame a b (sepG [] [' ']) s (cs.map (wrapQ '"')) := by
  have hR := pass_segRel (replace quoteSepL quoteSepT)
  have hq : ∀ A : Str, '"' ∉ A → NoStart quoteSepL A := fun A hA =>
    noStart_of_head_not_mem (c := '"') (p := [',', ' ', '"']) hA
  have hopen : Pass (replace quoteSepL quoteSepT) Any ContentNext (rep '[' a ++ ['"']) (rep '[' a ++ ['"']) ([] ++ []) :=
    hR.app (pass_noStart (hq _ (not_mem_rep (by decide) a)) [])
      (show Pass _ Any ContentNext ['"'] ['"'] [] from
        fun _ ⟨c, W, e, h1, h2⟩ => ⟨trivial, e ▸ replace_cons_of_not_prefix (quote_not_prefix h1 h2)⟩)
  have hmid := mid_rel hR (p := ContentNext) (q := QuoteNext) (sepQ sepL) (sepQ (sepG [] [' '])) id id id s cs hpos hl
    (fun j _ => pass_quote_sep j)
    (fun c hcm _ ⟨W, e⟩ => ⟨⟨c, W, e ▸ rfl, hc c hcm⟩, replace_noStart _ (hq _ (hc c hcm).1)⟩)
  have hclose : Pass (replace quoteSepL quoteSepT) QuoteNext AtEnd ('"' :: rep ']' b) ('"' :: rep ']' b) [] := by
    rintro _ rfl
    exact ⟨⟨rep ']' b, by simp⟩, by
      simpa using replace_of_not_mem (p := quoteSepL) (t := quoteSepT) (c := ',') (by decide)
        (show ',' ∉ '"' :: rep ']' b by simp [not_mem_rep (c := ']') (d := ',') (by decide) b])⟩
  have := (hR.app (hR.app hopen hmid) hclose).whole rfl (replace_nil _ _)
  rw [frame_wrapQ a b _ s cs hpos hl, frame_wrapQ a b _ s cs hpos hl]
  simpa using this

/-- a string content `array_string!` (repaired) carries unchanged: no `"`, no `\`, not exactly `", "`, and the four
characters `], [` do not occur in it (commas, brackets, blanks, the empty string are all fine) -/
structure StrOk (c : Str) : Prop where
  quote : '"' ∉ c
  back : '\\' ∉ c
  commaSp : c ≠ [',', ' ']
  noBr : ∀ k, brSepL.isPrefixOf (c.drop k) = false

theorem arrayString_literal (s : List Nat) (cs : List Str) (hs : s ≠ []) (hpos : ∀ d ∈ s, 1 ≤ d)
    (hl : cs.length = s.prod) (hc : ∀ c ∈ cs, StrOk c) :
    arrayString (debugVec s (cs.map (wrapQ '"'))) = .ok (s, cs) := by
  have hl3 : (cs.map (wrapQ '"')).length = s.prod := by simpa using hl
  rw [debugVec_eq hpos hl3]
  have h1 := replace_quote_strings (s.length + 1) (s.length + 1) s cs hpos hl
    (fun c hcm => ⟨(hc c hcm).quote, (hc c hcm).commaSp⟩)
  exact arrayQuoted_frame '"' true (by decide) (by simp) (by decide) [] (by simp) _ s cs hs hpos hl
    (fun c hcm => (hc c hcm).quote)
    (parseInput_frame hpos hl3 h1 (by simp)
      (List.forall_mem_map.2 fun c hcm => noStart_br_wrapped (by decide) (by decide) (hc c hcm).noBr)
      (List.forall_mem_map.2 fun c hcm => not_mem_wrap (by decide) (by decide) (hc c hcm).back))

/-! ### `array_tuple!`

`array!(Tuple2<..>, lit)` hands `format!("{:?}", vec![vec![lit]])` to `array_tuple!`: two extra bracket levels around
the nest whose leaves are the Debug texts `(c₁, c₂)` of native tuples.  The loop takes the first `(` and the first `)`
of the whole text. -/

/-- a parenthesised piece -/
def wrapP (b : Str) : Str := '(' :: (b ++ [')'])

/-- a tuple body (the text between the parentheses) `array_tuple!` carries: no `)`, no `\`, and after the
quote rewrite no occurrence of the four characters `], [` (an opening parenthesis inside a body is harmless to the
loop: it takes the first `(` and the first `)` of the whole text) -/
structure TupOk (b : Str) : Prop where
  cls : ')' ∉ b
  back : '\\' ∉ b
  noBr : ∀ k, brSepL.isPrefixOf ((quoteTight b).drop k) = false

theorem noBr_of_not_mem {b : Str} (h : ']' ∉ b) : ∀ k, brSepL.isPrefixOf ((quoteTight b).drop k) = false :=
  fun k => isPrefixOf_of_not_mem (c := ']') (by simp [brSepL])
    fun hm => not_mem_quoteTight h (by decide) (by decide) (List.mem_of_mem_drop hm)

/-- one iteration of the `array_tuple!` loop on a piece: found, pushed (without quotes), blanked -/
theorem cutTuples_leaf (b : Str) (h2 : ')' ∉ b) :
    CutRel cutTuples ['(', ')'] () () (wrapP b) ['_'] [remove '"' (wrapP b)] := by
  refine ⟨by simp [Free], by simp [wrapP], fun A Z acc fuel hA => ?_⟩
  have hA1 : '(' ∉ A := hA _ (by simp)
  have hA2 : ')' ∉ A := hA _ (by simp)
  have hf1 : find ['('] (A ++ (wrapP b ++ Z)) = some A.length := find_char_first _ hA1
  have hf2 : find [')'] (A ++ (wrapP b ++ Z)) = some (A ++ '(' :: b).length := by
    rw [show A ++ (wrapP b ++ Z) = (A ++ '(' :: b) ++ ')' :: Z by simp [wrapP]]
    exact find_char_first _ (by simp [hA2, h2])
  have hsl : slice (A ++ (wrapP b ++ Z)) A.length ((A ++ '(' :: b).length + 1) = .ok (wrapP b) :=
    slice_mid _ A (wrapP b) Z _ _ (by simp) rfl (by simp [wrapP]; omega)
  have hrr : replaceRange (A ++ (wrapP b ++ Z)) A.length ((A ++ '(' :: b).length + 1) ['_'] = .ok (A ++ ['_'] ++ Z) :=
    replaceRange_mid _ A (wrapP b) Z ['_'] _ _ (by simp) rfl (by simp [wrapP]; omega)
  show cutTuples (fuel + 1) _ _ = _
  rw [cutTuples, hf1]
  simp only [hf2, hsl, hrr]
  simp [List.append_assoc]

theorem cutTuples_done (fuel : Nat) (s : Str) (acc : List Str) (h : Free ['(', ')'] s) :
    cutTuples (fuel + 1) s acc = .ok (acc.reverse, s) := by
  rw [cutTuples, find_char_none (h _ (by simp))]

/-- the front end from the tight text on: rank, the pieces in reading order, the shape -/
theorem arrayTuple_frame (X : Str) (s : List Nat) (ts : List Str) (hs : s ≠ []) (hpos : ∀ d ∈ s, 1 ≤ d)
    (hl : ts.length = s.prod) (hc : ∀ t ∈ ts, ')' ∉ t)
    (hPI : parseInput X = frame (s.length + 2) (s.length + 2) (sepG [' '] []) s (ts.map wrapP)) :
    arrayTuple X = .ok (s, ts.map (fun t => remove '"' (wrapP t))) := by
  have hr : 1 ≤ s.length := by cases s with | nil => exact absurd rfl hs | cons _ _ => simp
  have hnd : ndimOf 2 (frame (s.length + 2) (s.length + 2) (sepG [' '] []) s (ts.map wrapP)) = .ok s.length := by
    refine ndimOf_frame (k := 0) hpos (by simpa using hl) (fun e he T => ?_) (by omega) (by omega)
    obtain ⟨t, _, rfl⟩ := List.mem_map.1 (List.mem_of_head? he)
    exact findP_cons_ne (by decide) _
  have hcut := cut_frame cutTuples_done (by decide) [' '] (by simp) wrapP (fun t => remove '"' (wrapP t))
    (s.length + 2) (s.length + 2) s ts hpos hl (fun t ht => cutTuples_leaf t (hc t ht))
  have hshape : parseShape s.length _ = .ok s :=
    parseShape_frame [' '] (by simp) (valid_blank s ts hpos hl) (s.length + 2) (s.length + 2) (by omega)
  unfold arrayTuple
  simp only [hPI, hnd, hcut, hshape]

theorem arrayTuple_literal (s : List Nat) (bs : List Str) (hs : s ≠ []) (hpos : ∀ d ∈ s, 1 ≤ d)
    (hl : bs.length = s.prod) (hc : ∀ b ∈ bs, TupOk b) :
    arrayTuple (debugVec (1 :: s) (bs.map wrapP))
      = .ok (s, bs.map (fun b => remove '"' (wrapP (quoteTight b)))) := by
  have hl4 : (bs.map (fun b => wrapP (quoteTight b))).length = s.prod := by simpa using hl
  have hdbg : debugVec (1 :: s) (bs.map wrapP) = frame (s.length + 2) (s.length + 2) sepL s (bs.map wrapP) := by
    rw [debugVec_eq (by simpa using hpos) (by simpa using hl), frame, mid_one_cons _ _ _ (by simpa using hl)]
    rfl
  have h1 : replace quoteSepL quoteSepT (frame (s.length + 2) (s.length + 2) sepL s (bs.map wrapP))
      = frame (s.length + 2) (s.length + 2) sepL s (bs.map (fun b => wrapP (quoteTight b))) :=
    replace_quote_frame '(' ')' (by decide) (by decide) _ _ s bs hpos hl
  have hPI := parseInput_frame hpos hl4 h1 (by simp)
    (List.forall_mem_map.2 fun b hb => noStart_br_wrapped (o := '(') (c := ')') (by decide) (by decide) (hc b hb).noBr)
    (List.forall_mem_map.2 fun b hbm =>
      not_mem_wrap (by decide) (by decide) (not_mem_quoteTight (hc b hbm).back (by decide) (by decide)))
  have := arrayTuple_frame _ s (bs.map quoteTight) hs hpos (by simpa using hl)
    (List.forall_mem_map.2 fun b hb => not_mem_quoteTight (hc b hb).cls (by decide) (by decide))
    (by simpa [List.map_map, Function.comp_def] using hPI)
  simpa [hdbg, List.map_map, Function.comp_def] using this

/-! ### `array_list!`

`array!(List<T>, lit)` hands `format!("{:?}", vec![lit])` to `array_list!`; the leaves of the nest are the Debug texts
`[i₁, i₂, …]` of native arrays / `Vec`s, so in the text the list items form one more bracket level, and `], [` → `],[`
also tightens the separator between two lists.  The first loop writes `&[` for every bracket opening level `ndim + 2`,
the second cuts `&[ … ]` out (first `&`, next `]`). -/

/-- a bracketed piece -/
def wrapB (b : Str) : Str := '[' :: (b ++ [']'])

/-- a list body (the text between the brackets) `array_list!` carries: no `[`, no `]`, no `\` -/
structure ListOk (b : Str) : Prop where
  opn : '[' ∉ b
  cls : ']' ∉ b
  back : '\\' ∉ b

/-- the leaves `[b]` seen as one more nesting level: their brackets move into the separators -/
theorem frame_wrapB (z : Str) (a b : Nat) (s : List Nat) (cs : List Str) (hpos : ∀ d ∈ s, 1 ≤ d)
    (hl : cs.length = s.prod) :
    frame a b (sepG z z) s (cs.map wrapB) = frame (a + 1) (b + 1) (fun j => sepG z z (j + 1)) s cs := by
  have e1 : wrapB = fun c => ['['] ++ c ++ [']'] := by funext c; simp [wrapB]
  have e2 : (fun j => [']'] ++ sepG z z j ++ ['[']) = fun j => sepG z z (j + 1) := by
    funext j
    simp [sepG, rep_succ_snoc '[' j, List.replicate_succ, List.append_assoc]
  rw [frame, frame, e1, mid_wrap ['['] [']'] _ s cs hpos hl, e2, rep_succ_snoc '[' a]
  simp [List.replicate_succ, List.append_assoc]

theorem replace_br_lists (a b : Nat) (s : List Nat) (qs : List Str) (hpos : ∀ d ∈ s, 1 ≤ d)
    (hl : qs.length = s.prod) (hq : ∀ q ∈ qs, ']' ∉ q) :
    replace brSepL brSepT (frame a b sepL s (qs.map wrapB)) = frame a b (sepG [] []) s (qs.map wrapB) := by
  rw [frame_wrapB [' '] a b s qs hpos hl, frame_wrapB [] a b s qs hpos hl]
  have := frame_rel (pass_segRel (replace brSepL brSepT)) (fun j => sepG [' '] [' '] (j + 1))
    (fun j => sepG [] [] (j + 1)) id id id (a + 1) (b + 1) s qs hpos hl (pass_noStart (noStart_br_open _) [])
    (fun j _ => pass_br_sep [' '] (by decide) (j + 1))
    (fun q hqm => pass_noStart (noStart_of_head_not_mem (c := ']') (p := [',', ' ', '[']) (hq q hqm)) _)
    (pass_end (c := ',') (by decide) (not_mem_rep (by decide) _) [])
  simpa using this.whole rfl (replace_nil _ _)

/-! #### the marking pass -/

theorem res_map_nil_append (x : Res Str) : x.map ([] ++ ·) = x := by
  cases x <;> rfl

/-- the marking pass on a segment: from bracket level `l` to level `l'` -/
def MarkRel (r : Nat) (l l' : Nat) (X X' : Str) (_ : List Str) : Prop :=
  ∀ Z, markLists r l (X ++ Z) = (markLists r l' Z).map (X' ++ ·)

theorem markRel_segRel (r : Nat) : SegRel (MarkRel r) :=
  ⟨fun ha hb Z => by
    rw [List.append_assoc, ha, hb, Res.map_map]
    simp only [List.append_assoc]⟩

theorem markRel_plain (r l : Nat) (b : Str) (h1 : '[' ∉ b) (h2 : ']' ∉ b) (i : List Str) : MarkRel r l l b b i := by
  intro Z
  induction b with
  | nil => exact (res_map_nil_append _).symm
  | cons x b ih =>
    simp only [List.mem_cons, not_or] at h1 h2
    show markLists r l (x :: (b ++ Z)) = _
    rw [markLists, if_neg (Ne.symm h1.1), if_neg (Ne.symm h2.1), ih h1.2 h2.2, Res.map_map]
    rfl

theorem markRel_open (r : Nat) {l l' : Nat} (k : Nat) (h : l + k = l') (hr : l' ≤ r + 1) :
    MarkRel r l l' (rep '[' k) (rep '[' k) [] := by
  intro Z
  induction k generalizing l with
  | zero => subst h; exact (res_map_nil_append _).symm
  | succ k ih =>
    show markLists r l ('[' :: (rep '[' k ++ Z)) = _
    have hne : ¬ (l + 1 = r + 2) := by omega
    rw [markLists, if_pos rfl, ih (l := l + 1) (by omega), Res.map_map]
    simp only [hne, if_false]
    rfl

theorem markRel_close (r : Nat) {l l' : Nat} (k : Nat) (h : l' + k = l) :
    MarkRel r l l' (rep ']' k) (rep ']' k) [] := by
  intro Z
  induction k generalizing l with
  | zero => subst h; exact (res_map_nil_append _).symm
  | succ k ih =>
    show markLists r l (']' :: (rep ']' k ++ Z)) = _
    rw [markLists, if_neg (by decide), if_pos rfl, if_neg (by omega), ih (l := l - 1) (by omega), Res.map_map]
    rfl

theorem markRel_sep (r j : Nat) (hj : j ≤ r) : MarkRel r (r + 1) (r + 1) (sepG [] [] j) (sepG [] [] j) [] := by
  have := (markRel_segRel r).app ((markRel_segRel r).app (markRel_close r (l := r + 1) (l' := r + 1 - j) j (by omega))
    (markRel_plain r (r + 1 - j) [','] (by decide) (by decide) []))
    (markRel_open r (l := r + 1 - j) (l' := r + 1) j (by omega) (Nat.le_refl _))
  have e : sepG [] [] j = rep ']' j ++ [','] ++ rep '[' j := by
    unfold sepG; split <;> simp
  rwa [← e] at this

theorem markRel_leaf (r : Nat) (c : Str) (h1 : '[' ∉ c) (h2 : ']' ∉ c) (i : List Str) :
    MarkRel r (r + 1) (r + 1) (wrapB c) ('&' :: wrapB c) i := by
  intro Z
  show markLists r (r + 1) ('[' :: (c ++ [']'] ++ Z)) = _
  rw [markLists, if_pos rfl, List.append_assoc, markRel_plain r _ c h1 h2 [], List.singleton_append, markLists,
    if_neg (by decide), if_pos rfl, if_neg (by omega), Res.map_map, Res.map_map, Nat.add_sub_cancel]
  cases markLists r (r + 1) Z <;> simp [Res.map, wrapB]

/-! #### the cut-out loop -/

theorem cutLists_leaf (c : Str) (h : ']' ∉ c) : CutRel cutLists ['&'] () () ('&' :: wrapB c) ['_'] [remove '"' c] := by
  refine ⟨by simp [Free], by simp [wrapB], fun A Z acc fuel hA => ?_⟩
  have hf1 : find ['&'] (A ++ ('&' :: wrapB c ++ Z)) = some A.length := find_char_first _ (hA _ (by simp))
  have hdrop : (A ++ ('&' :: wrapB c ++ Z)).drop (A.length + 1) = ('[' :: c) ++ ']' :: Z :=
    drop_mid _ (A ++ ['&']) _ _ (by simp [wrapB]) (by simp)
  have hf2 : find [']'] (('[' :: c) ++ ']' :: Z) = some (c.length + 1) := by
    simpa using find_char_first (q := ']') (g := '[' :: c) Z (by simp [h])
  have hsl : slice (A ++ ('&' :: wrapB c ++ Z)) (A.length + 2) (A.length + (c.length + 1) + 1) = .ok c :=
    slice_mid _ (A ++ ['&', '[']) c (']' :: Z) _ _ (by simp [wrapB]) (by simp) (by simp; omega)
  have hrr : replaceRange (A ++ ('&' :: wrapB c ++ Z)) A.length (A.length + (c.length + 1) + 2) ['_']
      = .ok (A ++ ['_'] ++ Z) :=
    replaceRange_mid _ A ('&' :: wrapB c) Z ['_'] _ _ (by simp) rfl (by simp [wrapB]; omega)
  show cutLists (fuel + 1) _ _ = _
  rw [cutLists, hf1]
  simp only [hdrop, hf2, hsl, hrr]
  simp [List.append_assoc]

theorem cutLists_done (fuel : Nat) (s : Str) (acc : List Str) (h : Free ['&'] s) :
    cutLists (fuel + 1) s acc = .ok (acc.reverse, s) := by
  rw [cutLists, find_char_none (h _ (by simp))]

/-- the front end from the tight text on: rank, the `&` marks, the bodies in reading order, the shape -/
theorem arrayList_frame (X : Str) (s : List Nat) (qs : List Str) (hs : s ≠ []) (hpos : ∀ d ∈ s, 1 ≤ d)
    (hl : qs.length = s.prod) (hopn : ∀ q ∈ qs, '[' ∉ q) (hcls : ∀ q ∈ qs, ']' ∉ q)
    (hPI : parseInput X = frame (s.length + 1) (s.length + 1) (sepG [] []) s (qs.map wrapB)) :
    arrayList X = .ok (s, qs.map (remove '"')) := by
  have hr : 1 ≤ s.length := by cases s with | nil => exact absurd rfl hs | cons _ _ => simp
  have hnd : ndimOf 2 (frame (s.length + 1) (s.length + 1) (sepG [] []) s (qs.map wrapB)) = .ok s.length := by
    refine ndimOf_frame (k := 1) hpos (by simpa using hl) (fun e he T => ?_) (by omega) (by omega)
    obtain ⟨q, hq, rfl⟩ := List.mem_map.1 (List.mem_of_head? he)
    cases q with
    | nil => simp [wrapB, findP]
    | cons x t =>
      have hx : x ≠ '[' := fun e => hopn _ hq (by simp [e])
      simp [wrapB, findP, hx]
  have hmark : markLists s.length 0 (frame (s.length + 1) (s.length + 1) (sepG [] []) s (qs.map wrapB))
      = .ok (frame (s.length + 1) (s.length + 1) (sepG [] []) s (qs.map (fun q => '&' :: wrapB q))) := by
    have := frame_rel (markRel_segRel s.length) (sepG [] []) (sepG [] []) wrapB (fun q => '&' :: wrapB q) id
      (s.length + 1) (s.length + 1) s qs hpos hl
      (markRel_open s.length (s.length + 1) (Nat.zero_add _) (Nat.le_refl _))
      (fun j hj => markRel_sep s.length j (by omega))
      (fun q hq => markRel_leaf s.length q (hopn q hq) (hcls q hq) _)
      (markRel_close s.length (s.length + 1) (Nat.zero_add _)) []
    simpa [markLists, Res.map] using this
  have hcut := cut_frame cutLists_done (by decide) [] (by simp) (fun q => '&' :: wrapB q) (remove '"')
    (s.length + 1) (s.length + 1) s qs hpos hl (fun q hq => cutLists_leaf q (hcls q hq))
  have hshape : parseShape s.length _ = .ok s :=
    parseShape_frame [] (by simp) (valid_blank s qs hpos hl) (s.length + 1) (s.length + 1) (by omega)
  unfold arrayList
  simp only [hPI, hnd, hmark, hcut, hshape]

theorem arrayList_literal (s : List Nat) (bs : List Str) (hs : s ≠ []) (hpos : ∀ d ∈ s, 1 ≤ d)
    (hl : bs.length = s.prod) (hc : ∀ b ∈ bs, ListOk b) :
    arrayList (debugVec s (bs.map wrapB)) = .ok (s, bs.map (fun b => remove '"' (quoteTight b))) := by
  have hlq : (bs.map quoteTight).length = s.prod := by simpa using hl
  have hopn : ∀ q ∈ bs.map quoteTight, '[' ∉ q :=
    List.forall_mem_map.2 fun b hb => not_mem_quoteTight (hc b hb).opn (by decide) (by decide)
  have hcls : ∀ q ∈ bs.map quoteTight, ']' ∉ q :=
    List.forall_mem_map.2 fun b hb => not_mem_quoteTight (hc b hb).cls (by decide) (by decide)
  have h1 : replace quoteSepL quoteSepT (frame (s.length + 1) (s.length + 1) sepL s (bs.map wrapB))
      = frame (s.length + 1) (s.length + 1) sepL s ((bs.map quoteTight).map wrapB) := by
    rw [List.map_map]
    exact replace_quote_frame '[' ']' (by decide) (by decide) (s.length + 1) (s.length + 1) s bs hpos hl
  have hb : '\\' ∉ frame (s.length + 1) (s.length + 1) (sepG [] []) s ((bs.map quoteTight).map wrapB) :=
    not_mem_frame hpos (by simpa using hl) (by decide) (by decide)
      (not_mem_sepG (by decide) (by decide) (by decide) (by simp) (by simp))
      (List.forall_mem_map.2 <| List.forall_mem_map.2 fun b hbm =>
        not_mem_wrap (by decide) (by decide) (not_mem_quoteTight (hc b hbm).back (by decide) (by decide)))
  have := arrayList_frame _ s (bs.map quoteTight) hs hpos hlq hopn hcls
    (parseInput_eq h1 (replace_br_lists _ _ s _ hpos hlq hcls) hb)
  rw [debugVec_eq hpos (by simpa using hl)]
  simpa [List.map_map, Function.comp_def] using this

end ArrModel.C18
