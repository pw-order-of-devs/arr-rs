import ArrProofs.Lemmas.C01Core
import ArrModel.Reorder
import ArrModel.C08
import ArrModel.C10
/-!
# Lemmas.C01Struct — well-formedness of the results of the structural operations
(`Manip`, `Broadcast`, `Split`, the `C08` axis wrappers, `Reorder`, the array-level operations of `C10`).
A hypothesis `a.WF` is there where some exit hands the operand on unchanged (`atleast`, the split family on an empty array,
`rot90` by a multiple of four, a 1-D body called on the receiver itself).
-/
namespace ArrModel.C01
open ArrModel Res

variable {α β γ : Type}

/-! ### Manip -/

theorem cycleTakeArr_wf (a : Arr α) (n : Nat) : (a.cycleTakeArr n).WF := Arr.flat_wf _

theorem atleast2d_wf (a : Arr α) (ha : a.WF) : All Arr.WF a.atleast2d := by
  unfold Arr.atleast2d
  refine All.ite' (All.ok ha) ?_
  split
  · exact fun _ => Arr.reshape_wf
  · exact All.bind' fun _ _ => Arr.reshape_wf
  · exact All.bind' fun _ _ => Arr.reshape_wf

theorem atleast3d_wf (a : Arr α) (ha : a.WF) : All Arr.WF a.atleast3d := by
  unfold Arr.atleast3d
  refine All.ite' (All.ok ha) ?_
  split
  · exact fun _ => Arr.reshape_wf
  · exact All.bind' fun _ _ => Arr.reshape_wf
  · exact All.bind' fun _ => All.bind' fun _ _ => Arr.reshape_wf
  · exact All.ok ha

theorem atleast_wf (a : Arr α) (n : Nat) (ha : a.WF) : All Arr.WF (a.atleast n) := by
  unfold Arr.atleast
  split
  · exact All.ok ha
  · exact All.ok ha
  · exact atleast2d_wf a ha
  · exact atleast3d_wf a ha
  · exact All.err

theorem expandDims_wf (a : Arr α) (axes : List Int) : All Arr.WF (a.expandDims axes) :=
  All.ite' All.err <| All.bind' fun _ _ => Arr.reshape_wf

theorem squeeze_wf (a : Arr α) (axes : Option (List Int)) : All Arr.WF (a.squeeze axes) :=
  match axes with
  | none => fun _ => Arr.reshape_wf
  | some _ =>
    All.ite' All.err <| All.ite' All.err <| All.bind' fun _ => All.ite' All.err <| All.bind' fun _ _ => Arr.reshape_wf

theorem create_wf (elems : List α) (shape : List Nat) (ndmin : Option Nat) : All Arr.WF (Arr.create elems shape ndmin) :=
  All.ite' (All.bind' fun _ _ => Arr.reshape_wf) (fun _ => Arr.new_wf)

/-! ### Broadcast -/

theorem broadcast_wf (a : Arr α) (b : Arr β) : All Arr.WF (a.broadcast b) :=
  All.ite' All.err <| All.ite' (fun _ => Arr.reshape_wf) <| All.bind' fun _ => All.bind' fun _ => All.bind' fun _ _ => Arr.new_wf

theorem broadcastArrays_wf (arrs : List (Arr α)) : All AllWF (Arr.broadcastArrays arrs) :=
  All.bind' fun cs => All.mapM' fun a _ => broadcastTo_wf a cs

theorem zip_wf (a : Arr α) (b : Arr β) : All Arr.WF (a.zip b) := All.bind' fun _ _ => Arr.reshape_wf

theorem broadcastH2_all (a : Arr α) (zero : α) (b : Arr β) : All (fun r => r.1.WF ∧ r.2.WF) (a.broadcastH2 zero b) :=
  All.bind' fun _ => All.bind' fun _ => All.bind (fun _ => Arr.reshape_wf) fun arr harr =>
  All.bind (broadcastTo_wf b arr.shape) fun _ hother => All.ok ⟨harr, hother⟩

theorem broadcastH2_wf (a : Arr α) (zero : α) (b : Arr β) (_ha : a.WF) (_hb : b.WF) {r : Arr α × Arr β}
    (h : a.broadcastH2 zero b = .ok r) : r.1.WF ∧ r.2.WF := broadcastH2_all a zero b r h

theorem broadcastH3_wf (a : Arr α) (zero : α) (b : Arr β) (c : Arr γ) (ha : a.WF) (_hb : b.WF) (_hc : c.WF)
    {r : Arr α × Arr β × Arr γ} (h : a.broadcastH3 zero b c = .ok r) : r.1.WF ∧ r.2.1.WF ∧ r.2.2.WF := by
  refine All.bind' (Q := fun r => r.1.WF ∧ r.2.1.WF ∧ r.2.2.WF) (fun t1 => All.bind' fun t2 => ?_) r h
  refine All.bind (broadcastArrays_wf [a, t1, t2]) fun bs hbs => All.bind idx_mem fun arr harr => ?_
  refine All.bind (broadcastTo_wf b arr.shape) fun _ ho1 => All.bind (broadcastTo_wf c arr.shape) fun _ ho2 => ?_
  exact All.ok ⟨hbs arr harr, ho1, ho2⟩

/-! ### Split -/

theorem allWF_singleton {a : Arr α} (ha : a.WF) : AllWF [a] := fun _ hx => List.mem_singleton.mp hx ▸ ha

theorem arraySplit_wf (a : Arr α) (zero : α) (parts : Nat) (axis : Option Nat) (ha : a.WF) :
    All AllWF (a.arraySplit zero parts axis) :=
  All.ite' All.err <| All.ite' All.err <| All.ite' (All.ok (allWF_singleton ha)) <|
  All.bind' fun _ => All.bind' fun _ => All.mapM' fun _ _ =>
    All.ite' (All.ok (Arr.flat_wf _)) <| All.bind' fun r => moveaxis_wf r zero _ _

theorem split_wf (a : Arr α) (zero : α) (parts : Nat) (axis : Option Nat) (ha : a.WF) :
    All AllWF (a.split zero parts axis) :=
  All.ite' All.err <| All.ite' All.err <| All.ite' (All.ok (allWF_singleton ha)) <|
  All.bind' fun _ => All.ite' (arraySplit_wf a zero parts axis ha) All.err

theorem splitAxis_wf (a : Arr α) (zero : α) (axis : Nat) (ha : a.WF) : All AllWF (a.splitAxis zero axis) :=
  All.ite' All.err <| All.ite' (All.ok (allWF_singleton ha)) <| All.bind' fun n => arraySplit_wf a zero n _ ha

/-! ### C08 -/

theorem reduceAxis_wf (a : Arr α) (zero : α) (zb : β) (axis : Option Int) (f1 : Arr α → Res (Arr β)) (ha : a.WF)
    (hf : ∀ x, x.WF → All Arr.WF (f1 x)) : All Arr.WF (a.reduceAxis zero zb axis f1) :=
  match axis with
  | none => hf a ha
  | some _ => All.bind' fun _ => All.ite' (All.bind' fun _ _ => Arr.reshape_wf) (fun _ => Arr.reshape_wf)

theorem countAxis_wf (a : Arr α) (zero : α) (zb : β) (axis : Option Int) (keepdims : Option Bool)
    (f1 : Arr α → Option Bool → Res (Arr β)) (ha : a.WF) (hf : ∀ x k, x.WF → All Arr.WF (f1 x k)) :
    All Arr.WF (a.countAxis zero zb axis keepdims f1) :=
  match axis with
  | none => hf a keepdims ha
  | some _ =>
    All.bind (applyAlongAxis_wf a zero zb _ _) fun _ hr => All.ite' (All.ok hr) <| All.bind' fun _ _ => Arr.reshape_wf

theorem scanAxis_wf (a : Arr α) (zero : α) (zb : β) (axis : Option Int) (f1 : Arr α → Res (Arr β))
    (hf : ∀ x, x.WF → All Arr.WF (f1 x)) : All Arr.WF (a.scanAxis zero zb axis f1) :=
  match axis with
  | none => hf _ (Arr.ravel_wf a)
  | some _ => applyAlongAxis_wf a zero zb _ f1

theorem single_wf (x : β) : (Arr.single x).WF := rfl

theorem keepdimsTail_wf (nd : Nat) (keepdims : Option Bool) (r : Arr β) (hr : r.WF) :
    All Arr.WF (Arr.keepdimsTail nd keepdims r) :=
  All.ite' (atleast_wf r nd hr) (All.ok hr)

/-! ### Reorder -/

theorem flip_wf (a : Arr α) (axes : Option (List Int)) : All Arr.WF (a.flip axes) :=
  match axes with
  | none => fun _ => Arr.new_wf
  | some _ => All.ite' All.err <| All.bind' fun _ _ => Arr.reshape_wf

theorem flipud_wf (a : Arr α) : All Arr.WF a.flipud := All.ite' All.err (flip_wf a _)

theorem fliplr_wf (a : Arr α) : All Arr.WF a.fliplr := All.ite' All.err (flip_wf a _)

theorem roll_wf (a : Arr α) (shift : List Int) (axes : Option (List Int)) : All Arr.WF (a.roll shift axes) := by
  unfold Arr.roll
  refine All.bind' fun _ => All.ite' All.err <| All.ite' All.err ?_
  split
  · exact All.ok rfl
  · exact fun _ => Arr.reshape_wf
  · exact All.bind' fun _ _ => Arr.new_wf

theorem rot90_wf (a : Arr α) (zero : α) (k : Nat) (axes : List Int) (ha : a.WF) : All Arr.WF (a.rot90 zero k axes) := by
  unfold Arr.rot90
  refine All.ite' All.err ?_
  split
  · exact All.ite' All.err <| All.ite' (All.ok ha) <| All.ite' (All.bind' fun r => flip_wf r _) <|
      All.ite' (All.bind' fun r => transpose_wf r zero _) (All.bind' fun r => flip_wf r _)
  · exact All.err

/-! ### C10 (array-level operations of `ArrModel.Sort`) -/

section
open ArrModel.Sort

theorem argExtremeLane_wf (c : Cmp α) (isMax : Bool) (a : Arr α) (keepdims : Option Bool) :
    All Arr.WF (argExtremeLane c isMax a keepdims) :=
  All.ite' All.err <| All.bind' fun i => keepdimsTail_wf _ keepdims _ (single_wf i)

theorem sort_wf (c : Cmp α) (zero : α) (a : Arr α) (axis : Option Int) (kind : KindArg) :
    All Arr.WF (sort c zero a axis kind) :=
  All.bind' fun k =>
    match axis with
    | none => All.map fun l _ => Arr.flat_wf l
    | some _ => applyAlongAxis_wf a zero zero _ _

theorem unique_wf (c : Cmp α) (zero : α) (a : Arr α) (axis : Option Int) : All Arr.WF (unique c zero a axis) :=
  match axis with
  | none => All.ok (Arr.flat_wf _)
  | some _ => applyAlongAxis_wf a zero zero _ _

theorem argsort_wf (c : Cmp α) (zero : α) (a : Arr α) (axis : Option Int) (kind : KindArg) :
    All Arr.WF (argsort c zero a axis kind) :=
  All.bind' fun k =>
    match axis with
    | none => All.map fun l _ => Arr.flat_wf l
    | some _ => applyAlongAxis_wf a zero 0 _ _

theorem argExtreme_wf (c : Cmp α) (zero : α) (isMax : Bool) (a : Arr α) (axis : Option Int) (keepdims : Option Bool)
    (ha : a.WF) {r : Arr Nat} (h : argExtreme c zero isMax a axis keepdims = .ok r) : r.WF :=
  countAxis_wf a zero 0 axis keepdims _ ha (fun x k _ => argExtremeLane_wf c isMax x k) r h

end

end ArrModel.C01
