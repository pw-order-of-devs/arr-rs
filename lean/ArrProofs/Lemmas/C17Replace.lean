import ArrProofs.Lemmas.C17Split
/-! helper lemmas for C17: the `_replace` loop against `splitn` -/
namespace ArrModel.C17

theorem limitReached_some_of_le {c k : Nat} (h : c ≤ k) : limitReached (some c) k = true := decide_eq_true h
theorem limitReached_some_of_lt {c k : Nat} (h : k < c) : limitReached (some c) k = false :=
  decide_eq_false (Nat.not_le_of_gt h)

/-- no limit is a limit that is never reached: `f` units of fuel allow at most `f` replacements -/
theorem replaceLoop_none_eq_some (old new : Str) (c : Nat) : ∀ (f : Nat) (done rest : Str) (k : Nat), k + f ≤ c →
    replaceLoop old new none f done rest k = replaceLoop old new (some c) f done rest k
  | 0, _, _, _, _ => rfl
  | f + 1, done, rest, k, h => by
    rw [replaceLoop, replaceLoop]
    cases find rest old with
    | none => rfl
    | some i =>
      have hl : decide (c ≤ k) = false := decide_eq_false (by omega)
      simp only [limitReached, hl, Bool.false_eq_true, if_false]
      split
      · cases rest.drop i with
        | nil => rfl
        | cons x after => exact replaceLoop_none_eq_some old new c f _ after (k + 1) (by omega)
      · exact replaceLoop_none_eq_some old new c f _ _ (k + 1) (by omega)

/-- non-empty `old`, `n` more replacements allowed: the loop rebuilds the text as the pieces of `splitn(n + 1)`
joined by `new` (same fuel on both sides: the two loops take the same steps) -/
theorem replaceLoop_some (old new : Str) (hold : old ≠ []) (c : Nat) : ∀ (f : Nat) (done rest : Str) (k n : Nat),
    k + n = c → replaceLoop old new (some c) f done rest k = done ++ joinWith new (splitnF old f (n + 1) rest)
  | 0, done, rest, k, n, _ => by cases n <;> rfl
  | f + 1, done, rest, k, 0, h => by
    rw [replaceLoop, limitReached_some_of_le (by omega)]
    cases find rest old <;> rfl
  | f + 1, done, rest, k, n + 1, h => by
    rw [replaceLoop, splitnF, limitReached_some_of_lt (by omega), List.isEmpty_eq_false_iff.2 hold]
    cases find rest old with
    | none => rfl
    | some i =>
      simp only [Bool.false_eq_true, if_false]
      rw [replaceLoop_some old new hold c f _ _ (k + 1) n (by omega), joinWith_cons _ _ _ (splitnF_ne_nil _ _ _ _),
        List.append_assoc, List.append_assoc, List.append_assoc]

/-- empty `old`, `n` more insertions allowed: `new` goes before each of the next `n` characters, or at the end -/
theorem replaceLoop_empty_some (new : Str) (c : Nat) : ∀ (rest : Str) (f : Nat) (done : Str) (k n : Nat),
    rest.length < f → k + n = c →
    replaceLoop [] new (some c) f done rest k = done ++ joinWith new (splitnEmpty (n + 1) rest)
  | _, 0, _, _, _, h, _ => absurd h (Nat.not_lt_zero _)
  | rest, f + 1, done, k, 0, _, h => by
    rw [replaceLoop, find_nil_pat, limitReached_some_of_le (by omega)]
    rfl
  | [], f + 1, done, k, n + 1, _, h => by
    rw [replaceLoop, find_nil_pat, limitReached_some_of_lt (by omega)]
    cases n <;> simp [splitnEmpty, splitnEmptyGo, joinWith]
  | d :: ds, f + 1, done, k, n + 1, hf, h => by
    rw [replaceLoop, find_nil_pat, limitReached_some_of_lt (by omega)]
    show replaceLoop [] new (some c) f (done ++ [] ++ new ++ [d]) ds (k + 1) = _
    rw [replaceLoop_empty_some new c ds f _ (k + 1) n (Nat.lt_of_succ_lt_succ hf) (by omega)]
    cases n with
    | zero => simp [splitnEmpty, splitnEmptyGo, joinWith]
    | succ m =>
      simp only [splitnEmpty, splitnEmptyGo]
      rw [joinWith_cons _ _ _ (splitnEmptyGo_ne_nil _ _), joinWith_cons _ _ _ (List.cons_ne_nil _ _),
        joinWith_cons _ _ _ (splitnEmptyGo_ne_nil _ _)]
      simp only [List.append_assoc, List.nil_append, List.append_nil]

/-- with more than `rest.length` units of fuel the loop never runs out: every such fuel gives the same result.
(No such lemma holds of the Rust loop without `fixes/C17-replace-rescan.diff`, which searches the whole text again
after each replacement.) -/
theorem replaceLoop_fuel (old new : Str) (cnt : Option Nat) : ∀ (f g : Nat) (done rest : Str) (k : Nat),
    rest.length < f → rest.length < g →
    replaceLoop old new cnt f done rest k = replaceLoop old new cnt g done rest k
  | 0, _, _, _, _, hf, _ => absurd hf (Nat.not_lt_zero _)
  | _ + 1, 0, _, _, _, _, hg => absurd hg (Nat.not_lt_zero _)
  | f + 1, g + 1, done, rest, k, hf, hg => by
    rw [replaceLoop, replaceLoop]
    cases hi : find rest old with
    | none => rfl
    | some i =>
      simp only
      split
      · rfl
      · cases old with
        | nil =>
          rw [find_nil_pat] at hi
          cases hi
          cases rest with
          | nil => rfl
          | cons c after =>
            exact replaceLoop_fuel [] new cnt f g _ after _ (Nat.lt_of_succ_lt_succ hf) (Nat.lt_of_succ_lt_succ hg)
        | cons o os =>
          have := drop_match_length_lt rest (o :: os) i (List.cons_ne_nil o os) hi
          exact replaceLoop_fuel (o :: os) new cnt f g _ _ _ (by omega) (by omega)

end ArrModel.C17
