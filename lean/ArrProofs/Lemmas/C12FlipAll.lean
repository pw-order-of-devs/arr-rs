import ArrProofs.Lemmas.C12Reads
/-! C12: `flip` without axes in coordinates (every coordinate mirrored) and as the flip along all axes -/
namespace ArrModel
variable {α : Type}

/-- every coordinate mirrored: the coordinate map of flipping all axes -/
def flipAll (s c : List Nat) : List Nat := List.zipWith (fun d x => d - 1 - x) s c

theorem ravel_flipAll : ∀ (s c : List Nat), inRange s c = true → ravel s (flipAll s c) + ravel s c + 1 = s.prod
  | [], [], _ => rfl
  | d :: ds, x :: xs, h => by
    rw [inRange, Bool.and_eq_true, decide_eq_true_eq] at h
    have ih := ravel_flipAll ds xs h.2
    show (d - 1 - x) * ds.prod + ravel ds (flipAll ds xs) + (x * ds.prod + ravel ds xs) + 1 = (d :: ds).prod
    have : (d - 1 - x) * ds.prod + x * ds.prod + ds.prod = d * ds.prod := by
      rw [← Nat.add_mul, ← Nat.succ_mul]; congr 1; omega
    rw [List.prod_cons]
    omega
  | [], _ :: _, h => nomatch h
  | _ :: _, [], h => nomatch h

theorem inRange_flipAll : ∀ (s c : List Nat), inRange s c = true → inRange s (flipAll s c) = true
  | [], [], _ => rfl
  | d :: ds, x :: xs, h => by
    rw [inRange, Bool.and_eq_true, decide_eq_true_eq] at h
    show (decide (d - 1 - x < d) && inRange ds (flipAll ds xs)) = true
    rw [inRange_flipAll ds xs h.2, Bool.and_true, decide_eq_true_eq]
    omega
  | [], _ :: _, h => nomatch h
  | _ :: _, [], h => nomatch h

theorem getD_flipAll (s c : List Nat) (hl : c.length = s.length) (m : Nat) (hm : m < s.length) :
    (flipAll s c).getD m 0 = s.getD m 0 - 1 - c.getD m 0 := by
  simp only [flipAll, List.getD_eq_getElem?_getD, List.getElem?_zipWith, List.getElem?_eq_getElem hm,
    List.getElem?_eq_getElem (hl ▸ hm : m < c.length), Option.getD_some]

theorem length_foldr_flipCoord (s : List Nat) (L c : List Nat) : (L.foldr (flipCoord s) c).length = c.length := by
  induction L with
  | nil => rfl
  | cons y L ih => rw [List.foldr_cons, flipCoord_length, ih]

/-- flipping along distinct axes mirrors exactly the listed coordinates -/
theorem getD_foldr_flipCoord (s : List Nat) : ∀ (L : List Nat) (c : List Nat), L.Nodup → (∀ x ∈ L, x < c.length) → ∀ m,
    (L.foldr (flipCoord s) c).getD m 0 = if m ∈ L then s.getD m 0 - 1 - c.getD m 0 else c.getD m 0
  | [], c, _, _, m => (if_neg List.not_mem_nil).symm
  | x :: L, c, hn, hv, m => by
    have hn' := List.nodup_cons.1 hn
    have ih := getD_foldr_flipCoord s L c hn'.2 (fun y hy => hv y (List.mem_cons_of_mem _ hy))
    rw [List.foldr_cons, getD_flipCoord _ _ _ _ (by rw [length_foldr_flipCoord]; exact hv x List.mem_cons_self)]
    by_cases e : m = x
    · rw [if_pos e, ih x, if_neg hn'.1, e, if_pos List.mem_cons_self]
    · rw [if_neg e, ih m]
      simp only [List.mem_cons, e, false_or]

theorem foldr_flipCoord_range (s c : List Nat) (h : inRange s c = true) :
    (List.range s.length).foldr (flipCoord s) c = flipAll s c := by
  have hl := inRange_length s c h
  have hlen := length_foldr_flipCoord s (List.range s.length) c
  apply coord_ext _ _ (by rw [hlen, flipAll, List.length_zipWith, hl, Nat.min_self])
  intro m hm
  rw [hlen, hl] at hm
  rw [getD_foldr_flipCoord s _ c List.nodup_range (fun x hx => hl ▸ List.mem_range.1 hx) m,
    if_pos (List.mem_range.2 hm), getD_flipAll s c hl m hm]

theorem Arr.flip_none_ok (a : Arr α) (hwf : a.WF) : a.flip none = .ok ⟨a.elems.reverse, a.shape⟩ :=
  Arr.new_of_prod (hwf.symm.trans List.length_reverse.symm)

/-- flip without axes in coordinates: every coordinate mirrored -/
theorem flip_none_spec (a : Arr α) (hwf : a.WF) : Reads (a.flip none) a a.shape (flipAll a.shape) := by
  refine ⟨_, a.flip_none_ok hwf, rfl, List.length_reverse.trans hwf, fun c hc => ?_⟩
  have h1 := ravel_flipAll a.shape c hc
  have h2 := ravel_lt a.shape c hc
  show a.elems.reverse[ravel a.shape c]? = a.elems[ravel a.shape (flipAll a.shape c)]?
  rw [List.getElem?_reverse (hwf ▸ h2), hwf]
  congr 1
  omega

end ArrModel
