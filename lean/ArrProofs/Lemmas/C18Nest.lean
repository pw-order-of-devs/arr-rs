import ArrProofs.Lemmas.Index
import ArrProofs.Lemmas.C18Str
/-!
# Lemmas for C18 — the text of a regular nested literal, and passes over it

`nest s es = frame r r sepL s es`: `r` opening brackets, the leaves joined by the depth-dependent separators
`]^j, [^j` (`mid`), `r` closing brackets.  Every step of the macros is a left-to-right pass that treats the text segment
by segment (a bracket run, a leaf, a separator); `SegRel` names what such passes have in common, and `frame_rel` lifts
the treatment of leaves and separators to the whole text.
-/
namespace ArrModel.C18

/-! ### joinWith -/

@[simp] theorem joinWith_nil (sep : Str) : joinWith sep [] = [] := rfl
@[simp] theorem joinWith_single (sep x : Str) : joinWith sep [x] = x := rfl
theorem joinWith_cons_cons (sep x y : Str) (r : List Str) :
    joinWith sep (x :: y :: r) = x ++ sep ++ joinWith sep (y :: r) := rfl

theorem joinWith_cons_ne {sep x : Str} {r : List Str} (h : r ≠ []) :
    joinWith sep (x :: r) = x ++ sep ++ joinWith sep r := by
  cases r with
  | nil => exact absurd rfl h
  | cons y r => rfl

theorem joinWith_head (sep x : Str) (r : List Str) : ∃ W, joinWith sep (x :: r) = x ++ W := by
  cases r with
  | nil => exact ⟨[], by simp⟩
  | cons y r => exact ⟨sep ++ joinWith sep (y :: r), by rw [joinWith_cons_cons, List.append_assoc]⟩

/-- `joinWith` of wrapped items: the wrappers move into the separator -/
theorem joinWith_wrap {β} (L R sep : Str) (f : β → Str) : ∀ (ys : List β), ys ≠ [] →
    joinWith sep (ys.map (fun y => L ++ f y ++ R)) = L ++ joinWith (R ++ sep ++ L) (ys.map f) ++ R
  | [], h => absurd rfl h
  | [y], _ => by simp
  | y :: z :: r, _ => by
    have ih := joinWith_wrap L R sep f (z :: r) (by simp)
    simp only [List.map_cons] at ih ⊢
    rw [joinWith_cons_cons, joinWith_cons_cons, ih]
    simp [List.append_assoc]

theorem joinWith_append {sep : Str} {x y : List Str} (hx : x ≠ []) (hy : y ≠ []) :
    joinWith sep (x ++ y) = joinWith sep x ++ sep ++ joinWith sep y := by
  induction x with
  | nil => exact absurd rfl hx
  | cons a x ih =>
    cases x with
    | nil => simpa using joinWith_cons_ne hy
    | cons b x =>
      have := ih (by simp)
      rw [List.cons_append, joinWith_cons_ne (by simp), this, joinWith_cons_cons]
      simp [List.append_assoc]

theorem joinWith_flatten (sep : Str) (cs : List (List Str)) (h : ∀ c ∈ cs, c ≠ []) :
    joinWith sep (cs.map (joinWith sep)) = joinWith sep cs.flatten := by
  induction cs with
  | nil => rfl
  | cons c r ih =>
    cases r with
    | nil => simp
    | cons d r =>
      have hne : (d :: r).flatten ≠ [] := by
        have := h d (by simp)
        cases d with
        | nil => exact absurd rfl this
        | cons _ _ => simp
      rw [List.map_cons, joinWith_cons_ne (by simp), ih (fun c hc => h c (by simp [hc])),
        show (c :: d :: r).flatten = c ++ (d :: r).flatten from rfl, joinWith_append (h c (by simp)) hne]

/-- a quantity that is additive over segments (`occ`): one per separator -/
theorem joinWith_count {β} (N : Str → Nat) (f : β → Str) (sep : Str) (ys : List β)
    (hitem : ∀ y ∈ ys, ∀ Z, N (f y ++ Z) = N Z)
    (hsep : ∀ W, N (sep ++ W) = N W + 1) :
    ∀ Z, N (joinWith sep (ys.map f) ++ Z) = (ys.length - 1) + N Z := by
  induction ys with
  | nil => intro Z; simp
  | cons y r ih =>
    intro Z
    cases r with
    | nil => simpa using hitem y (by simp) Z
    | cons z r =>
      have ih' := ih (fun y hy => hitem y (by simp [hy]))
      simp only [List.map_cons] at ih' ⊢
      rw [joinWith_cons_cons]
      simp only [List.append_assoc]
      rw [hitem y (by simp), hsep, ih' Z]
      simp; omega

theorem filter_joinWith (p : Char → Bool) (sep : Str) (ys : List Str) :
    (joinWith sep ys).filter p = joinWith (sep.filter p) (ys.map (List.filter p)) := by
  induction ys with
  | nil => rfl
  | cons y r ih =>
    cases r with
    | nil => simp
    | cons z r =>
      rw [joinWith_cons_cons, List.filter_append, List.filter_append, ih]
      rfl

theorem mem_joinWith {c : Char} {sep : Str} {ys : List Str} (h : c ∈ joinWith sep ys) :
    c ∈ sep ∨ ∃ y ∈ ys, c ∈ y := by
  induction ys with
  | nil => simp at h
  | cons y r ih =>
    cases r with
    | nil => exact Or.inr ⟨y, by simp, by simpa using h⟩
    | cons z r =>
      rw [joinWith_cons_cons] at h
      simp only [List.mem_append] at h
      rcases h with (h | h) | h
      · exact Or.inr ⟨y, by simp, h⟩
      · exact Or.inl h
      · rcases ih h with h | ⟨w, hw, hc⟩
        · exact Or.inl h
        · exact Or.inr ⟨w, by simp [hw], hc⟩

theorem joinWith_eq_nil {sep : Str} {ts : List Str} (h : joinWith sep ts = []) (hne : ∀ t ∈ ts, t ≠ []) : ts = [] := by
  cases ts with
  | nil => rfl
  | cons t r =>
    obtain ⟨W, hW⟩ := joinWith_head sep t r
    rw [hW, List.append_eq_nil_iff] at h
    exact absurd h.1 (hne t (by simp))

theorem splitChar_joinWith (es : List Str) (hne : es ≠ []) (h : ∀ e ∈ es, ',' ∉ e) :
    splitChar ',' (joinWith [','] es) = es := by
  induction es with
  | nil => exact absurd rfl hne
  | cons e r ih =>
    cases r with
    | nil => simpa using splitChar_of_not_mem (h e (by simp))
    | cons f r =>
      rw [joinWith_cons_cons]
      simp only [List.append_assoc, List.singleton_append]
      rw [splitChar_append_sep _ (h e (by simp)), ih (by simp) (fun e he => h e (by simp [he]))]

/-! ### chunks -/

@[simp] theorem chunks_length {α} (k n : Nat) (l : List α) : (chunks k n l).length = n := by
  induction n generalizing l with
  | zero => rfl
  | succ n ih => simp [chunks, ih]

theorem chunks_ne_nil {α} (k n : Nat) (l : List α) (h : 1 ≤ n) : chunks k n l ≠ [] := by
  intro e; have := chunks_length k n l; rw [e] at this; simp at this; omega

theorem mem_chunks {α} {k n : Nat} {l c : List α} (hl : l.length = n * k) (h : c ∈ chunks k n l) :
    c.length = k ∧ ∀ x ∈ c, x ∈ l := by
  induction n generalizing l with
  | zero => simp [chunks] at h
  | succ n ih =>
    simp only [chunks, List.mem_cons] at h
    rcases h with h | h
    · subst h
      refine ⟨?_, fun x hx => List.mem_of_mem_take hx⟩
      rw [List.length_take, hl, Nat.succ_mul]; omega
    · have := ih (l := l.drop k) (by rw [List.length_drop, hl, Nat.succ_mul]; omega) h
      exact ⟨this.1, fun x hx => List.mem_of_mem_drop (this.2 x hx)⟩

theorem chunks_flatten {α} (k n : Nat) (l : List α) (hl : l.length = n * k) : (chunks k n l).flatten = l := by
  induction n generalizing l with
  | zero => simp at hl; simp [chunks, hl]
  | succ n ih =>
    simp only [chunks, List.flatten_cons]
    rw [ih (l.drop k) (by rw [List.length_drop, hl, Nat.succ_mul]; omega), List.take_append_drop]

theorem chunks_map {α β} (f : α → β) (k n : Nat) (l : List α) :
    chunks k n (l.map f) = (chunks k n l).map (List.map f) := by
  induction n generalizing l with
  | zero => rfl
  | succ n ih => simp only [chunks, List.map_cons, ← List.map_take, ← List.map_drop, ih]

/-! ### passes as relations on segments -/

/-- A left-to-right pass over a text, seen segment by segment: `R p q X X' items` says that the pass turns the segment
`X` into `X'` and collects `items`; `p` belongs to the left end of `X` and `q` to its right end (the state of a loop
there, or a condition on the text from there on).  Such relations compose along `++`. -/
structure SegRel {σ : Type} (R : σ → σ → Str → Str → List Str → Prop) : Prop where
  app : ∀ {p q r : σ} {a a' b b' : Str} {i i' : List Str},
    R p q a a' i → R q r b b' i' → R p r (a ++ b) (a' ++ b') (i ++ i')

/-- the pass `F` on a segment, `P` and `Q` being conditions on the text from the left and from the right end of the
segment on: when what follows `X` satisfies `Q`, `F` turns `X` into `X'` independently of it, and the text from `X` on
satisfies `P` (the conditions are established from right to left) -/
def Pass (F : Str → Str) (P Q : Str → Prop) (X X' : Str) (_ : List Str) : Prop :=
  ∀ Z, Q Z → P (X ++ Z) ∧ F (X ++ Z) = X' ++ F Z

/-- no condition on what follows -/
abbrev Any : Str → Prop := fun _ => True

/-- nothing follows -/
abbrev AtEnd : Str → Prop := fun Z => Z = []

theorem pass_segRel (F : Str → Str) : SegRel (Pass F) :=
  ⟨fun ha hb Z hZ => by
    obtain ⟨hq, eb⟩ := hb Z hZ
    obtain ⟨hp, ea⟩ := ha _ hq
    rw [List.append_assoc, List.append_assoc, ← eb]
    exact ⟨hp, ea⟩⟩

theorem Pass.whole {F : Str → Str} {P Q : Str → Prop} {X X' : Str} {i : List Str} (h : Pass F P Q X X' i)
    (hQ : Q []) (hF : F [] = []) : F X = X' := by
  simpa [hF] using (h [] hQ).2

theorem pass_noStart {p t A : Str} {Q : Str → Prop} (h : NoStart p A) (i : List Str) :
    Pass (replace p t) Any Q A A i :=
  fun Z _ => ⟨trivial, replace_noStart Z h⟩

theorem pass_pat {p t : Str} {Q : Str → Prop} (hp : p ≠ []) : Pass (replace p t) Any Q p t [] :=
  fun Z _ => ⟨trivial, replace_append_pat Z hp⟩

theorem pass_end {p t A : Str} {c : Char} (hc : c ∈ p) (hA : c ∉ A) (i : List Str) :
    Pass (replace p t) Any AtEnd A A i := by
  rintro Z rfl
  exact ⟨trivial, by simpa using replace_of_not_mem hc hA⟩

theorem joinWith_rel {β σ} {R : σ → σ → Str → Str → List Str → Prop} (hR : SegRel R) {p q : σ} (f g : β → Str)
    (h : β → List Str) (sep sep' : Str) :
    ∀ (ys : List β), ys ≠ [] → (∀ y ∈ ys, R p q (f y) (g y) (h y)) → R q p sep sep' [] →
      R p q (joinWith sep (ys.map f)) (joinWith sep' (ys.map g)) ((ys.map h).flatten)
  | [], hne, _, _ => absurd rfl hne
  | [y], _, hi, _ => by simpa using hi y (by simp)
  | y :: z :: r, _, hi, hs => by
    have ih := joinWith_rel hR f g h sep sep' (z :: r) (by simp) (fun y hy => hi y (by simp [hy])) hs
    have := hR.app (hR.app (hi y (by simp)) hs) ih
    simpa [joinWith_cons_cons] using this

/-! ### the text between the outer brackets -/

/-- separator between two items of nesting depth `j`: `j` closing brackets, a comma, `z0` (between leaves) or `z1`
(between rows), `j` opening brackets.  Debug prints a blank after every comma; the `"], [" → "],["` step removes it
between rows, the `"\", \"" → "\",\""` step of `array_string!` between leaves. -/
def sepG (z0 z1 : Str) (j : Nat) : Str := rep ']' j ++ ',' :: ((if j = 0 then z0 else z1) ++ rep '[' j)

/-- the separators as Debug prints them -/
abbrev sepL : Nat → Str := sepG [' '] [' ']

/-- the same after `"], [" → "],["` -/
def sepT : Nat → Str
  | 0 => [',', ' ']
  | j + 1 => rep ']' (j + 1) ++ ',' :: rep '[' (j + 1)

theorem sepT_eq : sepT = sepG [' '] [] := by
  funext j; cases j <;> rfl

theorem sepL_eq (j : Nat) : sepL j = rep ']' j ++ [',', ' '] ++ rep '[' j := by
  simp [sepG]

theorem sepG_succ (z0 z1 : Str) (j : Nat) : sepG z0 z1 (j + 1) = rep ']' (j + 1) ++ ',' :: (z1 ++ rep '[' (j + 1)) := rfl

/-- the text of a regular nesting without its leading `[`s and trailing `]`s -/
def mid (sep : Nat → Str) : List Nat → List Str → Str
  | [], es => es.headD []
  | n :: s, es => joinWith (sep s.length) ((chunks s.prod n es).map (mid sep s))

theorem mid_leaf (sep : Nat → Str) (e : Str) : mid sep [] [e] = e := rfl

theorem mid_cons (sep : Nat → Str) (n : Nat) (s : List Nat) (es : List Str) :
    mid sep (n :: s) es = joinWith (sep s.length) ((chunks s.prod n es).map (mid sep s)) := rfl

theorem mid_one_cons (sep : Nat → Str) (s : List Nat) (es : List Str) (hl : es.length = s.prod) :
    mid sep (1 :: s) es = mid sep s es := by
  simp [mid, chunks, ← hl]

/-- induction over a regular nesting: a single leaf, or `n ≥ 1` consecutive blocks of shape `s` -/
theorem nest_induction {β} {motive : List Nat → List β → Prop}
    (leaf : ∀ b, motive [] [b])
    (node : ∀ n s bs, 1 ≤ n → (∀ d ∈ s, 1 ≤ d) → bs.length = n * s.prod →
      (∀ ch ∈ chunks s.prod n bs, (∀ b ∈ ch, b ∈ bs) ∧ motive s ch) → motive (n :: s) bs) :
    ∀ s bs, (∀ d ∈ s, 1 ≤ d) → bs.length = s.prod → motive s bs := by
  intro s
  induction s with
  | nil =>
    intro bs _ hl
    match bs, hl with
    | [b], _ => exact leaf b
  | cons n s ih =>
    intro bs hpos hl
    have hl' : bs.length = n * s.prod := by simpa using hl
    have hps : ∀ d ∈ s, 1 ≤ d := fun d hd => hpos d (by simp [hd])
    refine node n s bs (hpos n (by simp)) hps hl' fun ch hch => ?_
    have := mem_chunks hl' hch
    exact ⟨this.2, ih ch hps this.1⟩

/-- a pass that treats every separator `sep j ↦ sep' j` and every leaf `f b ↦ g b` (collecting `h b`) treats the whole
middle text of a regular nesting, leaves in reading order -/
theorem mid_rel {β σ} {R : σ → σ → Str → Str → List Str → Prop} (hR : SegRel R) {p q : σ} (sep sep' : Nat → Str)
    (f g h : β → Str) (s : List Nat) (bs : List β) (hpos : ∀ d ∈ s, 1 ≤ d) (hl : bs.length = s.prod)
    (hsep : ∀ j, j < s.length → R q p (sep j) (sep' j) []) (hleaf : ∀ b ∈ bs, R p q (f b) (g b) [h b]) :
    R p q (mid sep s (bs.map f)) (mid sep' s (bs.map g)) (bs.map h) := by
  revert hsep hleaf
  refine nest_induction (motive := fun s bs => (∀ j, j < s.length → R q p (sep j) (sep' j) []) →
    (∀ b ∈ bs, R p q (f b) (g b) [h b]) → R p q (mid sep s (bs.map f)) (mid sep' s (bs.map g)) (bs.map h))
    (fun b _ hleaf => hleaf b (by simp)) (fun n s bs hn _ hl ih hsep hleaf => ?_) s bs hpos hl
  simp only [mid_cons, chunks_map, List.map_map]
  have key := joinWith_rel hR (fun ch : List β => mid sep s (ch.map f)) (fun ch => mid sep' s (ch.map g))
    (fun ch => ch.map h) (sep s.length) (sep' s.length) (chunks s.prod n bs) (chunks_ne_nil _ _ _ hn)
    (fun ch hch => (ih ch hch).2 (fun j hj => hsep j (by simp; omega)) (fun b hb => hleaf b ((ih ch hch).1 b hb)))
    (hsep s.length (by simp))
  rwa [← chunks_map h, chunks_flatten _ _ _ (by simpa using hl)] at key

/-- wrapped leaves: the wrappers move into the separators -/
theorem mid_wrap (L R : Str) (sep : Nat → Str) (s : List Nat) (cs : List Str) (hpos : ∀ d ∈ s, 1 ≤ d)
    (hl : cs.length = s.prod) :
    mid sep s (cs.map (fun c => L ++ c ++ R)) = L ++ mid (fun j => R ++ sep j ++ L) s cs ++ R := by
  refine nest_induction (motive := fun s cs =>
    mid sep s (cs.map (fun c => L ++ c ++ R)) = L ++ mid (fun j => R ++ sep j ++ L) s cs ++ R)
    (fun c => rfl) (fun n s cs hn _ _ ih => ?_) s cs hpos hl
  simp only [mid_cons, chunks_map, List.map_map]
  have : (chunks s.prod n cs).map (mid sep s ∘ List.map (fun c => L ++ c ++ R))
      = (chunks s.prod n cs).map (fun ch => L ++ mid (fun j => R ++ sep j ++ L) s ch ++ R) :=
    List.map_congr_left (fun ch hch => (ih ch hch).2)
  rw [this, joinWith_wrap _ _ _ _ _ (chunks_ne_nil _ _ _ hn)]

/-- the middle text begins with its first leaf -/
theorem mid_head (sep : Nat → Str) (s : List Nat) (es : List Str) (hpos : ∀ d ∈ s, 1 ≤ d) (hl : es.length = s.prod) :
    ∃ e r, es.head? = some e ∧ mid sep s es = e ++ r := by
  refine nest_induction (motive := fun s es => ∃ e r, es.head? = some e ∧ mid sep s es = e ++ r)
    (fun e => ⟨e, [], rfl, by simp [mid]⟩) (fun n s es hn hps _ ih => ?_) s es hpos hl
  obtain ⟨n, rfl⟩ : ∃ m, n = m + 1 := ⟨n - 1, by omega⟩
  obtain ⟨e, r, he, hr⟩ := (ih (es.take s.prod) (by simp [chunks])).2
  obtain ⟨W, hW⟩ := joinWith_head (sep s.length) (mid sep s (es.take s.prod))
    ((chunks s.prod n (es.drop s.prod)).map (mid sep s))
  have hp := prod_pos_of _ hps
  refine ⟨e, r ++ W, ?_, by rw [mid_cons, chunks, List.map_cons, hW, hr, List.append_assoc]⟩
  rwa [List.head?_take, if_neg (by omega)] at he

/-- constant separators: the leaves joined -/
theorem mid_const (sep : Str) (s : List Nat) (es : List Str) (hpos : ∀ d ∈ s, 1 ≤ d) (hl : es.length = s.prod) :
    mid (fun _ => sep) s es = joinWith sep es := by
  refine nest_induction (motive := fun s es => mid (fun _ => sep) s es = joinWith sep es)
    (fun e => rfl) (fun n s es _ hps hl ih => ?_) s es hpos hl
  rw [mid_cons, List.map_congr_left (g := joinWith sep) (fun ch hch => (ih ch hch).2), joinWith_flatten,
    chunks_flatten _ _ _ hl]
  intro ch hch e
  have h1 := (mem_chunks hl hch).1
  have h2 := prod_pos_of _ hps
  rw [e] at h1
  simp at h1
  omega

/-! ### the bracketed text -/

/-- `a` opening brackets, the middle text, `b` closing brackets -/
def frame (a b : Nat) (sep : Nat → Str) (s : List Nat) (es : List Str) : Str :=
  rep '[' a ++ mid sep s es ++ rep ']' b

theorem frame_rel {β σ} {R : σ → σ → Str → Str → List Str → Prop} (hR : SegRel R) {p0 p q q1 : σ}
    (sep sep' : Nat → Str) (f g h : β → Str) (a b : Nat) (s : List Nat) (bs : List β) (hpos : ∀ d ∈ s, 1 ≤ d)
    (hl : bs.length = s.prod) (hopen : R p0 p (rep '[' a) (rep '[' a) [])
    (hsep : ∀ j, j < s.length → R q p (sep j) (sep' j) []) (hleaf : ∀ b ∈ bs, R p q (f b) (g b) [h b])
    (hclose : R q q1 (rep ']' b) (rep ']' b) []) :
    R p0 q1 (frame a b sep s (bs.map f)) (frame a b sep' s (bs.map g)) (bs.map h) := by
  have := hR.app (hR.app hopen (mid_rel hR sep sep' f g h s bs hpos hl hsep hleaf)) hclose
  simpa [frame] using this

/-- a property of texts that is closed under `++` holds of the middle text when it holds of its parts -/
theorem mid_all {P : Str → Prop} (happ : ∀ a b, P a → P b → P (a ++ b)) (sep : Nat → Str)
    (s : List Nat) (es : List Str) (hpos : ∀ d ∈ s, 1 ≤ d) (hl : es.length = s.prod)
    (hsep : ∀ j, j < s.length → P (sep j)) (hleaf : ∀ e ∈ es, P e) : P (mid sep s es) := by
  have := mid_rel (R := fun (_ _ : Unit) X _ _ => P X) ⟨fun ha hb => happ _ _ ha hb⟩ (p := ()) (q := ())
    sep sep id id id s es hpos hl hsep hleaf
  simpa using this

theorem frame_all {P : Str → Prop} (happ : ∀ a b, P a → P b → P (a ++ b)) (a b : Nat) (sep : Nat → Str)
    (s : List Nat) (es : List Str) (hpos : ∀ d ∈ s, 1 ≤ d) (hl : es.length = s.prod) (hopen : P (rep '[' a))
    (hsep : ∀ j, j < s.length → P (sep j)) (hleaf : ∀ e ∈ es, P e) (hclose : P (rep ']' b)) :
    P (frame a b sep s es) :=
  happ _ _ (happ _ _ hopen (mid_all happ sep s es hpos hl hsep hleaf)) hclose

theorem not_mem_frame {x : Char} {a b : Nat} {sep : Nat → Str} {s : List Nat} {es : List Str}
    (hpos : ∀ d ∈ s, 1 ≤ d) (hl : es.length = s.prod) (h1 : x ≠ '[') (h2 : x ≠ ']')
    (hsep : ∀ j, x ∉ sep j) (hleaf : ∀ e ∈ es, x ∉ e) : x ∉ frame a b sep s es :=
  frame_all (P := fun X => x ∉ X) (fun _ _ ha hb hm => (List.mem_append.1 hm).elim ha hb) a b sep s es hpos hl
    (not_mem_rep h1 a) (fun j _ => hsep j) hleaf (not_mem_rep h2 b)

theorem not_mem_sepG {x : Char} {z0 z1 : Str} (h1 : x ≠ '[') (h2 : x ≠ ']') (h3 : x ≠ ',') (h4 : x ∉ z0)
    (h5 : x ∉ z1) (j : Nat) : x ∉ sepG z0 z1 j := by
  have := not_mem_rep h1 j
  have := not_mem_rep h2 j
  unfold sepG
  split <;> simp_all

/-- `ndim`: the opening brackets of the text, those the first leaf brings (`k`) included, less `off` -/
theorem ndimOf_frame {off a b k n : Nat} {sep : Nat → Str} {s : List Nat} {es : List Str}
    (hpos : ∀ d ∈ s, 1 ≤ d) (hl : es.length = s.prod)
    (hhead : ∀ e, es.head? = some e → ∀ T, findP (· != '[') (e ++ T) = some k)
    (hoff : off ≤ a + k) (hn : n = max 1 (a + k - off)) : ndimOf off (frame a b sep s es) = .ok n := by
  obtain ⟨e, r, he, hm⟩ := mid_head sep s es hpos hl
  unfold ndimOf frame
  rw [hm, List.append_assoc, List.append_assoc, findP_rep, hhead e he]
  simp only [Option.map_some, Option.getD_some, if_neg (show ¬ (k + a < off) by omega)]
  split
  · congr 1; omega
  · congr 1; omega

/-! ### `"], [" → "],["` -/

theorem brSepL_ctx_run (m : Nat) (W : Str) : NoStartCtx brSepL (rep ']' m) (']' :: W) := by
  induction m with
  | zero => exact NoStartCtx.nil _ _
  | succ m ih =>
    show NoStartCtx brSepL (']' :: rep ']' m) (']' :: W)
    rw [noStartCtx_cons]
    refine ⟨?_, ih⟩
    cases m <;> simp [brSepL, rep, List.replicate_succ, List.isPrefixOf_cons_cons]

theorem noStart_br_open (a : Nat) : NoStart brSepL (rep '[' a) :=
  noStart_of_head_not_mem (c := ']') (p := [',', ' ', '[']) (not_mem_rep (c := '[') (by decide) a)

/-- the blank between rows goes, whatever stands between leaves -/
theorem pass_br_sep (z0 : Str) (hz : ']' ∉ z0) (j : Nat) :
    Pass (replace brSepL brSepT) Any Any (sepG z0 [' '] j) (sepG z0 [] j) [] := by
  cases j with
  | zero =>
    exact pass_noStart (noStart_of_head_not_mem (c := ']') (p := [',', ' ', '[']) (A := ',' :: (z0 ++ []))
      (by simpa using hz)) []
  | succ j =>
    intro W _
    refine ⟨trivial, ?_⟩
    have e1 : sepG z0 [' '] (j + 1) ++ W = rep ']' j ++ (brSepL ++ (rep '[' j ++ W)) := by
      rw [sepG_succ, rep_succ_snoc ']' j, show rep '[' (j + 1) = '[' :: rep '[' j from rfl]
      simp [brSepL, List.append_assoc]
    have e2 : sepG z0 [] (j + 1) ++ replace brSepL brSepT W
        = rep ']' j ++ (brSepT ++ (rep '[' j ++ replace brSepL brSepT W)) := by
      rw [sepG_succ, rep_succ_snoc ']' j, show rep '[' (j + 1) = '[' :: rep '[' j from rfl]
      simp [brSepT, List.append_assoc]
    rw [e1, e2, replace_ctx _ (show NoStartCtx brSepL _ (brSepL ++ _) from brSepL_ctx_run j _), replace_append_pat _ (by simp [brSepL]),
      replace_noStart _ (noStart_br_open j)]

/-- `"], [" → "],["` over a bracketed text whose leaves never start a match -/
theorem replace_br_frame (z0 : Str) (hz : ']' ∉ z0) (a b : Nat) (s : List Nat) (es : List Str) (hpos : ∀ d ∈ s, 1 ≤ d)
    (hl : es.length = s.prod) (hleaf : ∀ e ∈ es, NoStart brSepL e) :
    replace brSepL brSepT (frame a b (sepG z0 [' ']) s es) = frame a b (sepG z0 []) s es := by
  have := frame_rel (pass_segRel (replace brSepL brSepT)) (sepG z0 [' ']) (sepG z0 []) id id id a b s es hpos hl
    (pass_noStart (noStart_br_open a) []) (fun j _ => pass_br_sep z0 hz j) (fun e he => pass_noStart (hleaf e he) _)
    (pass_end (c := ',') (by decide) (not_mem_rep (by decide) b) [])
  simpa using this.whole rfl (replace_nil _ _)

/-! ### the Debug text -/

theorem nest_eq_frame (s : List Nat) (hpos : ∀ d ∈ s, 1 ≤ d) (es : List Str) :
    nest s es = frame s.length s.length sepL s es := by
  unfold frame
  induction s generalizing es with
  | nil => simp [nest, mid]
  | cons n s ih =>
    simp only [nest, mid]
    rw [List.map_congr_left (g := fun c => rep '[' s.length ++ mid sepL s c ++ rep ']' s.length)
        (fun c _ => ih (fun d hd => hpos d (by simp [hd])) c),
      joinWith_wrap _ _ _ _ _ (chunks_ne_nil _ _ _ (hpos n (by simp))), ← sepL_eq]
    simp [List.replicate_succ, rep_snoc]

theorem debugVec_eq {s : List Nat} {es : List Str} (hpos : ∀ d ∈ s, 1 ≤ d) (hl : es.length = s.prod) :
    debugVec s es = frame (s.length + 1) (s.length + 1) sepL s es := by
  unfold debugVec
  rw [nest_eq_frame (1 :: s) (by simpa using hpos)]
  unfold frame
  rw [mid_one_cons _ _ _ hl]
  rfl

/-! ### validity of a written literal -/

/-- characters the surgery treats specially (`#`: `array_parse_shape!` counts the items of a level by rewriting its
separator to `"]#["`) -/
def special (c : Char) : Bool := c == '[' || c == ']' || c == ',' || c == '"' || c == '#'

/-- an element text the generic arm can carry: not empty, free of brackets, commas, quotes and `#`,
not beginning with a blank (the arm turns `", "` into `","` after the brackets are gone) -/
structure Plain (e : Str) : Prop where
  ne : e ≠ []
  chars : ∀ c ∈ e, special c = false
  lead : e.head? ≠ some ' '

/-- a regular nested literal of shape `s` (every axis at least 1) with leaves `es` in reading order -/
structure Valid (s : List Nat) (es : List Str) : Prop where
  pos : ∀ d ∈ s, 1 ≤ d
  len : es.length = s.prod
  plain : ∀ e ∈ es, Plain e

theorem Valid.chunk {n : Nat} {s : List Nat} {es c : List Str} (h : Valid (n :: s) es)
    (hc : c ∈ chunks s.prod n es) : Valid s c := by
  have := mem_chunks (by simpa using h.len) hc
  exact ⟨fun d hd => h.pos d (by simp [hd]), this.1, fun e he => h.plain e (this.2 e he)⟩

theorem Valid.single {es : List Str} (h : Valid [] es) : ∃ e, es = [e] ∧ Plain e := by
  have hl := h.len
  match es, hl with
  | [e], _ => exact ⟨e, rfl, h.plain e (by simp)⟩

theorem Plain.not_mem {e : Str} (h : Plain e) {c : Char} (hc : special c = true) : c ∉ e := by
  intro hm; have := h.chars c hm; rw [hc] at this; cases this

theorem Plain.noStart {e : Str} (h : Plain e) {c : Char} (p : Str) (hc : special c = true) : NoStart (c :: p) e :=
  noStart_of_head_not_mem (h.not_mem hc)

end ArrModel.C18
