import ArrProofs.Lemmas.AxisInv
import ArrModel.AlongAxis
import ArrProofs.Lemmas.Res
/-! list / coordinate lemmas for C08 (`apply_along_axis`): erase / insert / set of one axis, lanes, chunks -/
namespace ArrModel
variable {α β : Type}

/-! ### map through eraseIdx / insertIdx -/

theorem map_eraseIdx' (f : α → β) : ∀ (l : List α) (i : Nat), (l.eraseIdx i).map f = (l.map f).eraseIdx i
  | [], _ => by simp
  | _ :: _, 0 => by simp
  | x :: xs, i + 1 => by simp [map_eraseIdx' f xs i]

theorem map_insertIdx' (f : α → β) (x : α) : ∀ (l : List α) (i : Nat), (l.insertIdx i x).map f = (l.map f).insertIdx i (f x)
  | [], 0 => by simp
  | [], i + 1 => by simp
  | _ :: _, 0 => by simp
  | y :: ys, i + 1 => by simp [List.insertIdx_succ_cons, map_insertIdx' f x ys i]

theorem map_getD_range' (c : List Nat) (n : Nat) (h : c.length = n) : (List.range n).map (fun i => c.getD i 0) = c := by
  subst h; exact map_getD_range c

/-! ### `moveaxisOrder` / `rollaxisOrder` on the arguments `apply_along_axis` passes -/

theorem filter_ne_range (n i : Nat) : (List.range n).filter (fun f => !([i].contains f)) = (List.range n).eraseIdx i := by
  have hf : (List.range n).filter (fun f => !([i].contains f)) = (List.range n).erase i := by
    rw [List.nodup_range.erase_eq_filter]
    exact List.filter_congr fun x _ => by rw [List.contains_cons, List.contains_nil, Bool.or_false, bne]
  by_cases hi : i < n
  · have hidx : (List.range n).idxOf i = i := by
      have := List.nodup_range.idxOf_getElem i (by rwa [List.length_range])
      rwa [List.getElem_range] at this
    rw [hf, List.erase_eq_eraseIdx_of_idxOf hidx]
  · rw [hf, List.erase_of_not_mem (fun h => hi (List.mem_range.1 h)),
      List.eraseIdx_of_length_le (by rw [List.length_range]; exact Nat.le_of_not_lt hi)]

theorem moveaxisOrder_single (nd s d : Nat) :
    Arr.moveaxisOrder nd [s] [d] = ((List.range nd).eraseIdx s).insertIdx (min d ((List.range nd).eraseIdx s).length) s := by
  simp only [Arr.moveaxisOrder, List.zip_cons_cons, List.zip_nil_right, List.mergeSort_singleton, List.foldl_cons, List.foldl_nil,
    filter_ne_range]

theorem eraseIdx_range_last (k : Nat) : (List.range (k + 1)).eraseIdx k = List.range k := by
  rw [List.range_succ, List.eraseIdx_append_of_length_le (by simp)]
  simp

/-- forward move of `apply_along_axis`: `moveaxis([axis], [ndim])` -/
theorem moveaxisOrder_last (nd axis : Nat) (h : axis < nd) :
    Arr.moveaxisOrder nd [axis] [nd] = (List.range nd).eraseIdx axis ++ [axis] := by
  rw [moveaxisOrder_single]
  have : ((List.range nd).eraseIdx axis).length = nd - 1 := by simp [List.length_eraseIdx, h]
  rw [show min nd ((List.range nd).eraseIdx axis).length = ((List.range nd).eraseIdx axis).length by omega]
  exact List.insertIdx_length_self

/-- backward move of `apply_along_axis`, `axis ≠ 0` arm: `moveaxis([ndim-1], [axis])` -/
theorem moveaxisOrder_back (k axis : Nat) (h : axis ≤ k) :
    Arr.moveaxisOrder (k + 1) [k] [axis] = (List.range k).insertIdx axis k := by
  rw [moveaxisOrder_single, eraseIdx_range_last]
  simp [Nat.min_eq_left h]

/-- backward move, `axis = 0` arm: `rollaxis(ndim-1, None)` -/
theorem rollaxisOrder_back (k : Nat) : Arr.rollaxisOrder (k + 1) k 0 = (List.range k).insertIdx 0 k := by
  simp only [Arr.rollaxisOrder, eraseIdx_range_last]

/-! ### ravel / inRange through append, erase, insert, set -/

theorem inRange_eraseIdx : ∀ (s c : List Nat) (i : Nat), inRange s c = true → inRange (s.eraseIdx i) (c.eraseIdx i) = true
  | [], [], _, _ => rfl
  | _ :: _, _ :: _, 0, h => (inRange_cons.1 h).2
  | _ :: ds, _ :: xs, i + 1, h =>
    inRange_cons.2 ⟨(inRange_cons.1 h).1, inRange_eraseIdx ds xs i (inRange_cons.1 h).2⟩
  | [], _ :: _, _, h => nomatch h
  | _ :: _, [], _, h => nomatch h

theorem inRange_insertIdx : ∀ (s c : List Nat) (i m j : Nat), inRange s c = true → j < m →
    inRange (s.insertIdx i m) (c.insertIdx i j) = true
  | [], [], 0, m, j, h, hj => inRange_cons.2 ⟨hj, h⟩
  | [], [], _ + 1, _, _, _, _ => rfl
  | d :: ds, x :: xs, 0, m, j, h, hj => inRange_cons.2 ⟨hj, h⟩
  | d :: ds, x :: xs, i + 1, m, j, h, hj => by
    rw [List.insertIdx_succ_cons, List.insertIdx_succ_cons]
    exact inRange_cons.2 ⟨(inRange_cons.1 h).1, inRange_insertIdx ds xs i m j (inRange_cons.1 h).2 hj⟩
  | [], _ :: _, _, _, _, h, _ => nomatch h
  | _ :: _, [], _, _, _, h, _ => nomatch h

/-- changing one coordinate inside a (possibly different) length of that axis -/
theorem inRange_set : ∀ (s c : List Nat) (i m j : Nat), inRange s c = true → j < m →
    inRange (s.set i m) (c.set i j) = true
  | [], [], _, _, _, _, _ => rfl
  | _ :: _, _ :: _, 0, _, _, h, hj => inRange_cons.2 ⟨hj, (inRange_cons.1 h).2⟩
  | _ :: ds, _ :: xs, i + 1, m, j, h, hj =>
    inRange_cons.2 ⟨(inRange_cons.1 h).1, inRange_set ds xs i m j (inRange_cons.1 h).2 hj⟩
  | [], _ :: _, _, _, _, h, _ => nomatch h
  | _ :: _, [], _, _, _, h, _ => nomatch h

theorem insertIdx_eraseIdx_self : ∀ (l : List α) (i : Nat) (x : α), i < l.length → (l.eraseIdx i).insertIdx i x = l.set i x
  | [], _, _, h => nomatch h
  | _ :: _, 0, _, _ => rfl
  | y :: ys, i + 1, x, h => by
    rw [List.eraseIdx_cons_succ, List.insertIdx_succ_cons, List.set_cons_succ,
      insertIdx_eraseIdx_self ys i x (Nat.lt_of_succ_lt_succ h)]

theorem insertIdx_eraseIdx_last (l : List α) (i : Nat) (x : α) (h : i < l.length) :
    (l.eraseIdx i).insertIdx (l.length - 1) x = l.eraseIdx i ++ [x] := by
  rw [← List.length_eraseIdx_of_lt h]
  exact List.insertIdx_length_self

theorem eraseIdx_concat_length (l : List α) (x : α) : (l ++ [x]).eraseIdx l.length = l := by
  rw [List.eraseIdx_append_of_length_le (Nat.le_refl _), Nat.sub_self, List.eraseIdx_cons_zero, List.append_nil]

theorem getD_insertIdx_self (l : List Nat) (i x : Nat) (h : i ≤ l.length) : (l.insertIdx i x).getD i 0 = x := by
  simp [List.getD_eq_getElem?_getD, List.getElem?_insertIdx, h]

/-- split a coordinate at one axis and put it back -/
theorem insertIdx_eraseIdx_getD (c : List Nat) (i : Nat) (h : i < c.length) : (c.eraseIdx i).insertIdx i (c.getD i 0) = c := by
  rw [insertIdx_eraseIdx_self c i _ h, set_getD_self]

theorem prod_set_eraseIdx : ∀ (s : List Nat) (i m : Nat), i < s.length → (s.set i m).prod = (s.eraseIdx i).prod * m
  | [], _, _, h => nomatch h
  | _ :: ds, 0, m, _ => by rw [List.set_cons_zero, List.prod_cons, List.eraseIdx_cons_zero, Nat.mul_comm]
  | d :: ds, i + 1, m, h => by
    rw [List.set_cons_succ, List.prod_cons, List.eraseIdx_cons_succ, List.prod_cons,
      prod_set_eraseIdx ds i m (Nat.lt_of_succ_lt_succ h), Nat.mul_assoc]

/-- a unit axis does not change the row-major position -/
theorem ravel_insertIdx_one : ∀ (s c : List Nat) (i : Nat), s.length = c.length →
    ravel (s.insertIdx i 1) (c.insertIdx i 0) = ravel s c
  | [], [], 0, _ => rfl
  | [], [], i + 1, _ => rfl
  | d :: ds, x :: xs, 0, _ => by rw [List.insertIdx_zero, List.insertIdx_zero, ravel, Nat.zero_mul, Nat.zero_add]
  | d :: ds, x :: xs, i + 1, h => by
    rw [List.insertIdx_succ_cons, List.insertIdx_succ_cons, ravel, ravel, prod_insertIdx_one,
      ravel_insertIdx_one ds xs i (Nat.succ.inj h)]
  | [], _ :: _, _, h => nomatch h
  | _ :: _, [], _, h => nomatch h

theorem not_mem_eraseIdx (s : List Nat) (i : Nat) (h : 0 ∉ s) : 0 ∉ s.eraseIdx i :=
  fun hm => h (List.mem_of_mem_eraseIdx hm)

theorem prod_pos_of_not_mem (s : List Nat) (h : 0 ∉ s) : 0 < s.prod :=
  prod_pos_of s (fun _ hd => Nat.pos_of_ne_zero (fun e => h (e ▸ hd)))

theorem getD_mem_pos (s : List Nat) (i : Nat) (h : i < s.length) (hnz : 0 ∉ s) : 0 < s.getD i 0 := by
  rw [List.getD_eq_getElem?_getD, List.getElem?_eq_getElem h]
  exact Nat.pos_of_ne_zero (fun e => hnz (e ▸ List.getElem_mem h))

theorem isEmpty_flat (l : List α) : (Arr.flat l).isEmpty = l.isEmpty := by
  cases l <;> rfl

/-! ### chunks, flattening, sequencing -/

theorem take_eq_filterMap (M : List α) : ∀ n, M.take n = (List.range n).filterMap (fun j => M[j]?)
  | 0 => rfl
  | n + 1 => by
    rw [List.take_add_one, List.range_succ, List.filterMap_append, ← take_eq_filterMap M n, List.filterMap_cons]
    cases M[n]? <;> rfl

/-- chunk `k` of width `n` of a flat buffer, element by element -/
theorem chunk_eq_filterMap (L : List α) (k n : Nat) :
    (L.drop (k * n)).take n = (List.range n).filterMap (fun j => L[k * n + j]?) := by
  rw [take_eq_filterMap]
  apply List.filterMap_congr
  intro j _
  rw [List.getElem?_drop]

theorem length_chunk (L : List α) (k n P : Nat) (hL : L.length = P * n) (hk : k < P) : ((L.drop (k * n)).take n).length = n := by
  have : (k + 1) * n ≤ P * n := Nat.mul_le_mul_right _ hk
  rw [List.length_take, List.length_drop, hL]
  rw [Nat.add_mul] at this
  omega

theorem length_filterMap_of_isSome (f : α → Option β) : ∀ (l : List α), (∀ x ∈ l, (f x).isSome = true) → (l.filterMap f).length = l.length
  | [], _ => rfl
  | x :: xs, h => by
    have hx := h x List.mem_cons_self
    obtain ⟨y, hy⟩ := Option.isSome_iff_exists.1 hx
    rw [List.filterMap_cons_some hy, List.length_cons, List.length_cons,
      length_filterMap_of_isSome f xs (fun z hz => h z (List.mem_cons_of_mem _ hz))]

theorem getElem?_filterMap_of_isSome (f : α → Option β) : ∀ (l : List α) (i : Nat), (∀ x ∈ l, (f x).isSome = true) →
    (l.filterMap f)[i]? = l[i]?.bind f
  | [], _, _ => rfl
  | x :: xs, i, h => by
    obtain ⟨y, hy⟩ := Option.isSome_iff_exists.1 (h x List.mem_cons_self)
    rw [List.filterMap_cons_some hy]
    cases i with
    | zero => exact hy.symm
    | succ i => exact getElem?_filterMap_of_isSome f xs i (fun z hz => h z (List.mem_cons_of_mem _ hz))

theorem sequence_map_ok (g : α → β) : ∀ (l : List α), Res.sequence (l.map (fun x => Res.ok (g x))) = Res.ok (l.map g) :=
  fun l => (congrArg Res.sequence (List.map_map (f := g) (g := Res.ok)).symm).trans (Res.sequence_map_ok (l.map g))

theorem mapM'_ok (f : α → Res β) (g : α → β) (l : List α) (h : ∀ x ∈ l, f x = .ok (g x)) :
    Res.mapM' f l = .ok (l.map g) :=
  Res.mapM'_ok h

/-- a lane function that succeeds on every lane gives a list of results, in order -/
theorem mapM'_exists (f : α → Res β) : ∀ (l : List α), (∀ x ∈ l, ∃ r, f x = .ok r) →
    ∃ rs, Res.mapM' f l = .ok rs ∧ rs.length = l.length ∧ ∀ (i : Nat) (h1 : i < l.length) (h2 : i < rs.length), f l[i] = .ok rs[i]
  | [], _ => ⟨[], rfl, rfl, fun i h => by simp at h⟩
  | x :: xs, h => by
    obtain ⟨r, hr⟩ := h x List.mem_cons_self
    obtain ⟨rs, h1, h2, h3⟩ := mapM'_exists f xs (fun z hz => h z (List.mem_cons_of_mem _ hz))
    refine ⟨r :: rs, ?_, by simp [h2], ?_⟩
    · unfold Res.mapM' at h1 ⊢
      simp only [List.map_cons, Res.sequence, hr, Res.bind_ok, h1]
    · intro i hi1 hi2
      cases i with
      | zero => simpa using hr
      | succ i => simpa using h3 i (by simpa using hi1) (by simpa using hi2)

/-! ### the cut points of `array_split` when the sections are equal -/

theorem sectionSizes_even (P n : Nat) (hP : 0 < P) : sectionSizes (P * n) P = List.replicate P n := by
  unfold sectionSizes
  simp [Nat.mul_mod_right, Nat.mul_div_cancel_left _ hP]

theorem windows2_map_range' (g : Nat → β) : ∀ (k s : Nat),
    windows2 ((List.range' s (k + 1)).map g) = (List.range' s k).map (fun i => (g i, g (i + 1)))
  | 0, s => by simp [windows2]
  | k + 1, s => by
    have ih := windows2_map_range' g k (s + 1)
    rw [List.range'_succ, List.range'_succ] at *
    simp only [List.map_cons, windows2] at ih ⊢
    rw [ih]
    conv => rhs; rw [List.range'_succ]
    simp

theorem windows2_divPoints_even (P n : Nat) :
    windows2 (divPoints (List.replicate P n)) = (List.range P).map (fun k => (k * n, (k + 1) * n)) := by
  unfold divPoints
  rw [List.length_replicate, List.range_eq_range', windows2_map_range', List.range_eq_range']
  apply List.map_congr_left
  intro k hk
  have := (List.mem_range'_1.1 hk).2
  simp only [List.take_replicate, List.sum_replicate_nat]
  rw [Nat.min_eq_left (by omega), Nat.min_eq_left (by omega)]

end ArrModel
