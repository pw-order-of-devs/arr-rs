import ArrProofs.Lemmas.GenCore
/-!
# GenCoreAxis — the translated `axis.rs` ring (`moveaxis`, `rollaxis`, `swapaxes`, `expand_dims`, `squeeze`),
`IterSorted::sorted`, `ValidateUnique::is_unique` are the hand-written model

`transpose` is OUTSIDE the translated set (a nested recursive fn over `&mut` slices): the generated definitions take it as a
parameter and the theorems instantiate it with the hand-written `Arr.transpose zero`.
-/
namespace ArrModel.Gen.Core
open ArrModel Arr

variable {α β : Type}

/-! ## `sorted`, `is_unique`, general fold / map facts -/

theorem sorted_nat_eq (l : List Nat) : Iter_sorted l = sortNat l := rfl

theorem ordLe_pair_eq : (Rs.Ord.le : Nat × Nat → Nat × Nat → Bool) = pairLe := by
  funext p q
  show ((decide (p.1 ≤ q.1) && !decide (q.1 ≤ p.1)) || (decide (p.1 ≤ q.1) && decide (q.1 ≤ p.1) && decide (p.2 ≤ q.2)))
      = (decide (p.1 < q.1) || (p.1 == q.1 && decide (p.2 ≤ q.2)))
  rw [Bool.eq_iff_iff]
  simp only [Bool.or_eq_true, Bool.and_eq_true, Bool.not_eq_true', decide_eq_true_eq, decide_eq_false_iff_not, beq_iff_eq]
  omega

/-- `sorted()` on pairs is the stable merge sort by the lexicographic order `pairLe` of the hand-written model -/
theorem sorted_pair_eq (l : List (Nat × Nat)) : Iter_sorted l = l.mergeSort pairLe := by
  show l.mergeSort Rs.Ord.le = _
  rw [ordLe_pair_eq]

theorem toHashSet_length_le [DecidableEq β] : ∀ (l : List β), (Rs.toHashSet l).length ≤ l.length
  | [] => Nat.le_refl _
  | x :: xs => by
    have ih := toHashSet_length_le xs
    unfold Rs.toHashSet
    split
    · exact Nat.le_succ_of_le ih
    · exact Nat.succ_le_succ ih

/-- the number of distinct elements equals the length exactly when no element repeats -/
theorem toHashSet_length_eq_iff [DecidableEq β] : ∀ (l : List β), (Rs.toHashSet l).length = l.length ↔ l.Nodup
  | [] => by simp [Rs.toHashSet]
  | x :: xs => by
    have ih := toHashSet_length_eq_iff xs
    have hle := toHashSet_length_le xs
    unfold Rs.toHashSet
    rw [List.nodup_cons, List.length_cons, ← ih]
    split
    · have hm : x ∈ xs := List.contains_iff_mem.1 ‹_›
      exact ⟨fun he => by omega, fun hn => absurd hm hn.1⟩
    · have hm : x ∉ xs := fun h => ‹¬ _› (List.contains_iff_mem.2 h)
      rw [List.length_cons, Nat.succ_inj]
      exact (and_iff_right hm).symm

/-- **`is_unique` accepts exactly the lists without repetition** -/
theorem is_unique_eq [DecidableEq β] (l : List β) :
    Vec_is_unique l = if l.Nodup then .ok () else .err .MustBeUnique := by
  simp only [Vec_is_unique, beq_iff_eq, ← toHashSet_length_eq_iff l, eq_comm (a := l.length)]

theorem mapM_eq_map {γ δ : Type} (f : γ → Res δ) (g : γ → δ) (h : ∀ x, f x = .ok (g x)) :
    ∀ l : List γ, Rs.mapM l f = .ok (l.map g)
  | [] => rfl
  | x :: xs => by rw [Rs.mapM, h x, Res.bind_ok, mapM_eq_map f g h xs]; rfl

/-- a loop over mutated locals, entered with a state that may already have failed, is the fold of the hand-written model that
threads a `Res` -/
theorem bind_foldM {γ σ : Type} (f : σ → γ → Res σ) : ∀ (l : List γ) (r : Res σ),
    (r >>= fun init => Rs.foldM l init f) = l.foldl (fun acc x => acc >>= fun s => f s x) r
  | [], r => Res.bind_pure r
  | x :: xs, r => by rw [List.foldl_cons, ← bind_foldM f xs, Res.bind_assoc]; rfl

theorem foldM_eq_foldl_bind {γ σ : Type} (f : σ → γ → Res σ) (l : List γ) (init : σ) :
    Rs.foldM l init f = l.foldl (fun acc x => acc >>= fun s => f s x) (.ok init) :=
  bind_foldM f l (.ok init)

/-- a loop whose body only checks: it fails at the first offending element -/
theorem forM_check {γ : Type} (p : γ → Bool) (e : Err) (f : Unit → γ → Res Unit)
    (hf : ∀ x, f () x = if p x then .err e else .ok ()) :
    ∀ l : List γ, Rs.foldM l () f = if l.any p then .err e else .ok ()
  | [] => rfl
  | x :: xs => by
    rw [Rs.foldM, hf x, List.any_cons]
    cases p x
    · exact forM_check p e f hf xs
    · rfl

theorem range_eq (n : Nat) : Rs.range 0 n = List.range n := by
  simp [Rs.range, List.range_eq_range']

theorem normalize_axis_mapM (a : Arr α) (l : List Int) :
    Rs.mapM l (fun i => Array_normalize_axis a i) = .ok (l.map (normalizeAxis a.ndim)) :=
  mapM_eq_map _ _ (fun i => normalize_axis_eq a i) l

theorem is_equal_nat (m n : Nat) : T_is_equal m n = if m = n then .ok () else .err .MustBeEqual := is_equal_spec m n

/-! ## `moveaxis`, `rollaxis`, `swapaxes` (C06) -/

/-- the insertion loop of `moveaxis` never panics (`d.min(order.len())` is a valid position) and is `moveaxisOrder` -/
theorem moveaxis_order (nd : Nat) (s d : List Nat) (f : List Nat → Nat × Nat → Res (List Nat))
    (hf : ∀ o p, f o p = Rs.vecInsert o (min p.1 o.length) p.2) :
    Rs.foldM (Iter_sorted (Rs.zip d s)) (Rs.filter (Rs.range 0 nd) (fun f => !(Rs.contains s f))) f
      = .ok (moveaxisOrder nd s d) := by
  rw [foldM_eq_foldl f (fun o p => o.insertIdx (min p.1 o.length) p.2)]
  · rw [sorted_pair_eq, range_eq]; rfl
  · intro o p _
    rw [hf, vecInsert_of_le (Nat.min_le_right _ _)]

/-- **`moveaxis` as translated from the source, with the hand-written `transpose` plugged in, is `Arr.moveaxis` up to the error
variant.**  Once the validators and the insertion loop are in closed form both sides end in the same `transpose` call behind
the same four conditions; the script splits on all four independently and closes every case by `simp`, so the order in which the
source performs the validations does not matter (it only decides which variant is reported when several fail). -/
theorem moveaxis_sim (a : Arr α) (zero : α) (src dst : List Int) :
    Res.sameClass (Array_moveaxis (fun x ax => x.transpose zero ax) a src dst) (a.moveaxis zero src dst) := by
  unfold Array_moveaxis Arr.moveaxis
  have ho := moveaxis_order a.ndim (src.map (normalizeAxis a.ndim)) (dst.map (normalizeAxis a.ndim)) _ (fun o p => rfl)
  simp only [is_unique_eq, is_equal_nat, normalize_axis_mapM, Res.bind_ok, ndim_eq, Rs.forM, Rs.umin, ho, Rs.map, Rs.toIsize]
  generalize a.transpose zero _ = t
  by_cases h1 : src.Nodup <;> by_cases h2 : src.length = dst.length <;>
    by_cases h3 : (src.map (normalizeAxis a.ndim)).Nodup <;>
    by_cases h4 : (dst.map (normalizeAxis a.ndim)).Nodup <;>
    simp [h1, h2, h3, h4]

/-! `rollaxis`, `swapaxes`, `expand_dims`, `squeeze` are identified exactly: their validations all report the same variant, or
each needs the result of the one before, so the source cannot reorder them observably. -/

theorem mapOrM_startOf (nd : Nat) (start : Option Int) :
    Rs.mapOrM start 0 (fun ax => Res.ok (normalizeAxis nd ax)) = .ok (startOf nd start) := by
  cases start <;> rfl

/-- **`rollaxis` (translated, hand-written `transpose` plugged in) is `Arr.rollaxis`** -/
theorem rollaxis_eq (a : Arr α) (zero : α) (axis : Int) (start : Option Int) :
    Array_rollaxis (fun x ax => x.transpose zero ax) a axis start = a.rollaxis zero axis start := by
  unfold Array_rollaxis Arr.rollaxis
  simp only [normalize_axis_eq, mapOrM_startOf, Res.bind_ok, axis_in_bounds_eq, ndim_eq, range_eq, ge_iff_le, ← Nat.not_lt, ite_not]
  by_cases hax : normalizeAxis a.ndim axis < a.ndim
  · by_cases hst : startOf a.ndim start < a.ndim
    · -- both axes in range: `remove` and `insert` are inside the vector
      have h1 : normalizeAxis a.ndim axis < (List.range a.ndim).length := by rwa [List.length_range]
      have h2 : startOf a.ndim start ≤ ((List.range a.ndim).eraseIdx (normalizeAxis a.ndim axis)).length := by
        rw [List.length_eraseIdx_of_lt h1, List.length_range]; omega
      rw [if_pos hax, if_pos hax, if_pos hst, if_pos hst, Res.bind_ok, Res.bind_ok, idx_of_getElem? (List.getElem?_range hax), Res.bind_ok,
        vecRemove_of_lt h1, Res.bind_ok, vecInsert_of_le h2, Res.bind_ok]
      rfl
    · rw [if_pos hax, if_pos hax, if_neg hst, if_neg hst]; rfl
  · rw [if_neg hax, if_neg hax]; rfl

theorem swap_range_eq (nd i j : Nat) (hi : i < nd) (hj : j < nd) : listSwap (List.range nd) i j = swapOrder nd i j := by
  unfold listSwap swapOrder
  rw [List.getElem?_range hi, List.getElem?_range hj]
  apply List.ext_getElem (by simp)
  intro k h1 _
  simp only [List.getElem_set, List.getElem_map, List.getElem_range, eq_comm (a := k)]
  by_cases hkj : j = k
  · subst hkj; simp
  · simp [hkj]

/-- **`swapaxes` (translated, hand-written `transpose` plugged in) is `Arr.swapaxes`** -/
theorem swapaxes_eq (a : Arr α) (zero : α) (ax1 ax2 : Int) :
    Array_swapaxes (fun x ax => x.transpose zero ax) a ax1 ax2 = a.swapaxes zero ax1 ax2 := by
  unfold Array_swapaxes Arr.swapaxes
  simp only [normalize_axis_eq, Res.bind_ok, axis_in_bounds_eq, ndim_eq, range_eq, swap_ext_eq, List.length_range, ge_iff_le,
    ← Nat.not_lt, ite_not]
  by_cases h1 : normalizeAxis a.ndim ax1 < a.ndim
  · by_cases h2 : normalizeAxis a.ndim ax2 < a.ndim
    · rw [if_pos h1, if_pos h1, if_pos h2, if_pos h2, Res.bind_ok, Res.bind_ok, if_pos ⟨h1, h2⟩, Res.bind_ok, swap_range_eq _ _ _ h1 h2]
    · rw [if_pos h1, if_pos h1, if_neg h2, if_neg h2]; rfl
  · rw [if_neg h1, if_neg h1]; rfl

/-! ## `expand_dims`, `squeeze` (C07) -/

theorem enumerate_any (l : List β) (q : Nat × β → Bool) :
    (Rs.enumerate l).any q = l.zipIdx.any (fun p => q (p.2, p.1)) := by
  rw [Rs.enumerate, enumFrom_eq_zipIdx, List.any_map]; rfl

theorem normalize_axis_dim_mapM (a : Arr α) (l : List Int) (n : Nat) :
    Rs.mapM l (fun i => Array_normalize_axis_dim a i n) = .ok (l.map (fun i => normalizeAxisDim a.ndim i n)) :=
  mapM_eq_map _ _ (fun i => normalize_axis_dim_eq a i n) l

/-- **`expand_dims` as translated from the source is `Arr.expandDims`** (all inputs) -/
theorem expand_dims_eq (a : Arr α) (axes : List Int) : Array_expand_dims a axes = a.expandDims axes := by
  unfold Array_expand_dims Arr.expandDims
  simp only [normalize_axis_dim_mapM, Res.bind_ok, sorted_nat_eq, Array_get_shape, reshape_eq, Rs.forM,
    foldM_eq_foldl_bind, Rs.any, enumerate_any, Arr.ndim]
  rfl

/-- the `axis_in_bounds` loop of `squeeze` -/
theorem squeeze_bounds_loop (a : Arr α) (ax : List Nat) (f : Unit → Nat → Res Unit)
    (hf : ∀ x, f () x = (Array_axis_in_bounds a x >>= fun _ => Res.ok ())) :
    Rs.foldM ax () f = if ax.any (fun x => decide (x ≥ a.ndim)) then .err .AxisOutOfBounds else .ok () := by
  apply forM_check
  intro x
  simp only [hf, axis_in_bounds_eq, decide_eq_true_eq, ge_iff_le, ← Nat.not_lt, ite_not]
  split <;> rfl

/-- with every position inside the shape, the short-circuit test `any(|a| shape[a] != 1)` reads what the model's `mapM'` reads -/
theorem squeeze_unit_test (sh ax : List Nat) (h : ∀ i ∈ ax, i < sh.length) (p : Nat → Res Bool)
    (hp : ∀ i, p i = (Rs.index sh i >>= fun t => Res.ok (t != 1))) :
    Rs.anyM ax p = .ok ((ax.map (fun i => sh.getD i 0)).any (fun d => d != 1)) := by
  rw [anyM_eq_any p (fun i => sh.getD i 0 != 1), List.any_map]
  · rfl
  · intro i hi
    rw [hp, idx_getD sh i (h i hi)]; rfl

/-- **`squeeze` as translated from the source is `Arr.squeeze`** (all inputs) -/
theorem squeeze_eq (a : Arr α) (axes : Option (List Int)) : Array_squeeze a axes = a.squeeze axes := by
  unfold Array_squeeze Arr.squeeze
  cases axes with
  | none => simp [Array_get_shape, reshape_eq, Rs.filter]
  | some l =>
    simp only [normalize_axis_mapM, Res.bind_ok, sorted_nat_eq, get_shape_eq, Rs.rev, Rs.forM, reshape_eq, is_unique_eq]
    rw [squeeze_bounds_loop a _ _ (fun x => rfl)]
    generalize (sortNat (l.map (normalizeAxis a.ndim))).reverse = ax
    by_cases hb : (ax.any fun x => decide (x ≥ a.ndim)) = true
    · rw [if_pos hb, if_pos hb]; rfl
    · have hin : ∀ i ∈ ax, i < a.shape.length := fun i hi =>
        Nat.lt_of_not_le fun hge => hb (List.any_eq_true.2 ⟨i, hi, decide_eq_true hge⟩)
      rw [if_neg hb, if_neg hb, Res.bind_ok]
      by_cases hn : ax.Nodup
      · rw [if_pos hn, if_neg (not_not_intro hn), Res.bind_ok, squeeze_unit_test a.shape _ hin _ (fun i => rfl),
          Res.mapM'_ok fun i hi => idx_getD a.shape i (hin i hi)]
        simp only [Res.bind_ok, foldM_eq_foldl_bind]
        rfl
      · rw [if_neg hn, if_pos hn]; rfl

/-! ## the same, up to the error variant (the form the property corollaries use) -/

theorem rollaxis_sim (a : Arr α) (zero : α) (axis : Int) (start : Option Int) :
    Res.sameClass (Array_rollaxis (fun x ax => x.transpose zero ax) a axis start) (a.rollaxis zero axis start) :=
  Res.sameClass_of_eq (rollaxis_eq a zero axis start)

theorem swapaxes_sim (a : Arr α) (zero : α) (ax1 ax2 : Int) :
    Res.sameClass (Array_swapaxes (fun x ax => x.transpose zero ax) a ax1 ax2) (a.swapaxes zero ax1 ax2) :=
  Res.sameClass_of_eq (swapaxes_eq a zero ax1 ax2)

theorem expand_dims_sim (a : Arr α) (axes : List Int) : Res.sameClass (Array_expand_dims a axes) (a.expandDims axes) :=
  Res.sameClass_of_eq (expand_dims_eq a axes)

theorem squeeze_sim (a : Arr α) (axes : Option (List Int)) : Res.sameClass (Array_squeeze a axes) (a.squeeze axes) :=
  Res.sameClass_of_eq (squeeze_eq a axes)

end ArrModel.Gen.Core
