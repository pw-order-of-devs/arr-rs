import ArrModel.C19
import ArrProofs.Lemmas.Res
/-!
# Lemmas for C19 (bit packing)

One byte goes through the value of a digit list: unpacking lists the eight low binary digits of the byte (`lowBits`),
packing a group of eight reads the group as a binary numeral (`ofDigitsBE`), and the two are inverse by the arithmetic
of `% 2` and `/ 2`.  Lists of bytes follow by induction, eight elements at a time (`packFlat_append8`).  The digit loop
of `binary_repr` emits the least-significant-first numeral of its argument (`reprLoop_value`).  `unpackBits` and
`packBits` are two instances of one frame of checks, `bitsFrame`, whose arms are stated once for both.
-/
namespace ArrModel.C19
open ArrModel

/-! ### digit lists and their values -/

/-- value of a most-significant-first digit list -/
def ofDigitsBE (ds : List Nat) : Nat := ds.foldl (fun acc d => acc * 2 + d) 0

/-- value of a least-significant-first digit list -/
def ofDigitsLE : List Nat → Nat
  | [] => 0
  | d :: ds => d + 2 * ofDigitsLE ds

theorem ofDigitsBE_reverse : ∀ ds : List Nat, ofDigitsBE ds.reverse = ofDigitsLE ds
  | [] => rfl
  | d :: ds => by
    have ih := ofDigitsBE_reverse ds
    unfold ofDigitsBE at ih ⊢
    rw [List.reverse_cons, List.foldl_append, List.foldl_cons, List.foldl_nil, ih, ofDigitsLE]; omega

theorem ofDigitsBE_eq (ds : List Nat) : ofDigitsBE ds = ofDigitsLE ds.reverse := by
  rw [← ofDigitsBE_reverse, List.reverse_reverse]

/-- a most-significant-first list of `k` binary digits continues the value `v` to less than `(v + 1) · 2^k` -/
theorem foldl_digits_lt : ∀ (ds : List Nat) (v : Nat), (∀ d ∈ ds, d < 2) →
    ds.foldl (fun acc d => acc * 2 + d) v < (v + 1) * 2 ^ ds.length
  | [], v, _ => by simp
  | d :: ds, v, h => by
    have hd : d < 2 := h d List.mem_cons_self
    have ih := foldl_digits_lt ds (v * 2 + d) (fun x hx => h x (List.mem_cons_of_mem _ hx))
    have : (v * 2 + d + 1) * 2 ^ ds.length ≤ (v + 1) * 2 ^ (ds.length + 1) := by
      rw [Nat.pow_succ, Nat.mul_comm (2 ^ ds.length) 2, ← Nat.mul_assoc]
      exact Nat.mul_le_mul_right _ (by omega)
    exact Nat.lt_of_lt_of_le ih this

theorem ofDigitsBE_lt (ds : List Nat) (h : ∀ d ∈ ds, d < 2) : ofDigitsBE ds < 2 ^ ds.length := by
  have := foldl_digits_lt ds 0 h
  rwa [Nat.zero_add, Nat.one_mul] at this

/-- the `n` low binary digits of `b`, least significant first -/
def lowBits (n b : Nat) : List Nat := (List.range n).map fun i => (b >>> i) &&& 1

theorem lowBits_length (n b : Nat) : (lowBits n b).length = n := by simp [lowBits]

theorem lowBits_lt (n b : Nat) : ∀ x ∈ lowBits n b, x < 2 := by
  intro x hx
  obtain ⟨i, _, rfl⟩ := List.mem_map.1 hx
  rw [Nat.and_one_is_mod]; omega

theorem lowBits_succ (n b : Nat) : lowBits (n + 1) b = b % 2 :: lowBits n (b / 2) := by
  simp only [lowBits, List.range_succ_eq_map, List.map_cons, List.map_map, Function.comp_def, Nat.shiftRight_zero,
    Nat.and_one_is_mod, Nat.shiftRight_succ_inside]

theorem ofDigitsLE_lowBits : ∀ n b : Nat, ofDigitsLE (lowBits n b) = b % 2 ^ n
  | 0, b => by simp [lowBits, ofDigitsLE, Nat.mod_one]
  | n + 1, b => by
    rw [lowBits_succ, ofDigitsLE, ofDigitsLE_lowBits n (b / 2), Nat.pow_succ, Nat.mul_comm (2 ^ n) 2, Nat.mod_mul]

/-- the last digit and the rest of a least-significant-first numeral come back by `% 2` and `/ 2` -/
theorem digit_step (d v : Nat) (hd : d < 2) : (d + 2 * v) % 2 = d ∧ (d + 2 * v) / 2 = v := by omega

theorem lowBits_ofDigitsLE : ∀ ds : List Nat, (∀ d ∈ ds, d < 2) → lowBits ds.length (ofDigitsLE ds) = ds
  | [], _ => rfl
  | d :: ds, h => by
    obtain ⟨h1, h2⟩ := digit_step d (ofDigitsLE ds) (h d List.mem_cons_self)
    rw [List.length_cons, lowBits_succ, ofDigitsLE, h1, h2,
      lowBits_ofDigitsLE ds fun x hx => h x (List.mem_cons_of_mem _ hx)]

/-! ### one byte -/

/-- a group of eight as its binary numeral reads, most significant first: the group itself in big order, reversed in
little order (what both `unpackByte` and `packGroup` do with `bit_order == BitOrder::Little`) -/
def msbFirst (o : BitOrder) (l : List Nat) : List Nat := if o = .little then l.reverse else l

theorem msbFirst_msbFirst (o : BitOrder) (l : List Nat) : msbFirst o (msbFirst o l) = l := by
  cases o <;> simp [msbFirst]

theorem msbFirst_length (o : BitOrder) (l : List Nat) : (msbFirst o l).length = l.length := by
  cases o <;> simp [msbFirst]

theorem mem_msbFirst (o : BitOrder) (l : List Nat) (x : Nat) : x ∈ msbFirst o l ↔ x ∈ l := by
  cases o <;> simp [msbFirst]

theorem unpackByte_eq (o : BitOrder) (b : Nat) : unpackByte o b = msbFirst o (lowBits 8 b).reverse := by
  simp only [unpackByte, msbFirst, lowBits, List.map_reverse]

theorem unpackByte_length (o : BitOrder) (b : Nat) : (unpackByte o b).length = 8 := by
  rw [unpackByte_eq, msbFirst_length, List.length_reverse, lowBits_length]

theorem unpackByte_bits (o : BitOrder) (b : Nat) : ∀ x ∈ unpackByte o b, x < 2 := by
  intro x hx
  rw [unpackByte_eq, mem_msbFirst, List.mem_reverse] at hx
  exact lowBits_lt 8 b x hx

/-- the bit an element counts as when packed: `if i > &0 { "1" } else { "0" }` -/
def asBit (i : Nat) : Nat := if i > 0 then 1 else 0

theorem asBit_lt (i : Nat) : asBit i < 2 := by unfold asBit; split <;> omega

theorem map_asBit_of_bits (g : List Nat) (h : ∀ x ∈ g, x < 2) : g.map asBit = g := by
  rw [List.map_congr_left (g := id), List.map_id]
  intro x hx
  have := h x hx
  unfold asBit; split <;> simp only [id] <;> omega

theorem bitChar_eq_digitChar (i : Nat) : bitChar i = digitChar (asBit i) := by
  unfold bitChar digitChar asBit; split <;> simp_all

theorem parse_fold_digits : ∀ (ds : List Nat) (v : Nat), (∀ d ∈ ds, d < 2) →
    (ds.map digitChar).foldl (fun acc c => acc.bind fun v =>
      if c = '0' then some (v * 2) else if c = '1' then some (v * 2 + 1) else none) (some v)
      = some (ds.foldl (fun acc d => acc * 2 + d) v)
  | [], v, _ => rfl
  | d :: ds, v, h => by
    have hd : d < 2 := h d List.mem_cons_self
    simp only [List.map_cons, List.foldl_cons]
    have : d = 0 ∨ d = 1 := by omega
    rcases this with rfl | rfl
    · simp only [digitChar, if_true, Option.bind_some]
      exact parse_fold_digits ds _ (fun x hx => h x (List.mem_cons_of_mem _ hx))
    · have h1 : digitChar 1 = '1' := by decide
      have h2 : ('1' = '0') = False := by decide
      simp only [h1, h2, if_false, if_true, Option.bind_some]
      exact parse_fold_digits ds _ (fun x hx => h x (List.mem_cons_of_mem _ hx))

/-- a non-empty text of binary digits parses to its value -/
theorem parseRadix2_digits (ds : List Nat) (hne : ds ≠ []) (h : ∀ d ∈ ds, d < 2) :
    parseRadix2 (ds.map digitChar) = some (ofDigitsBE ds) := by
  unfold parseRadix2
  rw [if_neg (by simpa using hne)]
  exact parse_fold_digits ds 0 h

/-- **what packing a group of eight is**: the value of the group read as a binary numeral (the `unwrap` cannot fail) -/
theorem packGroup_eq (o : BitOrder) (g : List Nat) (hg : g.length = 8) :
    packGroup o g = .ok (ofDigitsBE (msbFirst o (g.map asBit))) := by
  have htext : (if o = .little then (g.map bitChar).reverse else g.map bitChar) = (msbFirst o (g.map asBit)).map digitChar := by
    have hc : bitChar = fun i => digitChar (asBit i) := funext bitChar_eq_digitChar
    unfold msbFirst
    split <;> simp only [hc, List.map_map, List.map_reverse, Function.comp_def]
  have hlen : (msbFirst o (g.map asBit)).length = 8 := by rw [msbFirst_length, List.length_map, hg]
  have hbits : ∀ d ∈ msbFirst o (g.map asBit), d < 2 := by
    intro d hd
    obtain ⟨i, _, rfl⟩ := List.mem_map.1 ((mem_msbFirst _ _ _).1 hd)
    exact asBit_lt i
  have hv : ofDigitsBE (msbFirst o (g.map asBit)) < 2 ^ 8 := hlen ▸ ofDigitsBE_lt _ hbits
  have hne : msbFirst o (g.map asBit) ≠ [] := fun e => by rw [e] at hlen; cases hlen
  simp only [packGroup, htext, parseRadix2U, parseRadix2_digits _ hne hbits, Option.bind_some, if_pos hv, Res.unwrap]

theorem packGroup_unpackByte (b : Nat) (hb : b < 256) (o : BitOrder) : packGroup o (unpackByte o b) = .ok b := by
  rw [packGroup_eq o _ (unpackByte_length o b), map_asBit_of_bits _ (unpackByte_bits o b), unpackByte_eq,
    msbFirst_msbFirst, ofDigitsBE_reverse, ofDigitsLE_lowBits, Nat.mod_eq_of_lt hb]

theorem unpack_packGroup8 (o : BitOrder) (g : List Nat) (hg : g.length = 8) (hb : ∀ x ∈ g, x < 2) :
    (packGroup o g).map (unpackByte o) = .ok g := by
  have hlen : (msbFirst o g).reverse.length = 8 := by rw [List.length_reverse, msbFirst_length, hg]
  have hbits : ∀ d ∈ (msbFirst o g).reverse, d < 2 := fun d hd =>
    hb d ((mem_msbFirst _ _ _).1 (List.mem_reverse.1 hd))
  rw [packGroup_eq o g hg, map_asBit_of_bits g hb]
  show Res.ok (unpackByte o _) = _
  rw [unpackByte_eq, ofDigitsBE_eq, ← hlen, lowBits_ofDigitsLE _ hbits, List.reverse_reverse, msbFirst_msbFirst]

/-! ### lists of bytes -/

theorem unpackFlat_cons (o : BitOrder) (b : Nat) (bs : List Nat) :
    unpackFlat o (b :: bs) = unpackByte o b ++ unpackFlat o bs := List.flatMap_cons

theorem unpackFlat_length (o : BitOrder) : ∀ bs : List Nat, (unpackFlat o bs).length = 8 * bs.length
  | [] => rfl
  | b :: bs => by
    rw [unpackFlat_cons, List.length_append, unpackByte_length, unpackFlat_length o bs, List.length_cons]; omega

theorem unpackFlat_ne_nil (o : BitOrder) {bs : List Nat} (h : bs ≠ []) : unpackFlat o bs ≠ [] :=
  List.ne_nil_of_length_pos (by rw [unpackFlat_length]; have := List.length_pos_iff.2 h; omega)

theorem pad8_length (xs : List Nat) : (pad8 xs).length = (xs.length + 7) / 8 * 8 := by
  unfold pad8; split
  · simp only [List.length_append, List.length_replicate]; omega
  · omega

theorem pad8_of_dvd (xs : List Nat) (h : xs.length % 8 = 0) : pad8 xs = xs := by
  simp [pad8, h]

theorem pad8_idem (xs : List Nat) : pad8 (pad8 xs) = pad8 xs :=
  pad8_of_dvd _ (by rw [pad8_length]; exact Nat.mul_mod_left _ _)

theorem pad8_append8 (g rest : List Nat) (hg : g.length = 8) : pad8 (g ++ rest) = g ++ pad8 rest := by
  unfold pad8
  have : (g ++ rest).length % 8 = rest.length % 8 := by simp [hg]
  rw [this]; split <;> simp

theorem pad8_bits (xs : List Nat) (hb : ∀ x ∈ xs, x < 2) : ∀ x ∈ pad8 xs, x < 2 := by
  intro x hx
  unfold pad8 at hx
  split at hx
  · rcases List.mem_append.1 hx with h | h
    · exact hb x h
    · have := (List.mem_replicate.1 h).2; omega
  · exact hb x hx

theorem take_pad8 (xs : List Nat) : (pad8 xs).take xs.length = xs := by
  unfold pad8; split <;> simp

theorem group8_ok (xs : List Nat) (p : Nat) (h : (p + 1) * 8 ≤ xs.length) :
    group8 xs p = .ok ((xs.drop (p * 8)).take 8) := if_pos h

/-- the bytes `pack_bits` produces: group `p` of the padded list, read as a binary numeral, for every group -/
def packedBytes (o : BitOrder) (xs : List Nat) : List Nat :=
  (List.range ((pad8 xs).length / 8)).map fun p => ofDigitsBE (msbFirst o ((((pad8 xs).drop (p * 8)).take 8).map asBit))

/-- **what packing is**: every group of the padded list packs, so no step of the loop can fail -/
theorem packFlat_eq (o : BitOrder) (xs : List Nat) : packFlat o xs = .ok (packedBytes o xs) := by
  unfold packFlat
  apply Res.mapM'_ok
  intro p hp
  have hp' : p < (pad8 xs).length / 8 := List.mem_range.1 hp
  have hle : (p + 1) * 8 ≤ (pad8 xs).length := by omega
  rw [group8_ok _ _ hle, Res.bind_ok, packGroup_eq]
  rw [List.length_take, List.length_drop]; omega

/-- **packing never fails**, whatever the values and the length -/
theorem packFlat_total (o : BitOrder) (xs : List Nat) : ∃ r, packFlat o xs = .ok r := ⟨_, packFlat_eq o xs⟩

theorem packedBytes_length (o : BitOrder) (xs : List Nat) : (packedBytes o xs).length = (xs.length + 7) / 8 := by
  rw [packedBytes, List.length_map, List.length_range, pad8_length, Nat.mul_div_cancel _ (by decide)]

/-- packing pads first, so padding beforehand changes nothing -/
theorem packFlat_pad8 (o : BitOrder) (xs : List Nat) : packFlat o (pad8 xs) = packFlat o xs := by
  unfold packFlat; rw [pad8_idem]

theorem packFlat_nil (o : BitOrder) : packFlat o [] = .ok [] := rfl

theorem drop_append8 (g rest : List Nat) (hg : g.length = 8) (p : Nat) :
    (g ++ rest).drop ((p + 1) * 8) = rest.drop (p * 8) := by
  rw [List.drop_append, List.drop_eq_nil_of_le (by omega), hg, List.nil_append]
  congr 1; omega

theorem packFlat_append8 (o : BitOrder) (g rest : List Nat) (hg : g.length = 8) :
    packFlat o (g ++ rest) = (packGroup o g >>= fun b => packFlat o rest >>= fun bs => .ok (b :: bs)) := by
  have hl : (g ++ pad8 rest).length / 8 = (pad8 rest).length / 8 + 1 := by
    rw [List.length_append, hg]; omega
  have h0 : (g ++ pad8 rest).take 8 = g := by rw [List.take_append_of_le_length (by omega), ← hg, List.take_length]
  rw [packFlat_eq, packFlat_eq, packGroup_eq o g hg, packedBytes, packedBytes, pad8_append8 g rest hg, hl,
    List.range_succ_eq_map]
  simp only [Res.bind_ok, List.map_cons, List.map_map, Function.comp_def, Nat.zero_mul, List.drop_zero, h0,
    drop_append8 g _ hg]

theorem packFlat_unpackFlat (o : BitOrder) : ∀ bs : List Nat, (∀ b ∈ bs, b < 256) →
    packFlat o (unpackFlat o bs) = .ok bs
  | [], _ => packFlat_nil o
  | b :: bs, h => by
    rw [unpackFlat_cons, packFlat_append8 _ _ _ (unpackByte_length o b),
      packGroup_unpackByte b (h b List.mem_cons_self) o,
      packFlat_unpackFlat o bs (fun x hx => h x (List.mem_cons_of_mem _ hx))]
    rfl

theorem unpackFlat_packFlat_mul8 (o : BitOrder) : ∀ (k : Nat) (xs : List Nat), xs.length = 8 * k →
    (∀ x ∈ xs, x < 2) → (packFlat o xs).map (unpackFlat o) = .ok xs
  | 0, xs, hl, _ => by
    have : xs = [] := List.eq_nil_of_length_eq_zero (by omega)
    subst this; rfl
  | k + 1, xs, hl, hb => by
    have hg : (xs.take 8).length = 8 := by rw [List.length_take]; omega
    have hr : (xs.drop 8).length = 8 * k := by rw [List.length_drop]; omega
    obtain ⟨b, hb1, hb2⟩ := Res.map_eq_ok (unpack_packGroup8 o (xs.take 8) hg
      (fun x hx => hb x (List.mem_of_mem_take hx)))
    obtain ⟨bs, hbs1, hbs2⟩ := Res.map_eq_ok (unpackFlat_packFlat_mul8 o k (xs.drop 8) hr
      (fun x hx => hb x (List.mem_of_mem_drop hx)))
    rw [← List.take_append_drop 8 xs, packFlat_append8 o _ _ hg, hb1, hbs1]
    simp only [Res.bind_ok, Res.map, unpackFlat_cons, hb2, hbs2]

/-! ### `binary_repr` -/

theorem reprLoop_value : ∀ (fuel x : Nat), x < fuel → ofDigitsLE (reprLoop fuel x) = x
  | 0, _, h => by omega
  | fuel + 1, x, h => by
    unfold reprLoop
    by_cases h0 : x / 2 = 0
    · simp only [h0, if_true, ofDigitsLE]; omega
    · simp only [h0, if_false, ofDigitsLE]
      rw [reprLoop_value fuel (x / 2) (by omega)]; omega

theorem reprLoop_digits : ∀ (fuel x : Nat), ∀ d ∈ reprLoop fuel x, d < 2
  | 0, _ => by simp [reprLoop]
  | fuel + 1, x => by
    intro d hd
    unfold reprLoop at hd
    simp only [List.mem_cons] at hd
    rcases hd with rfl | hd
    · omega
    · split at hd
      · simp at hd
      · exact reprLoop_digits fuel _ d hd

theorem reprLoop_ne_nil (fuel x : Nat) : reprLoop (fuel + 1) x ≠ [] := by simp [reprLoop]

theorem binaryDigits_ne_nil (n : Nat) : binaryDigits n ≠ [] := by
  simpa [binaryDigits] using reprLoop_ne_nil n n

theorem binaryDigits_lt (n : Nat) : ∀ d ∈ binaryDigits n, d < 2 :=
  fun d hd => reprLoop_digits _ _ d (List.mem_reverse.1 hd)

theorem binaryDigits_value (n : Nat) : ofDigitsBE (binaryDigits n) = n := by
  unfold binaryDigits
  rw [ofDigitsBE_reverse, reprLoop_value _ _ (by omega)]

/-! ### the order of the checks in `unpack_bits` / `pack_bits` (commit 97c65b7): order, axis, empty shortcut -/

/-- the frame the two operations share: parse the order, validate the axis, answer `Array::empty()` on an array without
elements, otherwise the flat arm or `apply_along_axis` with the lane closure -/
def bitsFrame (along : Along) (a : Arr Nat) (axis : Option Int) (ord : Option Spelling)
    (flatArm : BitOrder → Res (Arr Nat)) (lane : BitOrder → Arr Nat → Res (Arr Nat)) : Res (Arr Nat) :=
  optOrder ord >>= fun o => axisCheck a.ndim axis >>= fun _ =>
    if a.isEmpty then .ok ⟨[], [0]⟩
    else match axis with
      | none => flatArm o
      | some ax => along a (normalizeAxis a.ndim ax) (lane o)

theorem unpackBits_eq (along : Along) (a : Arr Nat) (axis count : Option Int) (ord : Option Spelling) :
    unpackBits along a axis count ord =
      bitsFrame along a axis ord (fun o => unpackFlatArr o count a) (fun o => unpackLane o count) := by
  unfold unpackBits bitsFrame
  cases optOrder ord with
  | ok o => cases axisCheck a.ndim axis <;> rfl
  | err e => rfl
  | panic => rfl

theorem packBits_eq (along : Along) (a : Arr Nat) (axis : Option Int) (ord : Option Spelling) :
    packBits along a axis ord = bitsFrame along a axis ord (fun o => packFlatArr o a) packLane := by
  unfold packBits bitsFrame
  cases optOrder ord with
  | ok o => cases axisCheck a.ndim axis <;> rfl
  | err e => rfl
  | panic => rfl

section frame
variable {along : Along} {a : Arr Nat} {ord : Option Spelling} {o : BitOrder}
  {flatArm : BitOrder → Res (Arr Nat)} {lane : BitOrder → Arr Nat → Res (Arr Nat)}

theorem bitsFrame_bad_order {axis : Option Int} {e : Err} (ho : optOrder ord = .err e) :
    bitsFrame along a axis ord flatArm lane = .err e := by
  rw [bitsFrame, ho]; rfl

theorem bitsFrame_bad_axis {ax : Int} (ho : optOrder ord = .ok o) (hk : a.ndim ≤ normalizeAxis a.ndim ax) :
    bitsFrame along a (some ax) ord flatArm lane = .err .AxisOutOfBounds := by
  rw [bitsFrame, ho, Res.bind_ok, axisCheck, if_pos hk]; rfl

/-- accepted order, in-range axis, non-empty array: `apply_along_axis` with the lane closure -/
theorem bitsFrame_axis {ax : Int} (ho : optOrder ord = .ok o) (hk : normalizeAxis a.ndim ax < a.ndim)
    (hne : a.isEmpty = false) :
    bitsFrame along a (some ax) ord flatArm lane = along a (normalizeAxis a.ndim ax) (lane o) := by
  rw [bitsFrame, ho, Res.bind_ok, axisCheck, if_neg (Nat.not_le.2 hk), hne]; rfl

/-- accepted order, flat form, non-empty array -/
theorem bitsFrame_flat (ho : optOrder ord = .ok o) (hne : a.isEmpty = false) :
    bitsFrame along a none ord flatArm lane = flatArm o := by
  rw [bitsFrame, ho, hne]; rfl

end frame

end ArrModel.C19
