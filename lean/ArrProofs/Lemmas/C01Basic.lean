import ArrProofs.Lemmas.Res
/-!
# Lemmas.C01Basic — the form of the `op_wf` lemmas of C01 and the funnels they end in

A lemma `op_wf` says `Res.All Arr.WF (op …)`: every `ok` outcome of `op` is well-formed.  It is proved by walking the
definition of `op` with the rules of `Res.All` (`All.ite'`, `All.bind'`, `All.bind`, …): one rule per layer of the definition,
each exit closed by the funnel it goes through (`fun _ => Arr.new_wf`, `fun _ => Arr.reshape_wf`, `Arr.flat_wf`, the receiver's
own well-formedness).  Some lemmas spell the same statement out as `{r} (h : op … = .ok r) : r.WF`; `Res.All P x` is by
definition `∀ r, x = .ok r → P r`, so the one form is used as the other (`op_wf … r h`, `fun _ h => op_wf … h`).
-/
namespace ArrModel

variable {α β : Type}

namespace C01
open Res

theorem new_ok_wf {e : List α} {s : List Nat} {r : Arr α} (h : Arr.new e s = .ok r) : r.WF := Arr.new_wf h

theorem new_refuses (e : List α) (s : List Nat) (h : e.length ≠ s.prod) :
    Arr.new e s = .err .ShapeMustMatchValuesLength := Arr.new_of_not_prod (Ne.symm h)

theorem mk_wf {e : List α} {s : List Nat} (h : e.length = s.prod) : (Arr.mk e s).WF := h

theorem mapM'_ok_length {f : α → Res β} {l : List α} {r : List β} (h : Res.mapM' f l = .ok r) :
    r.length = l.length := by
  simpa using (congrArg List.length (sequence_eq_ok h)).symm

/-- every member of a list of arrays is well-formed -/
def AllWF (l : List (Arr α)) : Prop := ∀ a ∈ l, a.WF

/-- the rules of the walk for an optional outcome (`C14.dot` answers `none` on the arms that are not modelled) -/
theorem forall_mem_ite {P : α → Prop} {c : Prop} [Decidable c] {o₁ o₂ : Option α} (h₁ : ∀ x ∈ o₁, P x) (h₂ : ∀ x ∈ o₂, P x) :
    ∀ x ∈ (if c then o₁ else o₂), P x := by
  split
  · exact h₁
  · exact h₂

theorem forall_mem_some {P : α → Prop} {a : α} (h : P a) : ∀ x ∈ some a, P x := fun _ e => Option.some.inj e ▸ h

end C01
end ArrModel
