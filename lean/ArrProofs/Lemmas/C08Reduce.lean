import ArrModel.C08
import ArrProofs.Lemmas.C08AlongAxis
/-! `apply_along_axis` with a lane function that returns one element (reductions, counts, positions) -/
namespace ArrModel
open Arr
variable {α β : Type}

/-- one output element per lane: the buffer of the result, read with the coordinates of the *remaining* axes -/
theorem applyAlongAxis_single (a : Arr α) (zero : α) (zb : β) (axis : Nat) (f : Arr α → Res (Arr β))
    (hwf : a.WF) (hax : axis < a.ndim) (hnz : 0 ∉ a.shape)
    (hf : ∀ lane : List α, lane.length = a.shape.getD axis 0 → ∃ r, f (Arr.flat lane) = .ok r ∧ r.elems.length = 1) :
    ∃ r, a.applyAlongAxis zero zb axis f = .ok r ∧ r.shape = a.shape.set axis 1 ∧ r.WF ∧
      r.elems.length = (a.shape.eraseIdx axis).prod ∧
      ∀ c, inRange (a.shape.eraseIdx axis) c = true →
        ∃ y v, f (Arr.flat (laneOf a axis (c.insertIdx axis 0))) = .ok y ∧ y.elems = [v] ∧
          r.elems[ravel (a.shape.eraseIdx axis) c]? = some v ∧ r.get? (c.insertIdx axis 0) = some v := by
  have hax' : axis < a.shape.length := hax
  obtain ⟨r, h1, h2, h3, h4⟩ := applyAlongAxis_spec a zero zb axis 1 f hwf hax hnz hf
  refine ⟨r, h1, h2, h3, ?_, ?_⟩
  · rw [h3, h2, prod_set_eraseIdx _ _ _ hax', Nat.mul_one]
  · intro c hc
    have hcl : c.length = (a.shape.eraseIdx axis).length := inRange_length _ _ hc
    have hal : axis ≤ c.length := by rw [hcl, List.length_eraseIdx_of_lt hax']; exact Nat.le_sub_one_of_lt hax'
    have hs : a.shape.set axis 1 = (a.shape.eraseIdx axis).insertIdx axis 1 := (insertIdx_eraseIdx_self _ _ _ hax').symm
    have hC : inRange r.shape (c.insertIdx axis 0) = true := by
      rw [h2, hs]; exact inRange_insertIdx _ _ _ _ _ hc Nat.one_pos
    obtain ⟨y, hy1, hy2⟩ := h4 _ hC
    rw [getD_insertIdx_self c axis 0 hal] at hy2
    have hC' : inRange (a.shape.set axis 1) (c.insertIdx axis 0) = true := by rw [← h2]; exact hC
    obtain ⟨y', hy'1, hy'2⟩ := hf _ (laneOf_length a axis 1 _ hwf hC')
    rw [hy1] at hy'1; cases hy'1
    obtain ⟨v, hv⟩ := List.length_eq_one_iff.1 hy'2
    refine ⟨y, v, hy1, hv, ?_, ?_⟩
    · rw [Arr.get?, h2, hs, ravel_insertIdx_one _ _ _ hcl.symm, hv] at hy2
      exact hy2
    · rw [hy2, hv]; rfl

/-- `reshape(shape.remove_at(axis))` with the axis inside the shape -/
theorem removeAxis_reshape (r : Arr β) (s : List Nat) (axis : Nat) (hax : axis < s.length) :
    (vecRemove s axis >>= fun sh => r.reshape sh) = Arr.new r.elems (s.eraseIdx axis) := by
  rw [show vecRemove s axis = .ok (s.eraseIdx axis) from if_neg (Nat.not_le_of_lt hax)]
  rfl

/-- the `keepdims` tail of the 1-D queries on a rank-1 array changes nothing -/
theorem keepdimsTail_one (kd : Option Bool) (r : Arr β) : Arr.keepdimsTail 1 kd r = .ok r := by
  unfold Arr.keepdimsTail
  split <;> rfl

/-- on a rank-1 array the only lane is the whole buffer -/
theorem laneOf_rank1 (a : Arr α) (n : Nat) (c : List Nat) (hwf : a.WF) (hs : a.shape = [n]) (hc : c.length = 1) :
    laneOf a 0 c = a.elems := by
  match c, hc with
  | [x], _ =>
    unfold laneOf
    have hl : a.elems.length = n := by rw [hwf, hs]; simp
    conv => rhs; rw [← List.take_length (l := a.elems), hl, take_eq_filterMap]
    rw [hs]
    apply List.filterMap_congr
    intro j _
    simp [Arr.get?, hs, ravel]

end ArrModel

/-! sample 1-D bodies for the non-vacuity examples of `Props/C08.lean` -/
namespace ArrModel.C08
open ArrModel Arr
/-- 1-D `sum(None)` on naturals: `Self::single(fold …)` -/
def sumBody (arr : Arr Nat) : Res (Arr Nat) := .ok (Arr.single arr.elems.sum)
/-- 1-D `cumsum(None)` on naturals: running totals -/
def cumsumBody (arr : Arr Nat) : Res (Arr Nat) :=
  .ok (Arr.flat ((List.range arr.elems.length).map (fun i => (arr.elems.take (i + 1)).sum)))
/-- 1-D `count_nonzero(None, keepdims)` on naturals -/
def countBody (arr : Arr Nat) (kd : Option Bool) : Res (Arr Nat) :=
  Arr.keepdimsTail arr.ndim kd (Arr.single (arr.elems.filter (· != 0)).length)
/-- the `[2,3,2,2]` sample array `0..24` -/
def sample : Arr Nat := ⟨List.range 24, [2, 3, 2, 2]⟩
end ArrModel.C08
