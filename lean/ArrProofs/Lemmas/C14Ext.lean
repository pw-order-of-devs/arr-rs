import ArrModel.C14Ext
import ArrProofs.Lemmas.C14
/-! `matmul` of a vector with a stack of matrices, in either order (the recursive arms of `matmul_1d_nd`), and `vdot`
written with the shared model of `zip` -/

namespace ArrModel
namespace C14
open Finset

/-- entry `(i, j)` of the `t`-th matrix of a stack -/
theorem ent_piece {x : A} {s u v : Nat} (hsx : x.shape = [s, u, v]) (t : Nat) {i j : Nat} (hi : i < u) (hj : j < v) :
    (⟨piece x.elems (u * v) t, [u, v]⟩ : A).ent [i, j] = x.ent [t, i, j] := by
  rw [ent_mat rfl, ent_3 hsx, getD_piece _ t (mul_add_lt hi hj)]

/-- the recursive arms of `matmul_1d_nd` on a stack of `s` matrices `[u, v]`: one recursive call per matrix, the
results poured into one buffer and reshaped to `[u, v]` -/
theorem matmul1dNd_stack_arm {x : A} {s u v : Nat} (hx : x.WF) (hs : 0 < s) (hu : 0 < u) (hv : 0 < v) (hsx : x.shape = [s, u, v])
    (f : A → Res A) (g : Nat → A) (hf : ∀ t < s, f ⟨piece x.elems (u * v) t, [u, v]⟩ = .ok (g t)) :
    (removeAt x.shape 0 >>= fun newShape => splitAxis0 x >>= fun slabs =>
      collectRes (slabs.map (fun sl => (reshapeUnwrap sl newShape).bind f)) >>= fun rs =>
      reshape (rs.flatMap (·.elems)) newShape)
    = reshape ((List.range s).flatMap (fun t => (g t).elems)) [u, v] := by
  have hl := wf_len3 hx hsx
  have hrm : removeAt x.shape 0 = .ok [u, v] := by rw [hsx]; rfl
  rw [hrm, Res.bind_ok, splitAxis0_stack x s (u * v) hl hs (Nat.mul_pos hu hv) (by rw [hsx]; rfl), Res.bind_ok, List.map_map,
    collectRes_map _ _ g, Res.bind_ok, List.flatMap_map]
  intro t ht
  have ht' : t < s := List.mem_range.1 ht
  rw [Function.comp, reshapeUnwrap, if_pos (by rw [length_piece hl.ge ht']; simp)]
  exact hf t ht'

/-! ### vector · stack -/

/-- the flat buffer `matmul_1d_nd` collects for `[k] · [s, k, p]`: the `s` vector-matrix products one after the other -/
def vsElems (a b : A) (s k p : Nat) : List Int :=
  (List.range s).flatMap (fun t => (vm12 a ⟨piece b.elems (k * p) t, [k, p]⟩ k p).elems)

theorem length_vsElems (a b : A) (s k p : Nat) : (vsElems a b s k p).length = s * p := by
  rw [vsElems, length_flatMap_uniform _ p _ (fun t _ => length_vm12 _ _ k p), List.length_range]

theorem matmul1dNd_vecstack (fuel : Nat) (a b : A) (s k p : Nat) (ha : a.WF) (hb : b.WF)
    (hs : 0 < s) (hk : 0 < k) (hp : 0 < p) (hsa : a.shape = [k]) (hsb : b.shape = [s, k, p]) :
    matmul1dNd (fuel + 2) a b = reshape (vsElems a b s k p) [k, p] := by
  have hnda : a.ndim = 1 := ndim_of_shape hsa
  have hndb : b.ndim = 3 := ndim_of_shape hsb
  rw [matmul1dNd, if_pos hnda, if_pos (by omega)]
  exact matmul1dNd_stack_arm hb hs hk hp hsb _ _ fun t ht => matmul1dNd_vecmat fuel a _ k p ha (piece_wf hb hsb ht) hsa rfl

theorem vsElems_get (a b : A) (s k p t j : Nat) (ht : t < s) (hj : j < p)
    (hsa : a.shape = [k]) (hsb : b.shape = [s, k, p]) :
    (vsElems a b s k p)[t * p + j]? = some (∑ i ∈ range k, a.ent [i] * b.ent [t, i, j]) := by
  rw [vsElems, getElem?_flatMap_uniform _ p (List.range s) t j (by rwa [List.length_range]) (fun t _ => length_vm12 _ _ k p) hj,
    List.getElem_range]
  refine ((get?_flat _ j).symm.trans (vm12_get a _ k p j hj hsa rfl)).trans (congrArg some (Finset.sum_congr rfl fun i hi => ?_))
  rw [ent_piece hsb t (Finset.mem_range.1 hi) hj]

/-! ### stack · vector -/

/-- the flat buffer `matmul_1d_nd` collects for `[s, n, k] · [k]`: the `s` matrix-vector products one after the other -/
def svElems (a b : A) (s n k : Nat) : List Int :=
  (List.range s).flatMap (fun t => (mv21 ⟨piece a.elems (n * k) t, [n, k]⟩ b n k).elems)

theorem length_svElems (a b : A) (s n k : Nat) : (svElems a b s n k).length = s * n := by
  rw [svElems, length_flatMap_uniform _ n _ (fun t _ => length_mv21 _ _ n k), List.length_range]

theorem matmul1dNd_stackvec (fuel : Nat) (a b : A) (s n k : Nat) (ha : a.WF) (hb : b.WF)
    (hs : 0 < s) (hn : 0 < n) (hk : 0 < k) (hsa : a.shape = [s, n, k]) (hsb : b.shape = [k]) :
    matmul1dNd (fuel + 2) a b = reshape (svElems a b s n k) [n, k] := by
  have hnda : a.ndim = 3 := ndim_of_shape hsa
  rw [matmul1dNd, if_neg (by omega), if_pos (by omega)]
  exact matmul1dNd_stack_arm ha hs hn hk hsa _ _ fun t ht => matmul1dNd_matvec fuel _ b n k (piece_wf ha hsa ht) hb hn hk rfl hsb

theorem svElems_get (a b : A) (s n k t i : Nat) (ht : t < s) (hi : i < n)
    (hsa : a.shape = [s, n, k]) (hsb : b.shape = [k]) :
    (svElems a b s n k)[t * n + i]? = some (∑ q ∈ range k, a.ent [t, i, q] * b.ent [q]) := by
  rw [svElems, getElem?_flatMap_uniform _ n (List.range s) t i (by rwa [List.length_range]) (fun t _ => length_mv21 _ _ n k) hi,
    List.getElem_range]
  refine ((get?_flat _ i).symm.trans (mv21_get _ b n k i hi rfl hsb)).trans (congrArg some (Finset.sum_congr rfl fun q hq => ?_))
  rw [ent_piece hsa t hi (Finset.mem_range.1 hq)]

/-! ### the zero-length arm of `vdot` is the shared `zip` model -/

/-- `zip` of two raveled operands of equal length `n`: `is_broadcastable` refuses `n = 0`, otherwise the shapes agree and
the element lists are zipped -/
theorem zip_flat {α β : Type} {xs : List α} {ys : List β} {n : Nat} (hx : xs.length = n) (hy : ys.length = n) :
    (Arr.flat xs).zip (Arr.flat ys) = if n = 0 then .err .BroadcastShapeMismatch else .ok ⟨xs.zip ys, [n]⟩ := by
  have hb : isBroadcastable [n] [n] = !(n == 0) := by simp [isBroadcastable, dimClash]
  have hl : [n].prod = (xs.zip ys).length := by rw [List.length_zip, hx, hy, Nat.min_self, List.prod_singleton]
  rw [Arr.zip, Arr.broadcastTo, Arr.flat, Arr.flat, hx, hy, hb, Bool.not_not]
  by_cases h0 : n = 0
  · rw [beq_iff_eq.2 h0, if_pos rfl, if_pos h0]; rfl
  · rw [beq_eq_false_iff_ne.2 h0, if_neg Bool.false_ne_true, if_pos rfl, if_neg h0, Arr.reshape,
      Arr.new_of_prod (List.prod_singleton.trans hy.symm), Res.bind_ok, Arr.reshape]
    exact Arr.new_of_prod hl

/-- `vdot` written with the shared model of `zip` (`ArrModel/Broadcast.lean`: `other.broadcast_to(self.shape)`, whose
`is_broadcastable` refuses a zero-length axis) on the raveled operands, then `map` (product) and `fold` (sum): the arm
`a.len = 0 ⇒ BroadcastShapeMismatch` of `C14.vdot` is exactly what that composition gives. -/
theorem vdot_eq_zip (a b : A) :
    vdot a b =
      if a.len = b.len then
        ((Arr.flat a.elems).zip (Arr.flat b.elems)).bind
          (fun z => .ok ⟨[(z.elems.map (fun t => t.1 * t.2)).foldl (· + ·) 0], [1]⟩)
      else .err .MustBeEqual := by
  unfold vdot
  split
  next h =>
    rw [zip_flat (n := a.len) rfl h.symm]
    split
    · rfl
    · exact congrArg (fun l : List Int => Res.ok (⟨[l.foldl (· + ·) 0], [1]⟩ : A))
        (List.map_zip_eq_zipWith (f := fun t : Int × Int => t.1 * t.2)).symm
  · rfl

end C14
end ArrModel
