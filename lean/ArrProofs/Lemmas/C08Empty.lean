import ArrProofs.Lemmas.C08Reduce
/-!
# C08 on arrays with a zero-length axis, and the total (never-panics) statement

What the MODEL of `apply_along_axis` (`ArrModel/AlongAxis.lean`) does when `0 ∈ a.shape`, for every rank and axis:

* some OTHER axis has length 0 (`0 ∈ a.shape.eraseIdx axis`): `parts = 0`, `split(0, None)` refuses,
  the answer is `Err(ParameterError)` (`applyAlongAxis_other_zero`);
* only the processed axis has length 0: `parts > 0`, the moved array is empty, `split` returns the single empty
  piece, `f` is applied ONCE to the empty lane `Arr.flat []`, and its answer `y` is reshaped to
  `rest ++ [y.len]`, which succeeds exactly when `rest.prod = 1 ∨ y.len = 0` (`applyAlongAxis_axis_zero`).

`applyAlongAxis_total`: for EVERY well-formed array, every axis and every `f` that never panics the call answers
`Ok` (well formed, same rank) or `Err` — never a panic.  The last section prepares both for the wrappers
`reduceAxis` / `countAxis` / `scanAxis` (`fit_bind_new`, `applyAlongAxis_ok`; used by `C08.axis_ops_never_panic`).
-/
namespace ArrModel
open Arr
variable {α β : Type}

/-- zero in the shape: either the processed axis is the only zero, or another axis is zero -/
theorem zero_mem_cases (s : List Nat) (axis : Nat) (hax : axis < s.length) (h0 : 0 ∈ s) :
    0 ∈ s.eraseIdx axis ∨ (0 ∉ s.eraseIdx axis ∧ s.getD axis 0 = 0) := by
  by_cases h : 0 ∈ s.eraseIdx axis
  · exact Or.inl h
  · -- `s` is `s.eraseIdx axis` with `s[axis]` put back: a zero of `s` is that entry or one of the others
    rw [← insertIdx_eraseIdx_getD s axis hax,
      List.mem_insertIdx (by rw [List.length_eraseIdx_of_lt hax]; exact Nat.le_sub_one_of_lt hax)] at h0
    exact Or.inr ⟨h, (h0.resolve_right h).symm⟩

theorem getD_zero_mem (s : List Nat) (axis : Nat) (hax : axis < s.length) (h : s.getD axis 0 = 0) : 0 ∈ s :=
  Decidable.byContradiction fun hnz => absurd h (Nat.pos_iff_ne_zero.1 (getD_mem_pos s axis hax hnz))

theorem mem_of_mem_eraseIdx' (s : List Nat) (axis : Nat) (h : 0 ∈ s.eraseIdx axis) : 0 ∈ s :=
  List.mem_of_mem_eraseIdx h

/-- **another axis has length 0**: `parts = 0`, `split` refuses -/
theorem applyAlongAxis_other_zero (a : Arr α) (zero : α) (zb : β) (axis : Nat) (f : Arr α → Res (Arr β))
    (hwf : a.WF) (hax : axis < a.ndim) (h0 : 0 ∈ a.shape.eraseIdx axis) :
    a.applyAlongAxis zero zb axis f = .err .ParameterError := by
  obtain ⟨arr, _, _, _, h⟩ := applyAlongAxis_eq a zero zb axis hwf hax
  rw [h, prod_eq_zero_of_mem _ h0]
  unfold Arr.split
  rw [if_neg (by rw [decide_eq_true_eq]; exact Nat.not_le_of_lt Nat.one_pos), if_pos rfl]
  rfl

/-- in a shape whose other axes all have length 1 the flat position is the coordinate of the remaining axis -/
theorem ravel_insertIdx_unit : ∀ (s c : List Nat) (i m j : Nat), inRange s c = true → s.prod = 1 → i ≤ s.length →
    ravel (s.insertIdx i m) (c.insertIdx i j) = j
  | s, c, 0, m, j, hc, hp, _ => by
    have := ravel_lt s c hc
    simp only [List.insertIdx_zero, ravel, hp]; omega
  | [], _, i + 1, _, _, _, _, hi => by simp at hi
  | d :: ds, [], i + 1, _, _, hc, _, _ => by simp [inRange] at hc
  | d :: ds, c0 :: cs, i + 1, m, j, hc, hp, hi => by
    simp only [inRange, Bool.and_eq_true, decide_eq_true_eq] at hc
    simp only [List.prod_cons] at hp
    have hd : d = 1 := Nat.eq_one_of_mul_eq_one_right hp
    have hds : ds.prod = 1 := Nat.eq_one_of_mul_eq_one_left hp
    have ih := ravel_insertIdx_unit ds cs i m j hc.2 hds (by simpa using hi)
    have hc0 : c0 = 0 := by omega
    simp only [List.insertIdx_succ_cons, ravel, ih, hc0, Nat.zero_mul, Nat.zero_add]

theorem inRange_replicate_zero : ∀ (s : List Nat), 0 ∉ s → inRange s (List.replicate s.length 0) = true
  | [], _ => rfl
  | d :: ds, h => by
    simp only [List.mem_cons, not_or] at h
    simp only [List.length_cons, List.replicate_succ, inRange, Bool.and_eq_true, decide_eq_true_eq]
    exact ⟨by omega, inRange_replicate_zero ds h.2⟩

/-- one lane answer `y` is kept when it fits the shape `rest ++ [y.len]` (all other axes of length 1, or `y` empty);
moving the last axis back does not touch the buffer then -/
theorem alongAssemble_singleton (zb : β) (rest : List Nat) (axis : Nat) (y : Arr β) (hrest : 0 ∉ rest) (hax : axis ≤ rest.length) :
    alongAssemble zb rest axis [y] =
      if rest.prod = 1 ∨ y.elems.length = 0 then .ok ⟨y.elems, rest.insertIdx axis y.elems.length⟩
      else .err .ShapeMustMatchValuesLength := by
  have hP : 0 < rest.prod := prod_pos_of_not_mem _ hrest
  have hprod : (rest ++ [y.elems.length]).prod = rest.prod * y.elems.length := by rw [List.prod_append, List.prod_singleton]
  have hfit : rest.prod * y.elems.length = y.elems.length ↔ rest.prod = 1 ∨ y.elems.length = 0 := by
    constructor
    · intro h
      rcases Nat.eq_zero_or_pos y.elems.length with h0 | hpos
      · exact Or.inr h0
      · exact Or.inl (Nat.eq_of_mul_eq_mul_right hpos (by rw [h, Nat.one_mul]))
    · rintro (h | h)
      · rw [h, Nat.one_mul]
      · rw [h, Nat.mul_zero]
  rw [alongAssemble_cons, List.flatMap_singleton]
  show (Arr.new y.elems (rest ++ [y.elems.length]) >>= _) = _
  by_cases hc : rest.prod = 1 ∨ y.elems.length = 0
  swap
  · rw [if_neg hc, Arr.new_of_not_prod (by rw [hprod]; exact fun h => hc (hfit.1 h))]; rfl
  have hpwf : (⟨y.elems, rest ++ [y.elems.length]⟩ : Arr β).WF := (hprod.trans (hfit.2 hc)).symm
  obtain ⟨r, hr1, hr2, hr3, hr4⟩ := moveBack_spec ⟨y.elems, rest ++ [y.elems.length]⟩ zb rest y.elems.length axis hpwf rfl hax
  have hrlen : r.elems.length = y.elems.length := by
    rw [hr3, hr2, (perm_prod (List.perm_insertIdx _ rest hax)), List.prod_cons, Nat.mul_comm]; exact hfit.2 hc
  have hre : r.elems = y.elems := by
    apply List.ext_getElem?
    intro j
    by_cases hj : j < y.elems.length
    swap
    · rw [List.getElem?_eq_none (by omega), List.getElem?_eq_none (by omega)]
    rcases hc with h1 | h0
    swap
    · omega
    -- the only position of `rest` is the all-zero one, at flat position 0
    have hin := inRange_replicate_zero _ hrest
    have hz : ravel rest (List.replicate rest.length 0) = 0 := by have := ravel_lt _ _ hin; omega
    have h4 := hr4 _ j hin hj
    rwa [Arr.get?, Arr.get?, hr2, ravel_insertIdx_unit _ _ axis _ j hin h1 hax,
      ravel_append_singleton _ _ _ _ (by rw [List.length_replicate]), hz, Nat.zero_mul, Nat.zero_add] at h4
  rw [if_pos hc, Arr.new_of_prod hpwf.symm, Res.bind_ok, hr1, ← hr2, ← hre]

/-- only the processed axis has length 0: the single lane is the empty one -/
theorem applyAlongAxis_empty_lane (a : Arr α) (zero : α) (zb : β) (axis : Nat) (f : Arr α → Res (Arr β))
    (hwf : a.WF) (hax : axis < a.ndim) (hrest : 0 ∉ a.shape.eraseIdx axis) (hn : a.shape.getD axis 0 = 0) :
    a.applyAlongAxis zero zb axis f = Res.mapM' f [Arr.flat []] >>= alongAssemble zb (a.shape.eraseIdx axis) axis := by
  obtain ⟨arr, ha2, ha3, _, h⟩ := applyAlongAxis_eq a zero zb axis hwf hax
  have hae : arr.elems = [] := List.eq_nil_of_length_eq_zero (by rw [ha3, ha2, hn, List.prod_append]; rfl)
  rw [h, hae, split_none_eq (Arr.flat []) zero _ Nat.one_pos (Nat.pos_iff_ne_zero.1 (prod_pos_of_not_mem _ hrest))]
  rfl

/-- **only the processed axis has length 0**: `f` is applied once, to the empty lane; its answer `y` is kept when it
fits the shape `rest ++ [y.len]` (all other axes of length 1, or `y` empty) and moved back along the axis -/
theorem applyAlongAxis_axis_zero (a : Arr α) (zero : α) (zb : β) (axis : Nat) (f : Arr α → Res (Arr β))
    (hwf : a.WF) (hax : axis < a.ndim) (hrest : 0 ∉ a.shape.eraseIdx axis) (hn : a.shape.getD axis 0 = 0) :
    a.applyAlongAxis zero zb axis f = f (Arr.flat []) >>= fun y =>
      if (a.shape.eraseIdx axis).prod = 1 ∨ y.elems.length = 0 then .ok ⟨y.elems, a.shape.set axis y.elems.length⟩
      else .err .ShapeMustMatchValuesLength := by
  rw [applyAlongAxis_empty_lane a zero zb axis f hwf hax hrest hn]
  show (f (Arr.flat []) >>= fun y => Res.ok [y]) >>= _ = _
  rw [Res.bind_assoc]
  congr 1
  funext y
  rw [Res.bind_ok, alongAssemble_singleton zb _ axis y hrest
    (by rw [length_eraseIdx_ndim a axis hax]; exact Nat.le_sub_one_of_lt hax), insertIdx_eraseIdx_self _ _ _ hax]

/-! ### never a panic, on every well-formed array -/

theorem sequence_no_panic : ∀ (l : List (Res β)), (∀ x ∈ l, x ≠ .panic) →
    (∃ rs, Res.sequence l = .ok rs ∧ rs.length = l.length) ∨ (∃ e, Res.sequence l = .err e) := by
  intro l h
  cases hs : Res.sequence l with
  | ok rs => exact Or.inl ⟨rs, rfl, by rw [Res.sequence_eq_ok hs, List.length_map]⟩
  | err e => exact Or.inr ⟨e, rfl⟩
  | panic => exact absurd hs (Res.sequence_ne_panic h)

theorem mapM'_no_panic (f : α → Res β) (l : List α) (hf : ∀ x, f x ≠ .panic) :
    (∃ rs, Res.mapM' f l = .ok rs ∧ rs.length = l.length) ∨ (∃ e, Res.mapM' f l = .err e) := by
  have := sequence_no_panic (l.map f) (fun x hx => by obtain ⟨z, _, rfl⟩ := List.mem_map.1 hx; exact hf z)
  rwa [List.length_map] at this

/-- whatever the lane answers are, assembling them gives a well-formed array of rank `rest.length + 1`, or refuses -/
theorem alongAssemble_total (zb : β) (rest : List Nat) (axis : Nat) (outs : List (Arr β)) (hne : outs ≠ [])
    (hax : axis ≤ rest.length) :
    (∃ r, alongAssemble zb rest axis outs = .ok r ∧ r.WF ∧ r.ndim = rest.length + 1) ∨
    (∃ e, alongAssemble zb rest axis outs = .err e) := by
  obtain ⟨p0, t, rfl⟩ := List.exists_cons_of_ne_nil hne
  rw [alongAssemble_cons]
  by_cases hpr : (rest ++ [p0.len]).prod = ((p0 :: t).flatMap (·.elems)).length
  · obtain ⟨r, hr1, hr2, hr3, _⟩ := moveBack_spec ⟨(p0 :: t).flatMap (·.elems), rest ++ [p0.len]⟩ zb rest p0.len axis hpr.symm rfl hax
    rw [Arr.new_of_prod hpr]
    exact Or.inl ⟨r, hr1, hr3, by rw [Arr.ndim, hr2, List.length_insertIdx_of_le_length hax]⟩
  · rw [Arr.new_of_not_prod hpr]
    exact Or.inr ⟨_, rfl⟩

/-- **total statement**: on EVERY well-formed array (zero-length axes or not), for every axis and every lane function
that never panics (no assumption on the lengths it returns), `apply_along_axis` answers `Ok` with a well-formed array
of the same rank, or `Err` — it never panics -/
theorem applyAlongAxis_total (a : Arr α) (zero : α) (zb : β) (axis : Nat) (f : Arr α → Res (Arr β))
    (hwf : a.WF) (hf : ∀ x, f x ≠ .panic) :
    (∃ r, a.applyAlongAxis zero zb axis f = .ok r ∧ r.WF ∧ r.ndim = a.ndim) ∨
    (∃ e, a.applyAlongAxis zero zb axis f = .err e) := by
  by_cases hax : axis < a.ndim
  swap
  · exact Or.inr ⟨_, applyAlongAxis_axis_err a zero zb axis f (Nat.le_of_not_lt hax)⟩
  by_cases h0 : 0 ∈ a.shape.eraseIdx axis
  · exact Or.inr ⟨_, applyAlongAxis_other_zero a zero zb axis f hwf hax h0⟩
  -- a non-empty list of lanes: the consecutive chunks, or the empty lane alone
  obtain ⟨L, hL, h⟩ : ∃ L : List (Arr α), L ≠ [] ∧
      a.applyAlongAxis zero zb axis f = Res.mapM' f L >>= alongAssemble zb (a.shape.eraseIdx axis) axis := by
    by_cases hz : 0 ∈ a.shape
    · rcases zero_mem_cases a.shape axis hax hz with h0' | ⟨hrest, hn⟩
      · exact absurd h0' h0
      · exact ⟨_, List.cons_ne_nil _ _, applyAlongAxis_empty_lane a zero zb axis f hwf hax hrest hn⟩
    · obtain ⟨arr, _, _, _, h⟩ := applyAlongAxis_chunks a zero zb axis hwf hax hz
      refine ⟨_, fun hnil => ?_, h f⟩
      have := congrArg List.length hnil
      rw [List.length_map, List.length_range] at this
      exact absurd this (Nat.pos_iff_ne_zero.1 (prod_pos_of_not_mem _ h0))
  rw [h]
  rcases mapM'_no_panic f L hf with ⟨outs, ho1, ho2⟩ | ⟨e, ho1⟩
  · have := alongAssemble_total zb (a.shape.eraseIdx axis) axis outs
      (fun hnil => hL (List.eq_nil_of_length_eq_zero (by rw [← ho2, hnil]; rfl)))
      (by rw [length_eraseIdx_ndim a axis hax]; exact Nat.le_sub_one_of_lt hax)
    rwa [length_eraseIdx_ndim a axis hax, Nat.sub_add_cancel (Nat.one_le_of_lt hax), ← Res.bind_ok (f := alongAssemble _ _ _),
      ← ho1] at this
  · exact Or.inr ⟨e, by rw [ho1]; rfl⟩

theorem applyAlongAxis_never_panics (a : Arr α) (zero : α) (zb : β) (axis : Nat) (f : Arr α → Res (Arr β))
    (hwf : a.WF) (hf : ∀ x, f x ≠ .panic) : a.applyAlongAxis zero zb axis f ≠ .panic :=
  Res.ne_panic_of_total (applyAlongAxis_total a zero zb axis f hwf hf)

/-! ### the wrappers `reduceAxis` / `countAxis` / `scanAxis` on every well-formed array -/

/-- an answer kept along an empty axis (`rest.prod = 1` or `y` empty), then reshaped to `rest`: fits exactly a one-element
answer with all other axes of length 1 -/
theorem fit_bind_new (y : Arr β) (rest sh : List Nat) (hP : 0 < rest.prod) (tail : Arr β → Res (Arr β))
    (htail : tail ⟨y.elems, sh⟩ = Arr.new y.elems rest) :
    ((if rest.prod = 1 ∨ y.elems.length = 0 then Res.ok ⟨y.elems, sh⟩ else .err .ShapeMustMatchValuesLength) >>= tail) =
      if rest.prod = 1 ∧ y.elems.length = 1 then .ok ⟨y.elems, rest⟩ else .err .ShapeMustMatchValuesLength := by
  by_cases h1 : rest.prod = 1 ∧ y.elems.length = 1
  · rw [if_pos (Or.inl h1.1), if_pos h1, Res.bind_ok, htail, Arr.new_of_prod (h1.1.trans h1.2.symm)]
  · rw [if_neg h1]
    by_cases hc : rest.prod = 1 ∨ y.elems.length = 0
    · rw [if_pos hc, Res.bind_ok, htail, Arr.new_of_not_prod (by omega)]
    · rw [if_neg hc]; rfl

/-- what an `Ok` answer of `apply_along_axis` tells: the axis was inside the rank, the result is well formed, of the same rank -/
theorem applyAlongAxis_ok (a : Arr α) (zero : α) (zb : β) (axis : Nat) (f : Arr α → Res (Arr β)) (hwf : a.WF)
    (hf : ∀ x, f x ≠ .panic) (r : Arr β) (h : a.applyAlongAxis zero zb axis f = .ok r) :
    axis < a.ndim ∧ r.WF ∧ r.ndim = a.ndim := by
  refine ⟨Nat.lt_of_not_le fun hge => ?_, ?_⟩
  · rw [applyAlongAxis_axis_err a zero zb axis f hge] at h; cases h
  · rcases applyAlongAxis_total a zero zb axis f hwf hf with ⟨r', h', hw, hn⟩ | ⟨e, h'⟩
    · rw [h] at h'; cases h'; exact ⟨hw, hn⟩
    · rw [h] at h'; cases h'

end ArrModel
