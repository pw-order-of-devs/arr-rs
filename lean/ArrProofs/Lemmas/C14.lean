import ArrModel.C14
import ArrProofs.Lemmas.Index
import ArrProofs.Lemmas.Res
import Mathlib.Algebra.BigOperators.Group.Finset.Basic
/-!
helper lemmas for C14.  The products are read in three steps: a dispatch lemma says which arm a pair of shapes takes
(`matmul_of_22`, `matmul_vec_nd`, `dot_of_1d`, `inner_nd_of_shapes` …), an arm lemma gives the result as an explicit array
built from `List.range` loops (`mm22`, `vm12`, `mv21`, `ms33`, `inn`), and a read-back lemma gives its entries as
`Finset` sums of `Arr.ent` (the specification read, defined here).  All row / matrix / chunk cuts of a flat buffer are
`piece`.  The last section shows that every `ok` exit of the products builds a well-formed array.
-/

namespace ArrModel

/-- entry of an integer array at a coordinate vector, `0` outside (specification language; on a well-formed
array and an in-range coordinate vector the read is `some`, see `C14.get?_eq_some_ent`) -/
def Arr.ent (a : Arr Int) (c : List Nat) : Int := (a.get? c).getD 0

namespace C14
open Finset

/-! ### `Res` plumbing -/

theorem sequence_map_ok {α} (l : List α) : Res.sequence (l.map Res.ok) = .ok l := Res.sequence_map_ok l

theorem collectRes_of_no_panic {α} {l : List (Res α)} (h : ∀ x ∈ l, x.isPanic = false) : collectRes l = Res.sequence l := by
  rw [collectRes, List.any_eq_false.2 fun x hx => by rw [h x hx]; exact Bool.false_ne_true, if_neg Bool.false_ne_true]

theorem collectRes_map_ok {α} (l : List α) : collectRes (l.map Res.ok) = .ok l :=
  (collectRes_of_no_panic fun y hy => by obtain ⟨x, _, rfl⟩ := List.mem_map.1 hy; rfl).trans (Res.sequence_map_ok l)

theorem collectRes_map {ι α} (l : List ι) (f : ι → Res α) (g : ι → α) (h : ∀ x ∈ l, f x = .ok (g x)) :
    collectRes (l.map f) = .ok (l.map g) := by
  rw [List.map_congr_left h]
  exact (congrArg collectRes (List.map_map (f := g) (g := Res.ok)).symm).trans (collectRes_map_ok _)

theorem collectRes_flatMap {ι κ α} (l1 : List ι) (l2 : List κ) (f : ι → κ → Res α) (g : ι → κ → α)
    (h : ∀ i ∈ l1, ∀ j ∈ l2, f i j = .ok (g i j)) :
    collectRes (l1.flatMap (fun i => l2.map (f i))) = .ok (l1.flatMap (fun i => l2.map (g i))) := by
  have : l1.flatMap (fun i => l2.map (f i)) = (l1.flatMap (fun i => l2.map (g i))).map Res.ok := by
    rw [List.map_flatMap]
    exact List.flatMap_congr fun i hi => (List.map_congr_left (h i hi)).trans List.map_map.symm
  rw [this, collectRes_map_ok]

theorem collectRes_all_err {ι α} (l : List ι) (f : ι → Res α) (e : Err) (hne : l ≠ []) (h : ∀ x ∈ l, f x = .err e) :
    collectRes (l.map f) = .err e := by
  rw [collectRes_of_no_panic fun y hy => by obtain ⟨x, hx, rfl⟩ := List.mem_map.1 hy; rw [h x hx]; rfl]
  cases l with
  | nil => exact absurd rfl hne
  | cons x xs => rw [List.map_cons, h x List.mem_cons_self]; rfl

theorem collectRes_err {α} (l : List (Res α)) (hp : l.any Res.isPanic = false) (he : l.any Res.isErr = true) :
    ∃ e, collectRes l = .err e := by
  unfold collectRes
  rw [hp, if_neg Bool.false_ne_true]
  induction l with
  | nil => cases he
  | cons x xs ih =>
    cases x with
    | err e => exact ⟨e, rfl⟩
    | panic => cases hp
    | ok v =>
      obtain ⟨e, he'⟩ := ih hp he
      exact ⟨e, by rw [Res.sequence_cons, he']; rfl⟩

theorem foldRes_ok {β} (f : β → Nat → Res β) (g : β → Nat → β) (l : List Nat)
    (h : ∀ k ∈ l, ∀ acc, f acc k = .ok (g acc k)) (acc : β) :
    foldRes f l acc = .ok (l.foldl g acc) := by
  induction l generalizing acc with
  | nil => rfl
  | cons k ks ih =>
    rw [foldRes, h k List.mem_cons_self acc]
    exact ih (fun k' hk' => h k' (List.mem_cons_of_mem _ hk')) _

theorem shapesAlign_eq {s t : List Nat} {i j x y : Nat} (hs : s[i]? = some x) (ht : t[j]? = some y) :
    shapesAlign s i t j = if x = y then .ok () else .err .ParameterError := by
  unfold shapesAlign; rw [hs, ht]

theorem getElem?_last (s : List Nat) (k : Nat) : (s ++ [k])[(s ++ [k]).length - 1]? = some k := by
  rw [List.length_append, List.length_singleton, Nat.add_sub_cancel, List.getElem?_concat_length]

theorem removeAt_last (s : List Nat) (k : Nat) : removeAt (s ++ [k]) ((s ++ [k]).length - 1) = .ok s := by
  rw [List.length_append, List.length_singleton, Nat.add_sub_cancel, removeAt, List.length_append, List.length_singleton,
    if_pos (Nat.lt_succ_self _), List.eraseIdx_append_of_length_le (Nat.le_refl _), Nat.sub_self]
  exact congrArg Res.ok (List.append_nil s)

theorem reshape_of_length {e : List Int} {s : List Nat} (h : s.prod = e.length) : reshape e s = .ok ⟨e, s⟩ := if_pos h

/-! ### folds are sums -/

theorem foldl_add_eq_sum (f : Nat → Int) (m : Nat) :
    (List.range m).foldl (fun acc k => acc + f k) 0 = ∑ k ∈ range m, f k := by
  induction m with
  | zero => rfl
  | succ m ih => rw [List.range_succ, List.foldl_append, ih, Finset.sum_range_succ]; rfl

theorem foldl_add_left_eq_sum (f : Nat → Int) (m : Nat) :
    (List.range m).foldl (fun acc k => f k + acc) 0 = ∑ k ∈ range m, f k :=
  (congrArg (fun g => (List.range m).foldl g 0) (funext fun acc => funext fun k => add_comm (f k) acc)).trans
    (foldl_add_eq_sum f m)

theorem foldl_zipWith_eq_sum (xs ys : List Int) (acc : Int) :
    (List.zipWith (· * ·) xs ys).foldl (· + ·) acc
      = acc + ∑ i ∈ range (min xs.length ys.length), xs.getD i 0 * ys.getD i 0 := by
  induction xs generalizing ys acc with
  | nil =>
    rw [List.zipWith_nil_left, List.foldl_nil, List.length_nil, Nat.zero_min, Finset.range_zero, Finset.sum_empty, add_zero]
  | cons x xs ih =>
    cases ys with
    | nil =>
      rw [List.zipWith_nil_right, List.foldl_nil, List.length_nil, Nat.min_zero, Finset.range_zero, Finset.sum_empty, add_zero]
    | cons y ys =>
      rw [List.zipWith_cons_cons, List.foldl_cons, ih, List.length_cons, List.length_cons, Nat.add_min_add_right,
        Finset.sum_range_succ', List.getD_cons_zero, List.getD_cons_zero, add_assoc, add_comm (x * y)]
      simp only [List.getD_cons_succ]

/-- the Rust fold over the zipped products of two vectors of length `k` is the sum over the shared index -/
theorem sumProd_eq_sum {xs ys : List Int} {k : Nat} (hx : xs.length = k) (hy : ys.length = k) :
    sumProd xs ys = ∑ i ∈ range k, xs.getD i 0 * ys.getD i 0 := by
  unfold sumProd
  rw [foldl_zipWith_eq_sum, hx, hy, Nat.min_self, zero_add]

/-! ### indexing into a concatenation of equally long blocks -/

/-- cell `(i, j)` of a row-major double loop -/
theorem getElem?_flatMap_range {α} (n p : Nat) (f : Nat → Nat → α) (i j : Nat) (hi : i < n) (hj : j < p) :
    ((List.range n).flatMap (fun i => (List.range p).map (f i)))[i * p + j]? = some (f i j) := by
  rw [getElem?_flatMap_uniform _ p (List.range n) i j (by rwa [List.length_range]) (fun x _ => by rw [List.length_map, List.length_range]) hj, List.getElem_range, List.getElem?_map, List.getElem?_range hj]
  rfl

theorem length_flatMap_range {α} (n p : Nat) (f : Nat → Nat → α) :
    ((List.range n).flatMap (fun i => (List.range p).map (f i))).length = n * p := by
  rw [length_flatMap_uniform _ p (List.range n) (fun x _ => by rw [List.length_map, List.length_range]), List.length_range]

/-! ### pieces of a flat buffer -/

/-- block `t` of length `k` of a row-major buffer (`skip(t*k).take(k)`): a row of a matrix, a matrix of a stack, a
chunk of an equal split -/
def piece (xs : List Int) (k t : Nat) : List Int := (xs.drop (t * k)).take k

theorem pieces_eq_map (k : Nat) (xs : List Int) (cnt : Nat) : pieces k xs cnt = (List.range cnt).map (piece xs k) := rfl

theorem length_pieces (k : Nat) (xs : List Int) (cnt : Nat) : (pieces k xs cnt).length = cnt := by
  rw [pieces, List.length_map, List.length_range]

theorem getElem_pieces (k : Nat) (xs : List Int) (cnt t : Nat) (ht : t < cnt) :
    (pieces k xs cnt)[t]'(by simpa [pieces] using ht) = (xs.drop (t * k)).take k := by
  simp only [pieces, List.getElem_map, List.getElem_range]

theorem getD_pieces (k : Nat) (xs : List Int) (cnt t : Nat) (ht : t < cnt) :
    (pieces k xs cnt).getD t [] = piece xs k t := by
  rw [pieces_eq_map, List.getD_eq_getElem?_getD, List.getElem?_map, List.getElem?_range ht]; rfl

/-- block `t` is whole as soon as the buffer holds `s > t` blocks -/
theorem length_piece {xs : List Int} {k s t : Nat} (hl : s * k ≤ xs.length) (ht : t < s) : (piece xs k t).length = k := by
  have h : t * k + k ≤ xs.length := (Nat.succ_mul t k ▸ Nat.mul_le_mul_right k ht).trans hl
  rw [piece, List.length_take, List.length_drop]
  exact Nat.min_eq_left (Nat.le_sub_of_add_le' h)

theorem getD_piece (xs : List Int) {k q : Nat} (t : Nat) (hq : q < k) :
    (piece xs k t).getD q 0 = xs.getD (t * k + q) 0 := by
  rw [piece, List.getD_eq_getElem?_getD, List.getD_eq_getElem?_getD, List.getElem?_take_of_lt hq, List.getElem?_drop]

/-- the contracted sum of two pieces, read off the two buffers -/
theorem sumProd_pieces {xs ys : List Int} {k s s' t t' : Nat} (hx : s * k ≤ xs.length) (ht : t < s)
    (hy : s' * k ≤ ys.length) (ht' : t' < s') :
    sumProd (piece xs k t) (piece ys k t') = ∑ q ∈ range k, xs.getD (t * k + q) 0 * ys.getD (t' * k + q) 0 := by
  rw [sumProd_eq_sum (length_piece hx ht) (length_piece hy ht')]
  exact Finset.sum_congr rfl fun q hq => by rw [getD_piece _ t (Finset.mem_range.1 hq), getD_piece _ t' (Finset.mem_range.1 hq)]

/-! ### coordinates -/

theorem ravel_vec (k i : Nat) : ravel [k] [i] = i := by simp [ravel]

theorem ravel_3 (s n m t i k : Nat) : ravel [s, n, m] [t, i, k] = t * (n * m) + (i * m + k) := by simp [ravel]

theorem inRange_vec {k i : Nat} (hi : i < k) : inRange [k] [i] = true := by simp [inRange, hi]

theorem get?_eq_some_ent (a : Arr Int) (hwf : a.WF) (c : List Nat) (h : inRange a.shape c = true) :
    a.get? c = some (a.ent c) := by
  have hlt : ravel a.shape c < a.elems.length := by rw [hwf]; exact ravel_lt _ _ h
  unfold Arr.ent Arr.get?
  rw [List.getElem?_eq_getElem hlt]; rfl

theorem ent_eq_getD (a : Arr Int) (c : List Nat) : a.ent c = a.elems.getD (ravel a.shape c) 0 := by
  unfold Arr.ent Arr.get?; rw [List.getD_eq_getElem?_getD]

/-! `ent` on the literal shapes of the statements, as reads of the flat buffer -/

theorem ent_vec {a : A} {k : Nat} (hs : a.shape = [k]) (i : Nat) : a.ent [i] = a.elems.getD i 0 := by
  rw [ent_eq_getD, hs, ravel_vec]

theorem ent_mat {a : A} {n m : Nat} (hs : a.shape = [n, m]) (i k : Nat) : a.ent [i, k] = a.elems.getD (i * m + k) 0 := by
  rw [ent_eq_getD, hs, ravel_mat]

theorem ent_3 {a : A} {s n m : Nat} (hs : a.shape = [s, n, m]) (t i k : Nat) :
    a.ent [t, i, k] = a.elems.getD (t * (n * m) + (i * m + k)) 0 := by
  rw [ent_eq_getD, hs, ravel_3]

theorem ent_append_last {a : A} {sa : List Nat} {k : Nat} (hs : a.shape = sa ++ [k]) {ca : List Nat}
    (hc : sa.length = ca.length) (q : Nat) : a.ent (ca ++ [q]) = a.elems.getD (ravel sa ca * k + q) 0 := by
  rw [ent_eq_getD, hs, ravel_append_append sa ca [k] [q] hc, ravel_vec, List.prod_singleton]

theorem get?_flat (l : List Int) (j : Nat) : (Arr.flat l).get? [j] = l[j]? := by
  rw [Arr.get?, Arr.flat, ravel_vec]

theorem get?_flat_map_range {n i : Nat} (f : Nat → Int) (hi : i < n) :
    (Arr.flat ((List.range n).map f)).get? [i] = some (f i) := by
  rw [get?_flat, List.getElem?_map, List.getElem?_range hi]; rfl

theorem flat_map_range_shape (n : Nat) (f : Nat → Int) : (Arr.flat ((List.range n).map f)).shape = [n] := by
  rw [Arr.flat, List.length_map, List.length_range]

theorem get?_flatMap_range {n p i j : Nat} (f : Nat → Nat → Int) (hi : i < n) (hj : j < p) :
    (⟨(List.range n).flatMap (fun i => (List.range p).map (f i)), [n, p]⟩ : A).get? [i, j] = some (f i j) := by
  rw [Arr.get?, ravel_mat]; exact getElem?_flatMap_range n p f i j hi hj

/-! ### element counts of well-formed arrays -/

theorem wf_len1 {a : A} {k : Nat} (hwf : a.WF) (hs : a.shape = [k]) : a.elems.length = k := by
  rw [hwf, hs, List.prod_singleton]

theorem wf_len2 {a : A} {n m : Nat} (hwf : a.WF) (hs : a.shape = [n, m]) : a.elems.length = n * m := by
  rw [hwf, hs]; simp

theorem wf_len3 {a : A} {s n m : Nat} (hwf : a.WF) (hs : a.shape = [s, n, m]) : a.elems.length = s * (n * m) := by
  rw [hwf, hs]; simp

theorem wf_len_concat {a : A} {sa : List Nat} {k : Nat} (hwf : a.WF) (hs : a.shape = sa ++ [k]) :
    a.elems.length = sa.prod * k := by
  rw [hwf, hs]; simp

theorem wf_len_stack {a : A} {s0 s1 : Nat} {rest : List Nat} (hwf : a.WF) (hs : a.shape = s0 :: s1 :: rest) :
    a.elems.length = s0 * (s1 * rest.prod) := by
  rw [hwf, hs]; simp

theorem ndim_of_shape {a : A} {s : List Nat} (hs : a.shape = s) : a.ndim = s.length := congrArg List.length hs

/-! ### dispatch of `matmul` -/

theorem matmul_of_vecs {a b : A} (ha : a.ndim = 1) (hb : b.ndim = 1) : matmul a b = vdot a b := by
  rw [matmul, if_pos ⟨ha, hb⟩]

theorem matmul_of_22 {a b : A} (ha : a.ndim = 2) (hb : b.ndim = 2) : matmul a b = matmul22 a b := by
  rw [matmul, if_neg (by omega), if_neg (by omega), if_pos ⟨ha, hb⟩]

theorem matmul_of_nd {a b : A} (ha : 2 ≤ a.ndim) (hb : 2 ≤ b.ndim) (h3 : 3 ≤ a.ndim ∨ 3 ≤ b.ndim) :
    matmul a b = matmulNd a b := by
  rw [matmul, if_neg (by omega), if_neg (by omega), if_neg (by omega)]

theorem matmul_of_stacks {a b : A} {s n m s' m' p : Nat} (hsa : a.shape = [s, n, m]) (hsb : b.shape = [s', m', p]) :
    matmul a b = matmulNd a b := by
  have hnda : a.ndim = 3 := ndim_of_shape hsa
  have hndb : b.ndim = 3 := ndim_of_shape hsb
  exact matmul_of_nd (by omega) (by omega) (by omega)

/-- vector · N-D (N ≥ 2): the vector length is compared with the second-to-last axis, then `matmul_1d_nd` -/
theorem matmul_vec_nd {a b : A} {k k' : Nat} (hsa : a.shape = [k]) (hb : 2 ≤ b.ndim)
    (hk' : b.shape[b.ndim - 2]? = some k') :
    matmul a b = if k = k' then matmul1dNd (b.ndim + 1) a b else .err .ParameterError := by
  have ha : a.ndim = 1 := ndim_of_shape hsa
  rw [matmul, if_neg (by omega), if_pos (Or.inl ha), if_pos ha, ha, Nat.add_comm,
    shapesAlign_eq (x := k) (by rw [hsa]; rfl) hk']
  split <;> rfl

/-- N-D · vector (N ≥ 2): the last axis is compared with the vector length, then `matmul_1d_nd` -/
theorem matmul_nd_vec {a b : A} {k k' : Nat} (hsb : b.shape = [k']) (ha : 2 ≤ a.ndim)
    (hk : a.shape[a.ndim - 1]? = some k) :
    matmul a b = if k = k' then matmul1dNd (a.ndim + 1) a b else .err .ParameterError := by
  have hb : b.ndim = 1 := ndim_of_shape hsb
  rw [matmul, if_neg (by omega), if_pos (Or.inr hb), if_neg (by omega), hb,
    shapesAlign_eq (y := k') hk (by rw [hsb]; rfl)]
  split <;> rfl

theorem matmul22_of_shapes {a b : A} {n m m' p : Nat} (hsa : a.shape = [n, m]) (hsb : b.shape = [m', p]) :
    matmul22 a b = if m = m' then matmulIterate a b else .err .ParameterError := by
  rw [matmul22, shapesAlign_eq (x := m) (y := m') (by rw [hsa]; rfl) (by rw [hsb]; rfl)]
  split <;> rfl

/-! ### matrix · matrix -/

/-- value of one cell of the matrix product, total form -/
def cellSpec (a b : A) (m p i j : Nat) : Int :=
  ∑ k ∈ range m, a.elems.getD (i * m + k) 0 * b.elems.getD (k * p + j) 0

theorem cell_ok (a b : A) (m p i j : Nat) (ha : ∀ k < m, i * m + k < a.elems.length)
    (hb : ∀ k < m, k * p + j < b.elems.length) : cell a b m p i j = .ok (cellSpec a b m p i j) := by
  unfold cell cellSpec
  rw [foldRes_ok _ (fun acc k => a.elems.getD (i * m + k) 0 * b.elems.getD (k * p + j) 0 + acc), foldl_add_left_eq_sum]
  intro k hk acc
  have hk' : k < m := List.mem_range.1 hk
  rw [Res.idx_eq_getD 0 (ha k hk'), Res.idx_eq_getD 0 (hb k hk')]; rfl

/-- the product matrix, explicitly -/
def mm22 (a b : A) (n m p : Nat) : A :=
  ⟨(List.range n).flatMap (fun i => (List.range p).map (fun j => cellSpec a b m p i j)), [n, p]⟩

theorem length_mm22 (a b : A) (n m p : Nat) : (mm22 a b n m p).elems.length = n * p := length_flatMap_range n p _

theorem mm22_wf (a b : A) (n m p : Nat) : (mm22 a b n m p).WF := by
  rw [Arr.WF, length_mm22]; simp [mm22]

theorem matmulIterate_eq (a b : A) (n m p : Nat) (ha : a.WF) (hb : b.WF)
    (hsa : a.shape = [n, m]) (hsb : b.shape = [m, p]) : matmulIterate a b = .ok (mm22 a b n m p) := by
  have hla := wf_len2 ha hsa
  have hlb := wf_len2 hb hsb
  unfold matmulIterate
  simp only [hsa, hsb, Res.idx, List.getElem?_cons_zero, List.getElem?_cons_succ, Res.bind_ok]
  rw [collectRes_flatMap _ _ _ (fun i j => cellSpec a b m p i j), Res.bind_ok]
  · exact reshape_of_length (by rw [length_flatMap_range]; simp)
  · intro i hi j hj
    have hi' : i < n := List.mem_range.1 hi
    have hj' : j < p := List.mem_range.1 hj
    exact cell_ok a b m p i j (fun k hk => hla ▸ mul_add_lt hi' hk) (fun k hk => hlb ▸ mul_add_lt hk hj')

theorem matmul22_eq (a b : A) (n m p : Nat) (ha : a.WF) (hb : b.WF)
    (hsa : a.shape = [n, m]) (hsb : b.shape = [m, p]) : matmul22 a b = .ok (mm22 a b n m p) := by
  rw [matmul22_of_shapes hsa hsb, if_pos rfl, matmulIterate_eq a b n m p ha hb hsa hsb]

theorem cellSpec_eq_ent (a b : A) (n m p i j : Nat) (hsa : a.shape = [n, m]) (hsb : b.shape = [m, p]) :
    cellSpec a b m p i j = ∑ k ∈ range m, a.ent [i, k] * b.ent [k, j] :=
  Finset.sum_congr rfl fun k _ => by rw [ent_mat hsa, ent_mat hsb]

/-! ### vector · matrix, matrix · vector -/

theorem vecMatCell_ok (a b : A) (n p j : Nat) (ha : n ≤ a.elems.length)
    (hb : ∀ i < n, i * p + j < b.elems.length) :
    vecMatCell a b n p j = .ok (∑ i ∈ range n, a.elems.getD i 0 * b.elems.getD (i * p + j) 0) := by
  unfold vecMatCell
  rw [foldRes_ok _ (fun acc i => acc + a.elems.getD i 0 * b.elems.getD (i * p + j) 0), foldl_add_eq_sum]
  intro i hi acc
  have hi' : i < n := List.mem_range.1 hi
  rw [Res.idx_eq_getD 0 (by omega : i < a.elems.length), Res.idx_eq_getD 0 (hb i hi')]; rfl

theorem matVecCell_ok (row : List Int) (b : A) (k : Nat) (hr : k ≤ row.length) (hb : k ≤ b.elems.length) :
    matVecCell row b k = .ok (∑ q ∈ range k, row.getD q 0 * b.elems.getD q 0) := by
  unfold matVecCell
  rw [foldRes_ok _ (fun acc q => acc + row.getD q 0 * b.elems.getD q 0), foldl_add_eq_sum]
  intro q hq acc
  have hq' : q < k := List.mem_range.1 hq
  rw [Res.idx_eq_getD 0 (by omega : q < row.length), Res.idx_eq_getD 0 (by omega : q < b.elems.length)]; rfl

/-- the first read of an empty row panics -/
theorem matVecCell_nil_panic (b : A) {k : Nat} (hk : 0 < k) : matVecCell [] b k = .panic := by
  obtain ⟨k', rfl⟩ : ∃ k', k = k' + 1 := ⟨k - 1, by omega⟩
  rw [matVecCell, List.range_succ_eq_map]; rfl

/-- vector · matrix, explicitly -/
def vm12 (a b : A) (k p : Nat) : A :=
  Arr.flat ((List.range p).map (fun j => ∑ i ∈ range k, a.elems.getD i 0 * b.elems.getD (i * p + j) 0))

theorem length_vm12 (a b : A) (k p : Nat) : (vm12 a b k p).elems.length = p := by
  rw [vm12, Arr.flat, List.length_map, List.length_range]

theorem matmul1dNd_vecmat (fuel : Nat) (a b : A) (k p : Nat) (ha : a.WF) (hb : b.WF)
    (hsa : a.shape = [k]) (hsb : b.shape = [k, p]) : matmul1dNd (fuel + 1) a b = .ok (vm12 a b k p) := by
  have hla := wf_len1 ha hsa
  have hlb := wf_len2 hb hsb
  have hnda : a.ndim = 1 := ndim_of_shape hsa
  have hndb : b.ndim = 2 := ndim_of_shape hsb
  rw [matmul1dNd, if_pos hnda, if_neg (by omega)]
  simp only [hsb, Res.idx, List.getElem?_cons_zero, List.getElem?_cons_succ, Res.bind_ok]
  rw [collectRes_map _ _ (fun j => ∑ i ∈ range k, a.elems.getD i 0 * b.elems.getD (i * p + j) 0)]
  · rfl
  · intro j hj
    exact vecMatCell_ok a b k p j hla.ge fun i hi => hlb ▸ mul_add_lt hi (List.mem_range.1 hj)

theorem vm12_get (a b : A) (k p j : Nat) (hj : j < p) (hsa : a.shape = [k]) (hsb : b.shape = [k, p]) :
    (vm12 a b k p).get? [j] = some (∑ i ∈ range k, a.ent [i] * b.ent [i, j]) := by
  rw [vm12, get?_flat_map_range _ hj]
  exact congrArg some (Finset.sum_congr rfl fun i _ => by rw [ent_vec hsa, ent_mat hsb])

/-- `split_axis(0)` of an empty array is the array itself, one (empty) piece -/
theorem splitAxis0_empty {x : A} (h : x.elems.length = 0) : splitAxis0 x = .ok [x.elems] := if_pos h

/-- `split_axis(0)` of `s` blocks of `L` elements -/
theorem splitAxis0_stack (x : A) (s L : Nat) (hl : x.elems.length = s * L) (hs : 0 < s) (hL : 0 < L)
    (hsh : x.shape[0]? = some s) :
    splitAxis0 x = .ok ((List.range s).map (piece x.elems L)) := by
  have hpos : 0 < s * L := Nat.mul_pos hs hL
  unfold splitAxis0
  rw [if_neg (by rw [Arr.len, hl]; omega), Res.idx, hsh]
  simp only [Res.bind_ok]
  rw [if_neg (by omega), Arr.len, hl, Nat.mul_div_cancel_left L hs]
  rfl

/-- the matrix · vector arm of `matmul_1d_nd`: one `matVecCell` per piece of `split_axis(0)` -/
theorem matmul1dNd_mat_vec_arm (fuel : Nat) {a b : A} {n k : Nat} (hsa : a.shape = [n, k]) :
    matmul1dNd (fuel + 1) a b = splitAxis0 a >>= fun rows =>
      collectRes (rows.map (fun row => matVecCell row b k)) >>= fun cells => .ok (Arr.flat cells) := by
  have hnd : a.ndim = 2 := ndim_of_shape hsa
  rw [matmul1dNd, if_neg (by omega), if_neg (by omega), hnd, hsa]
  rfl

/-- matrix · vector, explicitly -/
def mv21 (a b : A) (n k : Nat) : A :=
  Arr.flat ((List.range n).map (fun i => ∑ q ∈ range k, a.elems.getD (i * k + q) 0 * b.elems.getD q 0))

theorem length_mv21 (a b : A) (n k : Nat) : (mv21 a b n k).elems.length = n := by
  rw [mv21, Arr.flat, List.length_map, List.length_range]

theorem matmul1dNd_matvec (fuel : Nat) (a b : A) (n k : Nat) (ha : a.WF) (hb : b.WF) (hn : 0 < n) (hk : 0 < k)
    (hsa : a.shape = [n, k]) (hsb : b.shape = [k]) : matmul1dNd (fuel + 1) a b = .ok (mv21 a b n k) := by
  have hla := wf_len2 ha hsa
  have hlb := wf_len1 hb hsb
  rw [matmul1dNd_mat_vec_arm fuel hsa, splitAxis0_stack a n k hla hn hk (by rw [hsa]; rfl), Res.bind_ok, List.map_map,
    collectRes_map _ _ (fun i => ∑ q ∈ range k, a.elems.getD (i * k + q) 0 * b.elems.getD q 0)]
  · rfl
  · intro i hi
    rw [Function.comp, matVecCell_ok _ b k (length_piece hla.ge (List.mem_range.1 hi)).ge hlb.ge]
    exact congrArg Res.ok (Finset.sum_congr rfl fun q hq => by rw [getD_piece _ i (List.mem_range.1 hq)])

theorem mv21_get (a b : A) (n k i : Nat) (hi : i < n) (hsa : a.shape = [n, k]) (hsb : b.shape = [k]) :
    (mv21 a b n k).get? [i] = some (∑ q ∈ range k, a.ent [i, q] * b.ent [q]) := by
  rw [mv21, get?_flat_map_range _ hi]
  exact congrArg some (Finset.sum_congr rfl fun q _ => by rw [ent_mat hsa, ent_vec hsb])

/-! ### stacks of matrices -/

/-- the `t`-th matrix of a stack: elements `t*L .. (t+1)*L` -/
def slab (x : A) (L t : Nat) : List Int := (x.elems.drop (t * L)).take L

theorem slab_eq_piece (x : A) (L t : Nat) : slab x L t = piece x.elems L t := rfl

/-- the matrices of a well-formed stack are well-formed -/
theorem piece_wf {x : A} {s u v t : Nat} (hx : x.WF) (hsx : x.shape = [s, u, v]) (ht : t < s) :
    (⟨piece x.elems (u * v) t, [u, v]⟩ : A).WF := by
  rw [Arr.WF, length_piece (wf_len3 hx hsx).ge ht]; simp

theorem matmulSplit_stack (x : A) (s u v : Nat) (hx : x.WF) (hs : 0 < s) (hu : 0 < u) (hv : 0 < v)
    (hsx : x.shape = [s, u, v]) :
    matmulSplit x s (u * v) = .ok ((List.range s).map (fun t => (⟨piece x.elems (u * v) t, [u, v]⟩ : A))) := by
  have hl := wf_len3 hx hsx
  have huv : 0 < u * v := Nat.mul_pos hu hv
  have hdiv : s * (u * v) / (u * v) = s := Nat.mul_div_cancel s huv
  have hdiv2 : s * (u * v) / s = u * v := Nat.mul_div_cancel_left _ hs
  unfold matmulSplit
  simp only [Arr.ndim, Arr.len, hsx, hl, hdiv, hdiv2, List.length_cons, List.length_nil, List.getElem?_cons_zero]
  rw [if_neg (by omega), if_neg (by omega)]
  simp only [Nat.mod_self, ne_eq, not_true_eq_false, if_false]
  apply collectRes_map
  intro t ht
  have ht' : t < s := List.mem_range.1 ht
  rw [Nat.mod_eq_of_lt ht', getD_pieces _ _ _ _ ht']
  exact if_pos (by rw [length_piece hl.ge ht']; simp)

/-- `matmul_nd` on equally long stacks (no zero-length axis): `matmul` of the `t`-th matrices, collected -/
theorem matmulNd_of_stacks (a b : A) (s n m m' p : Nat) (ha : a.WF) (hb : b.WF)
    (hs : 0 < s) (hn : 0 < n) (hm : 0 < m) (hm' : 0 < m') (hp : 0 < p)
    (hsa : a.shape = [s, n, m]) (hsb : b.shape = [s, m', p]) :
    matmulNd a b = collectRes ((List.range s).map (fun t =>
        matmul22 ⟨piece a.elems (n * m) t, [n, m]⟩ ⟨piece b.elems (m' * p) t, [m', p]⟩)) >>= fun rs =>
      reshape (rs.flatMap (·.elems)) [s, n, p] := by
  have hla := wf_len3 ha hsa
  have hlb := wf_len3 hb hsb
  have hnm : 0 < n * m := Nat.mul_pos hn hm
  have hmp : 0 < m' * p := Nat.mul_pos hm' hp
  unfold matmulNd
  -- the header on these shapes: result shape `[s, n, p]`, chunk lengths `n * m` and `m' * p`, `s` pairs
  simp only [Arr.ndim, Arr.len, hsa, hsb, hla, hlb, Res.idx, List.length_cons, List.length_nil, Nat.zero_add, Nat.reduceAdd,
    Nat.reduceSub, Nat.reduceLT, ge_iff_le, Nat.le_refl, if_true, if_false, List.getElem?_cons_succ, List.getElem?_cons_zero,
    Res.bind_ok, List.drop_succ_cons, List.drop_zero, List.set_cons_succ, List.set_cons_zero, List.prod_cons, List.prod_nil,
    Nat.mul_one]
  rw [if_neg (by omega)]
  simp only [Nat.mul_div_cancel s hnm, Nat.mul_div_cancel s hmp, Nat.max_self]
  rw [matmulSplit_stack a s n m ha hs hn hm hsa, matmulSplit_stack b s m' p hb hs hm' hp hsb, Res.bind_ok, Res.bind_ok,
    List.zip_map', List.map_map]
  rfl

/-- the stack product, explicitly: the concatenation of the per-matrix products -/
def ms33 (a b : A) (s n m p : Nat) : A :=
  ⟨(List.range s).flatMap (fun t =>
    (mm22 ⟨piece a.elems (n * m) t, [n, m]⟩ ⟨piece b.elems (m * p) t, [m, p]⟩ n m p).elems), [s, n, p]⟩

theorem ms33_wf (a b : A) (s n m p : Nat) : (ms33 a b s n m p).WF := by
  rw [Arr.WF, ms33, length_flatMap_uniform _ (n * p) _ (fun t _ => length_mm22 _ _ n m p)]; simp

theorem matmulNd_stack (a b : A) (s n m p : Nat) (ha : a.WF) (hb : b.WF)
    (hs : 0 < s) (hn : 0 < n) (hm : 0 < m) (hp : 0 < p)
    (hsa : a.shape = [s, n, m]) (hsb : b.shape = [s, m, p]) : matmulNd a b = .ok (ms33 a b s n m p) := by
  rw [matmulNd_of_stacks a b s n m m p ha hb hs hn hm hm hp hsa hsb,
    collectRes_map _ _ (fun t => mm22 ⟨piece a.elems (n * m) t, [n, m]⟩ ⟨piece b.elems (m * p) t, [m, p]⟩ n m p)
      fun t ht => matmul22_eq _ _ n m p (piece_wf ha hsa (List.mem_range.1 ht)) (piece_wf hb hsb (List.mem_range.1 ht)) rfl rfl,
    Res.bind_ok, List.flatMap_map]
  exact reshape_of_length (ms33_wf a b s n m p).symm

theorem ms33_get (a b : A) (s n m p t i j : Nat) (ht : t < s) (hi : i < n) (hj : j < p)
    (hsa : a.shape = [s, n, m]) (hsb : b.shape = [s, m, p]) :
    (ms33 a b s n m p).get? [t, i, j] = some (∑ k ∈ range m, a.ent [t, i, k] * b.ent [t, k, j]) := by
  rw [Arr.get?, ms33, ravel_3,
    getElem?_flatMap_uniform _ (n * p) (List.range s) t (i * p + j) (by rwa [List.length_range])
      (fun t _ => length_mm22 _ _ n m p) (mul_add_lt hi hj), List.getElem_range]
  refine (getElem?_flatMap_range n p _ i j hi hj).trans (congrArg some (Finset.sum_congr rfl fun k hk => ?_))
  have hk' : k < m := Finset.mem_range.1 hk
  rw [getD_piece _ t (mul_add_lt hi hk'), getD_piece _ t (mul_add_lt hk' hj), ent_3 hsa, ent_3 hsb]

/-- the `t`-th matrix of the stack product is the product of the `t`-th matrices -/
theorem piece_ms33 (a b : A) (s n m p t : Nat) (ht : t < s) :
    piece (ms33 a b s n m p).elems (n * p) t
      = (mm22 ⟨piece a.elems (n * m) t, [n, m]⟩ ⟨piece b.elems (m * p) t, [m, p]⟩ n m p).elems := by
  apply List.ext_getElem?
  intro q
  by_cases hq : q < n * p
  · rw [piece, List.getElem?_take_of_lt hq, List.getElem?_drop, ms33,
      getElem?_flatMap_uniform _ (n * p) (List.range s) t q (by rwa [List.length_range]) (fun t _ => length_mm22 _ _ n m p) hq,
      List.getElem_range]
  · rw [List.getElem?_eq_none (by rw [piece, List.length_take]; omega), List.getElem?_eq_none (by rw [length_mm22]; omega)]

/-! ### inner -/

theorem nil_of_ndim_one {a : A} {sa : List Nat} {k : Nat} (hs : a.shape = sa ++ [k]) (h : a.ndim = 1) : sa = [] := by
  rw [ndim_of_shape hs, List.length_append, List.length_singleton] at h
  exact List.length_eq_zero_iff.1 (by omega)

theorem inner11_of_shapes {a b : A} {k k' : Nat} (hsa : a.shape = [k]) (hsb : b.shape = [k']) :
    inner11 a b = if k = k' then
        (if a.len = 0 ∨ b.len = 0 then .err .BroadcastShapeMismatch else .ok ⟨[sumProd a.elems b.elems], [1]⟩)
      else .err .ParameterError := by
  rw [inner11, shapesAlign_eq (x := k) (y := k') (by rw [hsa]; rfl) (by rw [hsb]; rfl)]
  split <;> rfl

/-- operands that are not both vectors: the last axes are compared, then `inner_nd` -/
theorem inner_nd_of_shapes {a b : A} {sa sb : List Nat} {k k' : Nat} (hnd : ¬ (a.ndim = 1 ∧ b.ndim = 1))
    (hsa : a.shape = sa ++ [k]) (hsb : b.shape = sb ++ [k']) :
    inner a b = if k = k' then innerNd a b else .err .ParameterError := by
  rw [inner, if_neg hnd, Arr.ndim, Arr.ndim, hsa, hsb, shapesAlign_eq (getElem?_last sa k) (getElem?_last sb k')]
  split <;> rfl

theorem innerSplit_of_shape {a : A} {sa : List Nat} {k : Nat} (hs : a.shape = sa ++ [k]) :
    innerSplit a = if sa.prod = 0 then .err .ParameterError
      else if a.len = 0 then .ok [Arr.flat a.elems]
      else .ok ((pieces (a.len / sa.prod) a.elems sa.prod).map Arr.flat) := by
  rw [innerSplit, Arr.ndim, hs, removeAt_last]; rfl

theorem innerNd_of_shapes {a b : A} {sa sb : List Nat} {k k' : Nat} (hsa : a.shape = sa ++ [k]) (hsb : b.shape = sb ++ [k']) :
    innerNd a b = innerSplit a >>= fun v1 => innerSplit b >>= fun v2 =>
      collectRes (v1.flatMap (fun x => v2.map (fun y => inner11 x y))) >>= fun rs =>
      reshape (rs.flatMap (·.elems)) (sa ++ sb) := by
  rw [innerNd, Arr.ndim, Arr.ndim, hsa, hsb, removeAt_last, removeAt_last]; rfl

/-- the rows of the array seen as a `prod(outer shape) × k` matrix -/
theorem innerSplit_eq (a : A) (sa : List Nat) (k : Nat) (ha : a.WF) (hs : a.shape = sa ++ [k]) (hp : 0 < sa.prod)
    (hk : 0 < k) :
    innerSplit a = .ok ((List.range sa.prod).map (fun u => Arr.flat (piece a.elems k u))) := by
  have hl : a.len = sa.prod * k := wf_len_concat ha hs
  have hpos : 0 < sa.prod * k := Nat.mul_pos hp hk
  rw [innerSplit_of_shape hs, if_neg (by omega), if_neg (by omega), hl, Nat.mul_div_cancel_left k hp, pieces_eq_map,
    List.map_map]
  rfl

/-- `split` of an empty array is the array itself, one (empty) piece -/
theorem innerSplit_empty {a : A} {sa : List Nat} {k : Nat} (hs : a.shape = sa ++ [k]) (he : a.elems = []) :
    innerSplit a = if sa.prod = 0 then .err .ParameterError else .ok [Arr.flat []] := by
  rw [innerSplit_of_shape hs, Arr.len, he]; rfl

theorem inner11_rows (ra rb : List Int) (h : ra.length = rb.length) (h0 : rb.length ≠ 0) :
    inner11 (Arr.flat ra) (Arr.flat rb) = .ok ⟨[sumProd ra rb], [1]⟩ := by
  rw [inner11_of_shapes rfl rfl, if_pos h, if_neg]
  · rfl
  · intro hz
    rcases hz with hz | hz
    · exact h0 (h ▸ hz)
    · exact h0 hz

/-- the inner product, explicitly -/
def inn (a b : A) (sa sb : List Nat) (k : Nat) : A :=
  ⟨(List.range sa.prod).flatMap (fun u => (List.range sb.prod).map (fun v =>
    sumProd (piece a.elems k u) (piece b.elems k v))), sa ++ sb⟩

theorem inn_wf (a b : A) (sa sb : List Nat) (k : Nat) : (inn a b sa sb k).WF := by
  rw [Arr.WF, inn, length_flatMap_range, List.prod_append]

theorem innerNd_eq (a b : A) (sa sb : List Nat) (k : Nat) (ha : a.WF) (hb : b.WF)
    (hsa : a.shape = sa ++ [k]) (hsb : b.shape = sb ++ [k]) (hpa : 0 < sa.prod) (hpb : 0 < sb.prod) (hk : 0 < k) :
    innerNd a b = .ok (inn a b sa sb k) := by
  have hla := wf_len_concat ha hsa
  have hlb := wf_len_concat hb hsb
  rw [innerNd_of_shapes hsa hsb, innerSplit_eq a sa k ha hsa hpa hk, innerSplit_eq b sb k hb hsb hpb hk]
  simp only [Res.bind_ok, List.flatMap_map, List.map_map]
  rw [collectRes_flatMap _ _ _ (fun u v => (⟨[sumProd (piece a.elems k u) (piece b.elems k v)], [1]⟩ : A))]
  · simp only [Res.bind_ok, List.flatMap_assoc, List.flatMap_map, ← List.map_eq_flatMap]
    exact reshape_of_length (inn_wf a b sa sb k).symm
  · intro u hu v hv
    have hlv := length_piece hlb.ge (List.mem_range.1 hv)
    exact inner11_rows _ _ ((length_piece hla.ge (List.mem_range.1 hu)).trans hlv.symm) (by rw [hlv]; omega)

theorem inn_get (a b : A) (sa sb : List Nat) (k : Nat) (ha : a.WF) (hb : b.WF)
    (hsa : a.shape = sa ++ [k]) (hsb : b.shape = sb ++ [k]) (ca cb : List Nat)
    (hca : inRange sa ca = true) (hcb : inRange sb cb = true) :
    (inn a b sa sb k).get? (ca ++ cb) = some (∑ q ∈ range k, a.ent (ca ++ [q]) * b.ent (cb ++ [q])) := by
  have hu := ravel_lt sa ca hca
  have hv := ravel_lt sb cb hcb
  have hlca := (inRange_length sa ca hca).symm
  have hlcb := (inRange_length sb cb hcb).symm
  rw [Arr.get?, inn, ravel_append_append sa ca sb cb hlca, getElem?_flatMap_range _ _ _ _ _ hu hv,
    sumProd_pieces (wf_len_concat ha hsa).ge hu (wf_len_concat hb hsb).ge hv]
  exact congrArg some (Finset.sum_congr rfl fun q _ => by rw [ent_append_last hsa hlca, ent_append_last hsb hlcb])

/-! ### outer, vdot -/

theorem outer_eq (a b : A) :
    outer a b = .ok ⟨a.elems.flatMap (fun x => b.elems.map (fun y => x * y)), [a.len, b.len]⟩ :=
  reshape_of_length (by
    rw [length_flatMap_uniform _ b.elems.length _ (fun x _ => List.length_map _)]; simp [Arr.len])

theorem outer_get (a b : A) (i j : Nat) (hi : i < a.len) (hj : j < b.len) :
    (⟨a.elems.flatMap (fun x => b.elems.map (fun y => x * y)), [a.len, b.len]⟩ : A).get? [i, j]
      = some (a.elems.getD i 0 * b.elems.getD j 0) := by
  have hi' : i < a.elems.length := hi
  have hj' : j < b.elems.length := hj
  rw [Arr.get?, ravel_mat]
  show (a.elems.flatMap _)[i * b.elems.length + j]? = _
  rw [getElem?_flatMap_uniform _ b.elems.length a.elems i j hi (fun x _ => List.length_map _) hj]
  simp only [List.getD_eq_getElem?_getD, List.getElem?_eq_getElem hi', List.getElem?_eq_getElem hj',
    List.getElem?_map, Option.map_some, Option.getD_some]
  rfl

/-- `vdot` of operands of equal, non-zero length, whatever their shapes -/
theorem vdot_of_length {a b : A} {k : Nat} (ha : a.elems.length = k) (hb : b.elems.length = k) (hk : k ≠ 0) :
    vdot a b = .ok ⟨[sumProd a.elems b.elems], [1]⟩ := by
  have hab : a.len = b.len := ha.trans hb.symm
  have ha0 : a.len ≠ 0 := fun h => hk (ha.symm.trans h)
  rw [vdot, if_pos hab, if_neg ha0]

theorem vdot_of_length_ne {a b : A} (h : a.elems.length ≠ b.elems.length) : vdot a b = .err .MustBeEqual := if_neg h

theorem sumProd_vecs {a b : A} {k : Nat} (ha : a.WF) (hb : b.WF) (hsa : a.shape = [k]) (hsb : b.shape = [k]) :
    sumProd a.elems b.elems = ∑ i ∈ range k, a.ent [i] * b.ent [i] := by
  rw [sumProd_eq_sum (wf_len1 ha hsa) (wf_len1 hb hsb)]
  exact Finset.sum_congr rfl fun i _ => by rw [ent_vec hsa, ent_vec hsb]

/-! ### the scalar arm of `dot` -/

/-- a replicated left unit of `f` is a left unit of `zipWith f` -/
theorem zipWith_replicate_left {α} {f : α → α → α} {e : α} (hf : ∀ d, f e d = d) (t : List α) :
    List.zipWith f (List.replicate t.length e) t = t := by
  induction t with
  | nil => rfl
  | cons d ds ih => rw [List.length_cons, List.replicate_succ, List.zipWith_cons_cons, ih, hf]

/-- both operands of `broadcast_shape`, padded to the common rank `n`, when one of them is all ones -/
private theorem pad_ones (r n : Nat) (h : r ≤ n) :
    (List.replicate r 1).reverse ++ List.replicate (n - r) 1 = List.replicate n 1 := by
  rw [List.reverse_replicate, List.replicate_append_replicate, Nat.add_sub_cancel' h]

private theorem length_pad (t : List Nat) (n : Nat) (h : t.length ≤ n) :
    (t.reverse ++ List.replicate (n - t.length) 1).length = n := by
  rw [List.length_append, List.length_reverse, List.length_replicate, Nat.add_sub_cancel' h]

private theorem max_sub_right (r n : Nat) : max r n - n = r - n := by
  rcases Nat.le_total r n with h | h
  · rw [Nat.max_eq_right h, Nat.sub_self, Nat.sub_eq_zero_of_le h]
  · rw [Nat.max_eq_left h]

theorem bshape_ones_left' (r : Nat) (t : List Nat) :
    bshape (List.replicate r 1) t = List.replicate (r - t.length) 1 ++ t := by
  have hm := max_sub_right r t.length
  have h := zipWith_replicate_left (f := fun d1 d2 => if d1 = 1 then d2 else d1) (fun _ => if_pos rfl)
    (t.reverse ++ List.replicate (max r t.length - t.length) 1)
  rw [length_pad t _ (Nat.le_max_right ..)] at h
  simp only [bshape, List.length_replicate]
  rw [pad_ones r _ (Nat.le_max_left ..), h, List.reverse_append, List.reverse_replicate,
    List.reverse_reverse, hm]

theorem bshape_ones_right' (r : Nat) (t : List Nat) :
    bshape t (List.replicate r 1) = List.replicate (r - t.length) 1 ++ t := by
  have hm : max t.length r - t.length = r - t.length := Nat.max_comm r t.length ▸ max_sub_right r t.length
  -- `1` is also a right unit of the per-axis rule: swap the operands
  have h := zipWith_replicate_left (f := fun d2 d1 => if d1 = 1 then d2 else d1) (fun _ => ite_eq_right_iff.2 Eq.symm)
    (t.reverse ++ List.replicate (max t.length r - t.length) 1)
  rw [length_pad t _ (Nat.le_max_left ..)] at h
  simp only [bshape, List.length_replicate]
  rw [pad_ones r _ (Nat.le_max_right ..), List.zipWith_comm, h, List.reverse_append, List.reverse_replicate,
    List.reverse_reverse, hm]

theorem bshape_ones_left (r : Nat) (t : List Nat) (h : r ≤ t.length) : bshape (List.replicate r 1) t = t := by
  rw [bshape_ones_left', Nat.sub_eq_zero_of_le h]; rfl

theorem bshape_ones_right (r : Nat) (t : List Nat) (h : r ≤ t.length) : bshape t (List.replicate r 1) = t := by
  rw [bshape_ones_right', Nat.sub_eq_zero_of_le h]; rfl

theorem ones_of_prod_eq_one : ∀ (s : List Nat), s.prod = 1 → s = List.replicate s.length 1
  | [], _ => rfl
  | d :: ds, h => by
    rw [List.prod_cons] at h
    rw [List.length_cons, List.replicate_succ, ← ones_of_prod_eq_one ds (Nat.eq_one_of_mul_eq_one_left h),
      Nat.eq_one_of_mul_eq_one_right h]

/-- a well-formed array with one element has a shape of ones -/
theorem shape_of_len_one {a : A} (ha : a.WF) (h1 : a.len = 1) : a.shape = List.replicate a.ndim 1 :=
  ones_of_prod_eq_one a.shape (ha.symm.trans h1)

theorem multiplyScalar_left {a b : A} {x : Int} (hx : a.elems = [x]) (hb : b.elems ≠ []) :
    multiplyScalar a b = .ok ⟨b.elems.map (fun y => x * y), bshape a.shape b.shape⟩ := by
  unfold multiplyScalar
  rw [hx]
  rcases hB : b.elems with _ | ⟨y1, r⟩
  · exact absurd hB hb
  · rfl

theorem multiplyScalar_right {a b : A} {y : Int} (hy : b.elems = [y]) (ha : a.elems ≠ []) :
    multiplyScalar a b = .ok ⟨a.elems.map (fun x => x * y), bshape a.shape b.shape⟩ := by
  unfold multiplyScalar
  rw [hy]
  rcases hA : a.elems with _ | ⟨x1, _ | ⟨x2, r⟩⟩
  · exact absurd hA ha
  · rfl
  · rfl

/-- `broadcast` refuses an empty other operand -/
theorem multiplyScalar_empty {a b : A} {x : Int} (hx : a.elems = [x]) (hb : b.elems = []) :
    multiplyScalar a b = .err .BroadcastShapeMismatch ∧ multiplyScalar b a = .err .BroadcastShapeMismatch := by
  unfold multiplyScalar
  rw [hx, hb]
  exact ⟨rfl, rfl⟩

/-! ### dispatch of `dot` -/

theorem dot_of_scalar {a b : A} (h : a.len = 1 ∨ b.len = 1) : dot a b = some (multiplyScalar a b) := if_pos h

theorem dot_of_vecs {a b : A} (h1 : a.len ≠ 1) (h2 : b.len ≠ 1) (ha : a.ndim = 1) (hb : b.ndim = 1) :
    dot a b = some (vdot a b) := by
  rw [dot, if_neg (not_or.2 ⟨h1, h2⟩), if_pos ⟨ha, hb⟩]

/-- two matrices: the extra comparison `shape₁[0] = shape₂[1]` (required by the crate's tests), then `matmul` -/
theorem dot_of_22 {a b : A} (h1 : a.len ≠ 1) (h2 : b.len ≠ 1) (ha : a.ndim = 2) (hb : b.ndim = 2) :
    dot a b = some (shapesAlign a.shape 0 b.shape 1 >>= fun _ => matmul a b) := by
  rw [dot, if_neg (not_or.2 ⟨h1, h2⟩), if_neg (by omega), if_pos ⟨ha, hb⟩]

/-- a vector and a matrix, in either order -/
theorem dot_of_1d {a b : A} (h1 : a.len ≠ 1) (h2 : b.len ≠ 1)
    (h : (a.ndim = 1 ∧ b.ndim = 2) ∨ (a.ndim = 2 ∧ b.ndim = 1)) : dot a b = some (dot1d a b) := by
  rw [dot, if_neg (not_or.2 ⟨h1, h2⟩), if_neg (by omega), if_neg (by omega), if_pos (by omega), if_pos (by omega)]

/-! ### `dot_iterate` -/

/-- all pairs conform: the flattened dot products, row-major -/
theorem dotIterate_ok (v1 v2 : List A) (k : Nat) (hk : k ≠ 0) (h1 : ∀ x ∈ v1, x.elems.length = k)
    (h2 : ∀ y ∈ v2, y.elems.length = k) :
    dotIterate v1 v2 = .ok (Arr.flat (v1.flatMap (fun x => v2.map (fun y => sumProd x.elems y.elems)))) := by
  rw [dotIterate, collectRes_flatMap _ _ _ (fun x y => (⟨[sumProd x.elems y.elems], [1]⟩ : A))
    fun x hx y hy => vdot_of_length (h1 x hx) (h2 y hy) hk]
  simp only [Res.bind_ok, List.flatMap_assoc, List.flatMap_map, ← List.map_eq_flatMap]

/-- no pair conforms (and there is a pair): refused -/
theorem dotIterate_refused (v1 v2 : List A) (k k' : Nat) (hne : k ≠ k') (hv1 : 0 < v1.length) (hv2 : 0 < v2.length)
    (h1 : ∀ x ∈ v1, x.elems.length = k) (h2 : ∀ y ∈ v2, y.elems.length = k') :
    dotIterate v1 v2 = .err .MustBeEqual := by
  have hflat : v1.flatMap (fun x => v2.map (fun y => vdot x y)) = (v1.flatMap (fun x => v2.map (fun y => (x, y)))).map
      (fun xy => vdot xy.1 xy.2) := by
    rw [List.map_flatMap]; simp only [List.map_map]; rfl
  rw [dotIterate, hflat, collectRes_all_err _ _ .MustBeEqual]
  · rfl
  · obtain ⟨x, xs, rfl⟩ := List.exists_cons_of_length_pos hv1
    obtain ⟨y, ys, rfl⟩ := List.exists_cons_of_length_pos hv2
    exact fun h => nomatch h
  · intro xy hxy
    obtain ⟨x, hx, hxy⟩ := List.mem_flatMap.1 hxy
    obtain ⟨y, hy, rfl⟩ := List.mem_map.1 hxy
    exact vdot_of_length_ne (by rw [h1 x hx, h2 y hy]; exact hne)

/-! ### `dot_1d` on a matrix and a vector -/

theorem getRows_stack (a : A) (s0 s1 : Nat) (rest : List Nat) (hsa : a.shape = s0 :: s1 :: rest) :
    getRows a = .ok ((List.range s0).map (fun i => Arr.flat (piece a.elems s1 i))) := by
  rw [getRows, hsa]
  show Res.ok ((pieces s1 a.elems s0).map Arr.flat) = _
  rw [pieces_eq_map, List.map_map]; rfl

/-- column `j` of a `k × p` matrix -/
def col (b : A) (k p j : Nat) : List Int := (List.range k).map (fun i => b.elems.getD (i * p + j) 0)

theorem length_col (b : A) (k p j : Nat) : (col b k p j).length = k := by rw [col, List.length_map, List.length_range]

theorem getD_col (b : A) (k p j i : Nat) (hi : i < k) : (col b k p j).getD i 0 = b.elems.getD (i * p + j) 0 := by
  rw [col, List.getD_eq_getElem?_getD, List.getElem?_map, List.getElem?_range hi]; rfl

theorem getColumns_eq (b : A) (k p : Nat) (hsb : b.shape = [k, p]) :
    getColumns b = .ok ((List.range p).map (fun j => Arr.flat (col b k p j))) := by
  rw [getColumns, hsb]; rfl

/-- matrix · vector under `dot_1d`: the rows against the vector -/
theorem dot1d_matvec_eq {a b : A} {n k k' : Nat} (hsa : a.shape = [n, k]) (hsb : b.shape = [k']) :
    dot1d a b = dotIterate ((List.range n).map (fun i => Arr.flat (piece a.elems k i))) [b] := by
  have hnda : a.ndim = 2 := ndim_of_shape hsa
  have hndb : b.ndim = 1 := ndim_of_shape hsb
  unfold dot1d
  simp only [hnda, hndb, gt_iff_lt, Nat.one_lt_two, Nat.lt_irrefl, if_true, if_false, getRows_stack a n k [] hsa, Res.bind_ok,
    Res.pure_eq]

/-- vector · matrix under `dot_1d`: the vector against the columns -/
theorem dot1d_vecmat_eq {a b : A} {k k' p : Nat} (hsa : a.shape = [k]) (hsb : b.shape = [k', p]) :
    dot1d a b = dotIterate [a] ((List.range p).map (fun j => Arr.flat (col b k' p j))) := by
  have hnda : a.ndim = 1 := ndim_of_shape hsa
  have hndb : b.ndim = 2 := ndim_of_shape hsb
  unfold dot1d
  simp only [hnda, hndb, gt_iff_lt, Nat.one_lt_two, Nat.lt_irrefl, if_true, if_false, getColumns_eq b k' p hsb, Res.bind_ok,
    Res.pure_eq]

theorem length_of_mem_flats {f : Nat → List Int} {s k : Nat} (hf : ∀ i < s, (f i).length = k) {x : A}
    (hx : x ∈ (List.range s).map (fun i => Arr.flat (f i))) : x.elems.length = k := by
  obtain ⟨i, hi, rfl⟩ := List.mem_map.1 hx
  exact hf i (List.mem_range.1 hi)

/-- vectors `f 0, …, f (s-1)` of length `k` (the rows of a matrix, the leading pieces of a stack) against one vector -/
theorem dotIterate_flats_vec (f : Nat → List Int) (b : A) (s k : Nat) (hf : ∀ i < s, (f i).length = k)
    (hb : b.elems.length = k) (hk : 0 < k) :
    dotIterate ((List.range s).map (fun i => Arr.flat (f i))) [b]
      = .ok (Arr.flat ((List.range s).map (fun i => sumProd (f i) b.elems))) := by
  rw [dotIterate_ok _ _ k (by omega) (fun x hx => length_of_mem_flats hf hx) (fun y hy => by rw [List.mem_singleton.1 hy, hb])]
  simp only [List.flatMap_map, List.map_cons, List.map_nil, ← List.map_eq_flatMap, Arr.flat]

/-- one vector against vectors `f 0, …, f (s-1)` of length `k` (the columns) -/
theorem dotIterate_vec_flats (a : A) (f : Nat → List Int) (s k : Nat) (ha : a.elems.length = k)
    (hf : ∀ j < s, (f j).length = k) (hk : 0 < k) :
    dotIterate [a] ((List.range s).map (fun j => Arr.flat (f j)))
      = .ok (Arr.flat ((List.range s).map (fun j => sumProd a.elems (f j)))) := by
  rw [dotIterate_ok _ _ k (by omega) (fun x hx => by rw [List.mem_singleton.1 hx, ha]) (fun y hy => length_of_mem_flats hf hy)]
  simp only [List.flatMap_cons, List.flatMap_nil, List.append_nil, List.map_map, Function.comp_def, Arr.flat]

/-- entry `i` of the rows-against-a-vector result -/
theorem rows_vec_get (xs : List Int) (b : A) {s k i : Nat} (hl : s * k ≤ xs.length) (hb : b.elems.length = k) (hi : i < s) :
    (Arr.flat ((List.range s).map (fun i => sumProd (piece xs k i) b.elems))).get? [i]
      = some (∑ q ∈ range k, xs.getD (i * k + q) 0 * b.elems.getD q 0) := by
  rw [get?_flat_map_range _ hi, sumProd_eq_sum (length_piece hl hi) hb]
  exact congrArg some (Finset.sum_congr rfl fun q hq => by rw [getD_piece _ i (Finset.mem_range.1 hq)])

/-! ### every `ok` exit builds a well-formed array -/

theorem reshape_all (e : List Int) (s : List Nat) : Res.All Arr.WF (reshape e s) :=
  .ite (fun h => .ok h.symm) fun _ => .err

theorem reshape_wf {e : List Int} {s : List Nat} {r : A} (h : reshape e s = .ok r) : r.WF := reshape_all e s r h

theorem single_wf (x : Int) : (⟨[x], [1]⟩ : A).WF := rfl

theorem vdot_wf {a b r : A} (h : vdot a b = .ok r) : r.WF :=
  (Res.All.ite (fun _ => .ite (fun _ => .err) fun _ => .ok (single_wf _)) fun _ => .err : Res.All Arr.WF (vdot a b)) r h

theorem matmul1dNd_wf (fuel : Nat) (a b r : A) (h : matmul1dNd fuel a b = .ok r) : r.WF := by
  cases fuel with
  | zero => cases h
  | succ fuel =>
    rw [matmul1dNd] at h
    -- the two stack arms end in `reshape`, the two matrix arms in `flat`
    exact Res.All.ite
      (fun _ => .ite (fun _ => .bind' fun _ => .bind' fun _ => .bind' fun _ => reshape_all _ _)
        fun _ => .bind' fun _ => .bind' fun _ => .bind' fun _ => .ok (Arr.flat_wf _))
      (fun _ => .ite (fun _ => .bind' fun _ => .bind' fun _ => .bind' fun _ => reshape_all _ _)
        fun _ => .bind' fun _ => .bind' fun _ => .bind' fun _ => .ok (Arr.flat_wf _)) r h

theorem matmul22_wf {a b r : A} (h : matmul22 a b = .ok r) : r.WF :=
  (Res.All.bind' fun _ => .bind' fun _ => .bind' fun _ => .bind' fun _ => .bind' fun _ => reshape_all _ _ :
    Res.All Arr.WF (matmul22 a b)) r h

theorem matmulNd_wf {a b r : A} (h : matmulNd a b = .ok r) : r.WF :=
  (Res.All.bind' fun _ => .bind' fun _ => .ite (fun _ => .panic) fun _ => .ite (fun _ => .panic) fun _ =>
      .bind' fun _ => .bind' fun _ => .bind' fun _ => reshape_all _ _ : Res.All Arr.WF (matmulNd a b)) r h

theorem multiplyScalar_wf (a b r : A) (ha : a.WF) (hb : b.WF) (h : multiplyScalar a b = .ok r) : r.WF := by
  have hone : ∀ n, (List.replicate n 1).prod = 1 := fun n => by rw [List.prod_replicate, one_pow]
  unfold multiplyScalar at h
  split at h
  · cases h
  · cases h
  · rename_i x hx _
    cases h
    rw [Arr.WF, List.length_map, shape_of_len_one ha (congrArg List.length hx), bshape_ones_left', List.prod_append, hone,
      Nat.one_mul, ← hb]
  · obtain ⟨y, hy⟩ : ∃ y, b.elems = [y] := ⟨_, by assumption⟩
    cases h
    rw [Arr.WF, List.length_map, shape_of_len_one hb (congrArg List.length hy), bshape_ones_right', List.prod_append, hone,
      Nat.one_mul, ← ha]
  · cases h

theorem inner11_wf {a b r : A} (h : inner11 a b = .ok r) : r.WF :=
  (Res.All.bind' fun _ => .ite (fun _ => .err) fun _ => .ok (single_wf _) : Res.All Arr.WF (inner11 a b)) r h

theorem innerNd_wf {a b r : A} (h : innerNd a b = .ok r) : r.WF :=
  (Res.All.bind' fun _ => .bind' fun _ => .bind' fun _ => .bind' fun _ => .bind' fun _ => reshape_all _ _ :
    Res.All Arr.WF (innerNd a b)) r h

theorem dotIterate_wf {v1 v2 : List A} {r : A} (h : dotIterate v1 v2 = .ok r) : r.WF :=
  (Res.All.bind' fun _ => .ok (Arr.flat_wf _) : Res.All Arr.WF (dotIterate v1 v2)) r h

theorem dot1d_wf {a b r : A} (h : dot1d a b = .ok r) : r.WF := by
  unfold dot1d at h
  split at h <;> split at h
  all_goals
    obtain ⟨v1, _, h⟩ := Res.bind_eq_ok h
    obtain ⟨v2, _, h⟩ := Res.bind_eq_ok h
    exact dotIterate_wf h

end C14
end ArrModel
