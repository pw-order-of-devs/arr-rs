import Batteries.Data.List.Perm
import ArrProofs.Lemmas.Res
import ArrProofs.Lemmas.Index
import ArrProofs.Lemmas.Scatter
/-! lemmas about `normalizeAxis`, `permute`, `horner`, `validAxes`, `transposeElems`: the axis machinery behind every property that moves an axis -/
namespace ArrModel
variable {α : Type}

/-! ### `normalize_axis` -/

theorem normalizeAxis_of_nonneg (nd : Nat) (i : Int) (h : 0 ≤ i) : (normalizeAxis nd i : Int) = i := by
  unfold normalizeAxis
  rw [if_neg (Int.not_lt.2 h)]
  exact Int.toNat_of_nonneg h

theorem normalizeAxis_of_neg (nd : Nat) (i : Int) (h1 : -(nd : Int) ≤ i) (h2 : i < 0) :
    (normalizeAxis nd i : Int) = i + nd := by
  unfold normalizeAxis
  rw [if_pos h2]
  have : ¬ (i + (nd : Int) < 0) := by omega
  simp only [this, if_false]
  omega

theorem normalizeAxis_lt (nd : Nat) (x : Int) (h1 : -(nd : Int) ≤ x) (h2 : x < nd) : normalizeAxis nd x < nd := by
  by_cases h : x < 0
  · have := normalizeAxis_of_neg nd x h1 h; omega
  · have := normalizeAxis_of_nonneg nd x (by omega); omega

theorem normalizeAxis_ofNat (nd x : Nat) : normalizeAxis nd (Int.ofNat x) = x :=
  Int.ofNat.inj (normalizeAxis_of_nonneg nd _ (Int.natCast_nonneg x))

theorem map_normalizeAxis_ofNat (nd : Nat) (l : List Nat) : (l.map Int.ofNat).map (normalizeAxis nd) = l := by
  rw [List.map_map]
  exact (List.map_congr_left fun x _ => normalizeAxis_ofNat nd x).trans (List.map_id l)

theorem axesOf_some_ofNat (nd : Nat) (l : List Nat) : axesOf nd (some (l.map Int.ofNat)) = l :=
  map_normalizeAxis_ofNat nd l

/-! ### permutations of `0..n` -/

theorem perm_prod {l₁ l₂ : List Nat} (h : l₁.Perm l₂) : l₁.prod = l₂.prod := h.prod_nat

theorem perm_range_iff {l : List Nat} {n : Nat} :
    l.Perm (List.range n) ↔ l.length = n ∧ (∀ x ∈ l, x < n) ∧ l.Nodup := by
  constructor
  · intro h
    exact ⟨h.length_eq.trans List.length_range, fun x hx => List.mem_range.1 (h.mem_iff.1 hx), h.symm.nodup List.nodup_range⟩
  · rintro ⟨hl, hb, hn⟩
    refine (List.subperm_of_subset hn fun x hx => List.mem_range.2 (hb x hx)).perm_of_length_le ?_
    rw [List.length_range, hl]
    exact Nat.le_refl n

/-! ### `permute` -/

theorem permute_length (axes c : List Nat) : (permute axes c).length = axes.length := List.length_map _

theorem getD_permute (axes c : List Nat) (j : Nat) (hj : j < axes.length) :
    (permute axes c).getD j 0 = c.getD axes[j] 0 := by
  rw [getD_eq_getElem 0 (by rwa [permute_length])]
  exact List.getElem_map _

theorem permute_perm (axes s : List Nat) (h : axes.Perm (List.range s.length)) : (permute axes s).Perm s := by
  have := h.map (fun i => s.getD i 0)
  rwa [map_getD_range] at this

theorem prod_permute (axes s : List Nat) (h : axes.Perm (List.range s.length)) : (permute axes s).prod = s.prod :=
  perm_prod (permute_perm axes s h)

theorem inRange_permute (axes s c : List Nat) (hax : ∀ a ∈ axes, a < s.length) (hc : inRange s c = true) :
    inRange (permute axes s) (permute axes c) = true := by
  rw [inRange_iff] at hc ⊢
  refine ⟨by rw [permute_length, permute_length], fun k hk => ?_⟩
  rw [permute_length] at hk
  rw [getD_permute _ _ k hk, getD_permute _ _ k hk]
  exact hc.2 _ (hax _ (List.getElem_mem hk))

theorem permute_inj (axes c c' : List Nat) (n : Nat) (h : axes.Perm (List.range n))
    (hc : c.length = n) (hc' : c'.length = n) (he : permute axes c = permute axes c') : c = c' := by
  apply List.ext_getElem (hc.trans hc'.symm)
  intro k h1 h2
  obtain ⟨d, hd, hdk⟩ := List.getElem_of_mem (h.mem_iff.2 (List.mem_range.2 (hc ▸ h1)))
  have := congrArg (fun l => l.getD d 0) he
  simp only [getD_permute _ _ d hd, hdk] at this
  rwa [getD_eq_getElem 0 h1, getD_eq_getElem 0 h2] at this

/-! ### `horner`, `validAxes` -/

/-- Horner evaluation (the loop's index formula) is the structural row-major position -/
theorem horner_aux : ∀ (s c : List Nat) (acc : Nat), s.length = c.length →
    (s.zip c).foldl (fun acc p => acc * p.1 + p.2) acc = acc * s.prod + ravel s c
  | [], [], acc, _ => (Nat.mul_one acc).symm
  | d :: ds, x :: xs, acc, h => by
    rw [List.zip_cons_cons, List.foldl_cons, horner_aux ds xs _ (Nat.succ.inj h), List.prod_cons, ravel, Nat.add_mul,
      Nat.mul_assoc, Nat.add_assoc]
  | [], _ :: _, _, h => nomatch h
  | _ :: _, [], _, h => nomatch h

theorem horner_eq_ravel (s c : List Nat) (h : s.length = c.length) : horner s c = ravel s c := by
  unfold horner
  rw [horner_aux s c 0 h, Nat.zero_mul, Nat.zero_add]

/-- `validAxes` accepts exactly the permutations of `0..nd` -/
theorem validAxes_ok_iff (nd : Nat) (ax : List Nat) : validAxes nd ax = .ok () ↔ ax.Perm (List.range nd) := by
  unfold validAxes
  rw [perm_range_iff]
  by_cases h1 : ax.length = nd
  · rw [if_neg (not_not_intro h1)]
    by_cases h2 : ax.any (fun x => decide (x ≥ nd)) = true
    · obtain ⟨x, hx, hge⟩ := List.any_eq_true.1 h2
      rw [if_pos h2]
      exact ⟨nofun, fun h => absurd (h.2.1 x hx) (Nat.not_lt.2 (of_decide_eq_true hge))⟩
    · rw [if_neg h2]
      by_cases h3 : ax.Nodup
      · rw [if_neg (not_not_intro h3)]
        refine ⟨fun _ => ⟨h1, fun x hx => Nat.lt_of_not_le fun hge => ?_, h3⟩, fun _ => rfl⟩
        exact h2 (List.any_eq_true.2 ⟨x, hx, decide_eq_true hge⟩)
      · rw [if_pos h3]
        exact ⟨nofun, fun h => absurd h.2.2 h3⟩
  · rw [if_pos h1]
    exact ⟨nofun, fun h => absurd h.1 h1⟩

theorem validAxes_not_panic (nd : Nat) (ax : List Nat) : validAxes nd ax ≠ .panic :=
  Res.ite_ne_panic (fun _ => nofun) fun _ => Res.ite_ne_panic (fun _ => nofun) fun _ =>
    Res.ite_ne_panic (fun _ => nofun) fun _ => nofun

/-! ### `transposeElems`, `transpose` -/

theorem Arr.transpose_eq (a : Arr α) (zero : α) (axes : Option (List Int)) :
    a.transpose zero axes = validAxes a.ndim (axesOf a.ndim axes) >>= fun _ =>
      Arr.new (transposeElems a.shape (axesOf a.ndim axes) a.elems zero) (permute (axesOf a.ndim axes) a.shape) := rfl

theorem ravel_permute_lt (shape axes c : List Nat) (hperm : axes.Perm (List.range shape.length))
    (hc : inRange shape c = true) : ravel (permute axes shape) (permute axes c) < shape.prod :=
  prod_permute axes shape hperm ▸
    ravel_lt _ _ (inRange_permute axes shape c (fun _ ha => List.mem_range.1 (hperm.mem_iff.1 ha)) hc)

theorem ravel_permute_inj (shape axes c c' : List Nat) (hperm : axes.Perm (List.range shape.length))
    (hc : inRange shape c = true) (hc' : inRange shape c' = true)
    (he : ravel (permute axes shape) (permute axes c) = ravel (permute axes shape) (permute axes c')) : c = c' := by
  have hax : ∀ a ∈ axes, a < shape.length := fun a ha => List.mem_range.1 (hperm.mem_iff.1 ha)
  have e := congrArg (unravel (permute axes shape)) he
  rw [unravel_ravel _ _ (inRange_permute axes shape c hax hc), unravel_ravel _ _ (inRange_permute axes shape c' hax hc')] at e
  exact permute_inj axes c c' shape.length hperm (inRange_length _ _ hc) (inRange_length _ _ hc') e

/-- the loop's index formula written with `ravel` -/
theorem transposeElems_eq (shape axes : List Nat) (elems : List α) (zero : α) :
    transposeElems shape axes elems zero =
      scatter (fun i => ravel (permute axes shape) (permute axes (unravel shape i))) (fun i => elems.getD i zero)
        (List.replicate elems.length zero) elems.length := by
  unfold transposeElems
  congr
  funext i
  exact horner_eq_ravel _ _ ((permute_length _ _).trans (permute_length _ _).symm)

theorem transposeElems_length (shape axes : List Nat) (elems : List α) (zero : α) :
    (transposeElems shape axes elems zero).length = elems.length := by
  unfold transposeElems
  rw [scatter_length, List.length_replicate]

/-- the scatter performed by `transpose` puts input coordinate `c` at output coordinate `permute axes c` -/
theorem transposeElems_get (shape axes : List Nat) (elems : List α) (zero : α)
    (hperm : axes.Perm (List.range shape.length)) (hwf : elems.length = shape.prod)
    (c : List Nat) (hc : inRange shape c = true) :
    (transposeElems shape axes elems zero)[ravel (permute axes shape) (permute axes c)]? = elems[ravel shape c]? := by
  have hi : ravel shape c < elems.length := hwf ▸ ravel_lt shape c hc
  have hr := fun i (h : i < elems.length) => ravel_unravel shape i (hwf ▸ h)
  -- position `i` is written to the position of the permuted coordinates of `i`: an injection into the buffer
  have key := scatter_getElem? (fun i => ravel (permute axes shape) (permute axes (unravel shape i)))
    (fun i => elems.getD i zero) (List.replicate elems.length zero) elems.length
    (fun i j hi hj he => by
      rw [← (hr i hi).1, ← (hr j hj).1, ravel_permute_inj shape axes _ _ hperm (hr i hi).2 (hr j hj).2 he])
    (fun i hi => by
      rw [List.length_replicate, hwf]
      exact ravel_permute_lt shape axes _ hperm (hr i hi).2)
    (ravel shape c) hi
  rw [unravel_ravel shape c hc] at key
  rw [transposeElems_eq, key, getD_eq_getElem zero hi, List.getElem?_eq_getElem hi]

end ArrModel
