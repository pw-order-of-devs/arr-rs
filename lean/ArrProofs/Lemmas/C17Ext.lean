import ArrProofs.Lemmas.C17Misc
/-! helper lemmas for C17: the ASCII tables of the case maps and of the `is_*` classes, `swapC`, `translate`, `zfill`
and the literal grammar of its refusal test -/
namespace ArrModel.C17

/-! ### characters -/

theorem toNat_ofNat_small (n : Nat) (h : n < 55296) : (Char.ofNat n).toNat = n := by
  have hv : n.isValidChar := Or.inl h
  unfold Char.ofNat
  rw [dif_pos hv]
  rfl

theorem isUpperC_iff (c : Char) : isUpperC c = true ↔ 65 ≤ c.toNat ∧ c.toNat ≤ 90 := decide_eq_true_iff
theorem isLowerC_iff (c : Char) : isLowerC c = true ↔ 97 ≤ c.toNat ∧ c.toNat ≤ 122 := decide_eq_true_iff
theorem isDigitC_iff (c : Char) : isDigitC c = true ↔ 48 ≤ c.toNat ∧ c.toNat ≤ 57 := decide_eq_true_iff
theorem isSpaceC_iff (c : Char) : isSpaceC c = true ↔ (9 ≤ c.toNat ∧ c.toNat ≤ 13) ∨ c.toNat = 32 :=
  decide_eq_true_iff

theorem isAlphaC_iff (c : Char) : isAlphaC c = true ↔ (isUpperC c = true ∨ isLowerC c = true) := by
  rw [isAlphaC, Bool.or_eq_true]

/-- the classes are pairwise disjoint: upper / lower / digit / white space -/
theorem class_disjoint (c : Char) :
    (isUpperC c = true → isLowerC c = false ∧ isDigitC c = false ∧ isSpaceC c = false) ∧
    (isLowerC c = true → isUpperC c = false ∧ isDigitC c = false ∧ isSpaceC c = false) ∧
    (isDigitC c = true → isAlphaC c = false ∧ isSpaceC c = false) ∧
    (isSpaceC c = true → isAlnumC c = false) := by
  simp only [isAlnumC, isAlphaC, isUpperC, isLowerC, isDigitC, isSpaceC, Bool.or_eq_false_iff, decide_eq_true_eq,
    decide_eq_false_iff_not]
  omega

theorem toNat_toUpperC (c : Char) :
    (toUpperC c).toNat = if 97 ≤ c.toNat ∧ c.toNat ≤ 122 then c.toNat - 32 else c.toNat := by
  unfold toUpperC
  simp only [isLowerC_iff]
  split
  · exact toNat_ofNat_small _ (by omega)
  · rfl

theorem toNat_toLowerC (c : Char) :
    (toLowerC c).toNat = if 65 ≤ c.toNat ∧ c.toNat ≤ 90 then c.toNat + 32 else c.toNat := by
  unfold toLowerC
  simp only [isUpperC_iff]
  split
  · exact toNat_ofNat_small _ (by omega)
  · rfl

theorem toLowerC_of_not_upper {c : Char} (h : isUpperC c = false) : toLowerC c = c :=
  if_neg (Bool.eq_false_iff.1 h)

theorem toUpperC_of_not_lower {c : Char} (h : isLowerC c = false) : toUpperC c = c :=
  if_neg (Bool.eq_false_iff.1 h)

/-- an upper-case letter goes to a lower-case one, and `toUpperC` brings it back -/
theorem toLowerC_of_upper {c : Char} (h : isUpperC c = true) :
    isLowerC (toLowerC c) = true ∧ toUpperC (toLowerC c) = c := by
  have hc := (isUpperC_iff c).1 h
  have hl : (toLowerC c).toNat = c.toNat + 32 := by rw [toNat_toLowerC, if_pos hc]
  have hlo : 97 ≤ (toLowerC c).toNat ∧ (toLowerC c).toNat ≤ 122 := by omega
  refine ⟨(isLowerC_iff _).2 hlo, Char.toNat_inj.1 ?_⟩
  rw [toNat_toUpperC, if_pos hlo, hl, Nat.add_sub_cancel]

theorem toUpperC_of_lower {c : Char} (h : isLowerC c = true) :
    isUpperC (toUpperC c) = true ∧ toLowerC (toUpperC c) = c := by
  have hc := (isLowerC_iff c).1 h
  have hu : (toUpperC c).toNat = c.toNat - 32 := by rw [toNat_toUpperC, if_pos hc]
  have hup : 65 ≤ (toUpperC c).toNat ∧ (toUpperC c).toNat ≤ 90 := by omega
  refine ⟨(isUpperC_iff _).2 hup, Char.toNat_inj.1 ?_⟩
  rw [toNat_toLowerC, if_pos hup, hu, Nat.sub_add_cancel (by omega)]

/-- what `toLowerC` does to the four basic classes -/
theorem class_toLowerC (c : Char) :
    isUpperC (toLowerC c) = false ∧ isLowerC (toLowerC c) = isAlphaC c ∧
    isDigitC (toLowerC c) = isDigitC c ∧ isSpaceC (toLowerC c) = isSpaceC c := by
  cases h : isUpperC c with
  | false =>
    rw [toLowerC_of_not_upper h, isAlphaC, h, Bool.false_or]
    exact ⟨rfl, rfl, rfl, rfl⟩
  | true =>
    obtain ⟨hlo, -⟩ := toLowerC_of_upper h
    obtain ⟨hu', hd', hs'⟩ := (class_disjoint (toLowerC c)).2.1 hlo
    obtain ⟨-, hd, hs⟩ := (class_disjoint c).1 h
    rw [isAlphaC, h, Bool.true_or]
    exact ⟨hu', hlo, hd'.trans hd.symm, hs'.trans hs.symm⟩

theorem class_toUpperC (c : Char) :
    isLowerC (toUpperC c) = false ∧ isUpperC (toUpperC c) = isAlphaC c ∧
    isDigitC (toUpperC c) = isDigitC c ∧ isSpaceC (toUpperC c) = isSpaceC c := by
  cases h : isLowerC c with
  | false =>
    rw [toUpperC_of_not_lower h, isAlphaC, h, Bool.or_false]
    exact ⟨rfl, rfl, rfl, rfl⟩
  | true =>
    obtain ⟨hup, -⟩ := toUpperC_of_lower h
    obtain ⟨hl', hd', hs'⟩ := (class_disjoint (toUpperC c)).1 hup
    obtain ⟨-, hd, hs⟩ := (class_disjoint c).2.1 h
    rw [isAlphaC, h, Bool.or_true]
    exact ⟨hl', hup, hd'.trans hd.symm, hs'.trans hs.symm⟩

theorem isUpperC_toLowerC (c : Char) : isUpperC (toLowerC c) = false := (class_toLowerC c).1
theorem isLowerC_toLowerC (c : Char) : isLowerC (toLowerC c) = isAlphaC c := (class_toLowerC c).2.1
theorem isDigitC_toLowerC (c : Char) : isDigitC (toLowerC c) = isDigitC c := (class_toLowerC c).2.2.1
theorem isSpaceC_toLowerC (c : Char) : isSpaceC (toLowerC c) = isSpaceC c := (class_toLowerC c).2.2.2
theorem isLowerC_toUpperC (c : Char) : isLowerC (toUpperC c) = false := (class_toUpperC c).1
theorem isUpperC_toUpperC (c : Char) : isUpperC (toUpperC c) = isAlphaC c := (class_toUpperC c).2.1
theorem isDigitC_toUpperC (c : Char) : isDigitC (toUpperC c) = isDigitC c := (class_toUpperC c).2.2.1
theorem isSpaceC_toUpperC (c : Char) : isSpaceC (toUpperC c) = isSpaceC c := (class_toUpperC c).2.2.2

theorem isAlphaC_toLowerC (c : Char) : isAlphaC (toLowerC c) = isAlphaC c := by
  rw [isAlphaC, isUpperC_toLowerC, isLowerC_toLowerC, Bool.false_or]
theorem isAlphaC_toUpperC (c : Char) : isAlphaC (toUpperC c) = isAlphaC c := by
  rw [isAlphaC, isUpperC_toUpperC, isLowerC_toUpperC, Bool.or_false]
theorem isAlnumC_toLowerC (c : Char) : isAlnumC (toLowerC c) = isAlnumC c := by
  rw [isAlnumC, isAlphaC_toLowerC, isDigitC_toLowerC, isAlnumC]
theorem isAlnumC_toUpperC (c : Char) : isAlnumC (toUpperC c) = isAlnumC c := by
  rw [isAlnumC, isAlphaC_toUpperC, isDigitC_toUpperC, isAlnumC]

theorem toLowerC_idem (c : Char) : toLowerC (toLowerC c) = toLowerC c := toLowerC_of_not_upper (isUpperC_toLowerC c)
theorem toUpperC_idem (c : Char) : toUpperC (toUpperC c) = toUpperC c := toUpperC_of_not_lower (isLowerC_toUpperC c)

theorem toLowerC_eq_self_iff (c : Char) : toLowerC c = c ↔ isUpperC c = false := by
  refine ⟨fun h => ?_, toLowerC_of_not_upper⟩
  rw [← h]
  exact isUpperC_toLowerC c

theorem toUpperC_eq_self_iff (c : Char) : toUpperC c = c ↔ isLowerC c = false := by
  refine ⟨fun h => ?_, toUpperC_of_not_lower⟩
  rw [← h]
  exact isLowerC_toUpperC c

theorem toUpperC_toLowerC (c : Char) : toUpperC (toLowerC c) = toUpperC c := by
  cases h : isUpperC c with
  | false => rw [toLowerC_of_not_upper h]
  | true => rw [(toLowerC_of_upper h).2, toUpperC_of_not_lower ((class_disjoint c).1 h).1]

theorem toLowerC_toUpperC (c : Char) : toLowerC (toUpperC c) = toLowerC c := by
  cases h : isLowerC c with
  | false => rw [toUpperC_of_not_lower h]
  | true => rw [(toUpperC_of_lower h).2, toLowerC_of_not_upper ((class_disjoint c).2.1 h).1]

/-- two characters have the same lower-case image exactly when they have the same upper-case image -/
theorem toLowerC_eq_iff_toUpperC_eq (a b : Char) : toLowerC a = toLowerC b ↔ toUpperC a = toUpperC b := by
  constructor
  · intro h
    rw [← toUpperC_toLowerC a, h, toUpperC_toLowerC]
  · intro h
    rw [← toLowerC_toUpperC a, h, toLowerC_toUpperC]

/-! ### `swapC`: `toUpperC` on lower-case letters, `toLowerC` elsewhere -/

/-- the per-character function of `_swapcase` -/
def swapC (c : Char) : Char := if isLowerC c then toUpperC c else if isUpperC c then toLowerC c else c

theorem swapcase_eq_map (s : Str) : swapcase s = s.map swapC := rfl

theorem swapC_of_lower {c : Char} (h : isLowerC c = true) : swapC c = toUpperC c := if_pos h

theorem swapC_of_not_lower {c : Char} (h : isLowerC c = false) : swapC c = toLowerC c := by
  rw [swapC, if_neg (Bool.eq_false_iff.1 h)]
  split
  · rfl
  · exact (if_neg ‹_›).symm

theorem toNat_swapC (c : Char) :
    (swapC c).toNat = if 97 ≤ c.toNat ∧ c.toNat ≤ 122 then c.toNat - 32
      else if 65 ≤ c.toNat ∧ c.toNat ≤ 90 then c.toNat + 32 else c.toNat := by
  simp only [← isLowerC_iff]
  split
  · rw [swapC_of_lower ‹_›, toNat_toUpperC, if_pos ((isLowerC_iff c).1 ‹_›)]
  · rw [swapC_of_not_lower (Bool.eq_false_iff.2 ‹_›), toNat_toLowerC]

theorem class_swapC (c : Char) :
    isLowerC (swapC c) = isUpperC c ∧ isUpperC (swapC c) = isLowerC c ∧
    isDigitC (swapC c) = isDigitC c ∧ isSpaceC (swapC c) = isSpaceC c := by
  cases h : isLowerC c with
  | false =>
    rw [swapC_of_not_lower h, isLowerC_toLowerC, isAlphaC, h, Bool.or_false]
    exact ⟨rfl, isUpperC_toLowerC c, isDigitC_toLowerC c, isSpaceC_toLowerC c⟩
  | true =>
    rw [swapC_of_lower h, isUpperC_toUpperC, isAlphaC, h, Bool.or_true, ((class_disjoint c).2.1 h).1]
    exact ⟨isLowerC_toUpperC c, rfl, isDigitC_toUpperC c, isSpaceC_toUpperC c⟩

theorem isLowerC_swapC (c : Char) : isLowerC (swapC c) = isUpperC c := (class_swapC c).1
theorem isUpperC_swapC (c : Char) : isUpperC (swapC c) = isLowerC c := (class_swapC c).2.1
theorem isDigitC_swapC (c : Char) : isDigitC (swapC c) = isDigitC c := (class_swapC c).2.2.1
theorem isSpaceC_swapC (c : Char) : isSpaceC (swapC c) = isSpaceC c := (class_swapC c).2.2.2
theorem isAlphaC_swapC (c : Char) : isAlphaC (swapC c) = isAlphaC c := by
  rw [isAlphaC, isUpperC_swapC, isLowerC_swapC, Bool.or_comm, isAlphaC]
theorem isAlnumC_swapC (c : Char) : isAlnumC (swapC c) = isAlnumC c := by
  rw [isAlnumC, isAlphaC_swapC, isDigitC_swapC, isAlnumC]

theorem toLowerC_swapC (c : Char) : toLowerC (swapC c) = toLowerC c := by
  cases h : isLowerC c with
  | false => rw [swapC_of_not_lower h, toLowerC_idem]
  | true => rw [swapC_of_lower h, toLowerC_toUpperC]

theorem toUpperC_swapC (c : Char) : toUpperC (swapC c) = toUpperC c := by
  cases h : isLowerC c with
  | false => rw [swapC_of_not_lower h, toUpperC_toLowerC]
  | true => rw [swapC_of_lower h, toUpperC_idem]

theorem swapC_toLowerC (c : Char) : swapC (toLowerC c) = toUpperC c := by
  cases h : isAlphaC c with
  | false =>
    -- not a letter: nothing moves
    obtain ⟨hu, hl⟩ := Bool.or_eq_false_iff.1 h
    rw [toLowerC_of_not_upper hu, swapC_of_not_lower hl, toLowerC_of_not_upper hu, toUpperC_of_not_lower hl]
  | true => rw [swapC_of_lower ((isLowerC_toLowerC c).trans h), toUpperC_toLowerC]

theorem swapC_toUpperC (c : Char) : swapC (toUpperC c) = toLowerC c := by
  rw [swapC_of_not_lower (isLowerC_toUpperC c), toLowerC_toUpperC]

theorem swapC_swapC (c : Char) : swapC (swapC c) = c := by
  cases h : isLowerC c with
  | false => rw [swapC_of_not_lower h, swapC_toLowerC, toUpperC_of_not_lower h]
  | true => rw [swapC_of_lower h, swapC_toUpperC, toLowerC_of_not_upper ((class_disjoint c).2.1 h).1]

/-! ### the tables are those of core Lean's `Char` -/

theorem isUpperC_eq_core (c : Char) : isUpperC c = c.isUpper := by
  unfold isUpperC Char.isUpper
  simp only [ge_iff_le, UInt32.le_iff_toNat_le, Char.toNat_val]
  rfl

theorem isLowerC_eq_core (c : Char) : isLowerC c = c.isLower := by
  unfold isLowerC Char.isLower
  simp only [ge_iff_le, UInt32.le_iff_toNat_le, Char.toNat_val]
  have ha : 'a'.toNat = 97 := rfl
  have hz : 'z'.toNat = 122 := rfl
  rw [ha, hz, Bool.decide_and]

theorem isDigitC_eq_core (c : Char) : isDigitC c = c.isDigit := by
  unfold isDigitC Char.isDigit
  simp only [ge_iff_le, UInt32.le_iff_toNat_le, Char.toNat_val]
  have h0 : '0'.toNat = 48 := rfl
  have h9 : '9'.toNat = 57 := rfl
  rw [h0, h9, Bool.decide_and]

theorem toLowerC_eq_core (c : Char) : toLowerC c = c.toLower := by
  apply Char.toNat_inj.1
  rw [toNat_toLowerC]
  unfold Char.toLower
  simp only [ge_iff_le, UInt32.le_iff_toNat_le, Char.toNat_val]
  have hA : 'A'.toNat = 65 := rfl
  have hZ : 'Z'.toNat = 90 := rfl
  have hd : ('a'.val - 'A'.val) = 32 := by decide
  simp only [hA, hZ, hd]
  split
  · rename_i h
    show _ = (c.val + 32).toNat
    rw [UInt32.toNat_add, Char.toNat_val]
    have : c.toNat + (32 : UInt32).toNat = c.toNat + 32 := rfl
    rw [this]; omega
  · rfl

theorem toUpperC_eq_core (c : Char) : toUpperC c = c.toUpper := by
  apply Char.toNat_inj.1
  rw [toNat_toUpperC]
  unfold Char.toUpper
  simp only [UInt32.le_iff_toNat_le, Char.toNat_val]
  have ha : 'a'.toNat = 97 := rfl
  have hz : 'z'.toNat = 122 := rfl
  have hd : ('A'.val - 'a'.val) = 4294967264 := by decide
  simp only [ha, hz, hd]
  split
  · rename_i h
    show _ = (c.val + 4294967264).toNat
    rw [UInt32.toNat_add, Char.toNat_val]
    have : c.toNat + (4294967264 : UInt32).toNat = c.toNat + 4294967264 := rfl
    rw [this]; omega
  · rfl

/-- Rust's `char::is_whitespace` on ASCII is core Lean's `isWhitespace` plus VT and FF -/
theorem isSpaceC_eq_core (c : Char) :
    isSpaceC c = (c.isWhitespace || c == Char.ofNat 11 || c == Char.ofNat 12) := by
  rw [Bool.eq_iff_iff]
  simp only [isSpaceC, Char.isWhitespace, Bool.or_eq_true, decide_eq_true_eq, beq_iff_eq, ← Char.toNat_inj]
  have h1 : ' '.toNat = 32 := rfl
  have h2 : '\t'.toNat = 9 := rfl
  have h3 : '\r'.toNat = 13 := rfl
  have h4 : '\n'.toNat = 10 := rfl
  have h5 : (Char.ofNat 11).toNat = 11 := rfl
  have h6 : (Char.ofNat 12).toNat = 12 := rfl
  rw [h1, h2, h3, h4, h5, h6]
  omega

/-! ### strings: class tests and case maps -/

theorem map_eq_self_iff (f : Char → Char) : ∀ s : Str, s.map f = s ↔ ∀ c ∈ s, f c = c
  | [] => by simp
  | x :: xs => by simp [map_eq_self_iff f xs]

theorem all_map_class (P : Char → Bool) (f : Char → Char) (h : ∀ c, P (f c) = P c) (s : Str) :
    (s.map f).all P = s.all P := by
  rw [List.all_map]; congr 1; funext c; exact h c

theorem filter_map_class (P : Char → Bool) (f : Char → Char) (h : ∀ c, P (f c) = P c) (s : Str) :
    (s.map f).filter P = (s.filter P).map f := by
  rw [List.filter_map]; congr 2; funext c; exact h c

theorem map_map_of {f g h : Char → Char} (hc : ∀ c, f (g c) = h c) (s : Str) : (s.map g).map f = s.map h := by
  rw [List.map_map]
  exact List.map_congr_left fun c _ => hc c

/-- the class tests of the shape "non-empty and every character in `P`" -/
theorem class_iff (P : Char → Bool) (s : Str) : (!s.isEmpty && s.all P) = true ↔ s ≠ [] ∧ ∀ c ∈ s, P c = true := by
  cases s <;> simp

/-- ... do not see a map that respects `P` -/
theorem class_map {P : Char → Bool} {f : Char → Char} (h : ∀ c, P (f c) = P c) (s : Str) :
    (!(s.map f).isEmpty && (s.map f).all P) = (!s.isEmpty && s.all P) := by
  rw [List.isEmpty_map, all_map_class P f h]

/-- ... and holds of a concatenation exactly when it holds of the non-empty parts -/
theorem class_append_iff (P : Char → Bool) (s t : Str) :
    (!(s ++ t).isEmpty && (s ++ t).all P) = true ↔
      (s = [] ∨ (!s.isEmpty && s.all P) = true) ∧ (t = [] ∨ (!t.isEmpty && t.all P) = true) ∧ (s ≠ [] ∨ t ≠ []) := by
  cases s <;> cases t <;> simp [and_assoc]

theorem isDigit_map {f : Char → Char} (h : ∀ c, isDigitC (f c) = isDigitC c) (s : Str) :
    isDigit (s.map f) = isDigit s := by
  rw [isDigit, List.length_map, all_map_class isDigitC f h]
  rfl

theorem nonempty_filter_iff (P : Char → Bool) (s : Str) : (!(s.filter P).isEmpty) = s.any P := by
  induction s with
  | nil => rfl
  | cons x xs ih =>
    rw [List.filter_cons, List.any_cons]
    cases h : P x
    · simpa using ih
    · simp

/-- the shape of `is_lower` / `is_upper`: among the characters of `A = Q ∪ R` (two disjoint classes) there is one,
and all are in `Q`  ⇔  some character is in `Q` and none in `R` -/
theorem cased_eq (A Q R : Char → Bool) (hA : ∀ c, A c = true ↔ (Q c = true ∨ R c = true))
    (hdis : ∀ c, Q c = true → R c = false) (s : Str) :
    (!(s.filter A).isEmpty && (s.filter A).all Q) = (s.any Q && s.all (fun c => !R c)) := by
  rw [nonempty_filter_iff, Bool.eq_iff_iff]
  simp only [Bool.and_eq_true, List.any_eq_true, List.all_eq_true, List.mem_filter, Bool.not_eq_true', and_imp, hA]
  constructor
  · rintro ⟨⟨c, hc, ha⟩, hall⟩
    refine ⟨⟨c, hc, hall c hc ha⟩, fun x hx => ?_⟩
    cases hr : R x with
    | false => rfl
    | true => exact hr.symm.trans (hdis x (hall x hx (.inr hr)))
  · rintro ⟨⟨c, hc, hq⟩, hall⟩
    refine ⟨⟨c, hc, .inl hq⟩, fun x hx hx' => hx'.resolve_right ?_⟩
    rw [hall x hx]
    exact Bool.false_ne_true

/-- ... ⇔  none is in `R` and some character is in `A` -/
theorem cased_iff_exists_union {A Q R : Char → Bool} (hA : ∀ c, A c = true ↔ (Q c = true ∨ R c = true)) (s : Str) :
    ((∃ c ∈ s, Q c = true) ∧ ∀ c ∈ s, R c = false) ↔ (∀ c ∈ s, R c = false) ∧ ∃ c ∈ s, A c = true := by
  constructor
  · rintro ⟨⟨c, hc, hq⟩, hall⟩
    exact ⟨hall, c, hc, (hA c).2 (.inl hq)⟩
  · rintro ⟨hall, c, hc, ha⟩
    refine ⟨⟨c, hc, ((hA c).1 ha).resolve_right ?_⟩, hall⟩
    rw [hall c hc]
    exact Bool.false_ne_true

theorem isLower_eq (s : Str) : isLower s = (s.any isLowerC && s.all (fun c => !isUpperC c)) :=
  cased_eq isAlphaC isLowerC isUpperC (fun c => (isAlphaC_iff c).trans Or.comm)
    (fun c h => ((class_disjoint c).2.1 h).1) s

theorem isUpper_eq (s : Str) : isUpper s = (s.any isUpperC && s.all (fun c => !isLowerC c)) :=
  cased_eq isAlphaC isUpperC isLowerC isAlphaC_iff (fun c h => ((class_disjoint c).1 h).1) s

theorem isLower_map (f : Char → Char) (s : Str) :
    isLower (s.map f) = (s.any (fun c => isLowerC (f c)) && s.all (fun c => !isUpperC (f c))) := by
  rw [isLower_eq, List.any_map, List.all_map]
  rfl

theorem isUpper_map (f : Char → Char) (s : Str) :
    isUpper (s.map f) = (s.any (fun c => isUpperC (f c)) && s.all (fun c => !isLowerC (f c))) := by
  rw [isUpper_eq, List.any_map, List.all_map]
  rfl

theorem lower_eq_self_iff (s : Str) : lower s = s ↔ ∀ c ∈ s, isUpperC c = false := by
  unfold lower; rw [map_eq_self_iff]
  exact forall_congr' fun c => imp_congr_right fun _ => toLowerC_eq_self_iff c

theorem upper_eq_self_iff (s : Str) : upper s = s ↔ ∀ c ∈ s, isLowerC c = false := by
  unfold upper; rw [map_eq_self_iff]
  exact forall_congr' fun c => imp_congr_right fun _ => toUpperC_eq_self_iff c

/-! ### translate -/

/-- the per-character function of `translate` -/
def trC (table : List (Char × Char)) (c : Char) : Char :=
  match table.find? (fun t => c == t.1) with | some t => t.2 | none => c

theorem translate_eq_map (t : List (Char × Char)) (s : Str) : translate t s = s.map (trC t) := rfl

theorem trC_nil (c : Char) : trC [] c = c := rfl

theorem trC_cons (k v : Char) (t : List (Char × Char)) (c : Char) :
    trC ((k, v) :: t) c = if c = k then v else trC t c := by
  unfold trC
  rw [List.find?_cons]
  by_cases h : c = k
  · simp [h]
  · have hb : (c == k) = false := by simpa using h
    simp only [hb, if_neg h]

/-- case analysis: either some first row has the key, or no row has it -/
theorem trC_cases : ∀ (t : List (Char × Char)) (c : Char),
    (∃ k, ∃ hk : k < t.length, t[k].1 = c ∧ (∀ j (hj : j < k), (t[j]'(by omega)).1 ≠ c) ∧ trC t c = t[k].2) ∨
    ((∀ r ∈ t, r.1 ≠ c) ∧ trC t c = c)
  | [], c => .inr ⟨nofun, rfl⟩
  | (a, b) :: t, c => by
    rw [trC_cons]
    by_cases h : c = a
    · rw [if_pos h]
      exact .inl ⟨0, Nat.succ_pos _, h.symm, fun j hj => absurd hj (Nat.not_lt_zero j), rfl⟩
    · rw [if_neg h]
      rcases trC_cases t c with ⟨k, hk, hkey, hfirst, hv⟩ | ⟨hno, hv⟩
      · refine .inl ⟨k + 1, Nat.succ_lt_succ hk, hkey, fun j hj => ?_, hv⟩
        cases j with
        | zero => exact fun e => h e.symm
        | succ j => exact hfirst j (Nat.lt_of_succ_lt_succ hj)
      · exact .inr ⟨List.forall_mem_cons.2 ⟨fun e => h e.symm, hno⟩, hv⟩

theorem trC_of_not_key : ∀ (t : List (Char × Char)) (c : Char), (∀ r ∈ t, r.1 ≠ c) → trC t c = c := by
  intro t c h
  rcases trC_cases t c with ⟨k, hk, hkey, -⟩ | ⟨-, hv⟩
  · exact absurd hkey (h _ (List.getElem_mem hk))
  · exact hv

/-- the first row whose key is the character decides -/
theorem trC_of_row : ∀ (t : List (Char × Char)) (c : Char) (k : Nat) (hk : k < t.length),
    t[k].1 = c → (∀ j (hj : j < k), (t[j]'(by omega)).1 ≠ c) → trC t c = t[k].2 := by
  intro t c k hk hkey hfirst
  rcases trC_cases t c with ⟨k', hk', hkey', hfirst', hv⟩ | ⟨hno, _⟩
  · rcases Nat.lt_trichotomy k' k with h | rfl | h
    · exact absurd hkey' (hfirst k' h)
    · exact hv
    · exact absurd hkey (hfirst' k h)
  · exact absurd hkey (hno _ (List.getElem_mem hk))

theorem trC_append (t1 t2 : List (Char × Char)) (c : Char) :
    trC (t1 ++ t2) c = if t1.any (fun r => r.1 == c) then trC t1 c else trC t2 c := by
  induction t1 with
  | nil => simp
  | cons r t1 ih =>
    obtain ⟨a, b⟩ := r
    rw [List.cons_append, trC_cons, trC_cons, List.any_cons]
    by_cases h : c = a
    · subst h; simp
    · have : (a == c) = false := by simpa using fun e => h e.symm
      simp only [h, if_false, this, Bool.false_or]
      exact ih

/-! ### lower / upper as translation tables -/

def lowerTable : List (Char × Char) := (List.range 26).map (fun i => (Char.ofNat (65 + i), Char.ofNat (97 + i)))
def upperTable : List (Char × Char) := (List.range 26).map (fun i => (Char.ofNat (97 + i), Char.ofNat (65 + i)))

/-- a table that sends `n` consecutive code points from `a + s` on to those from `b + s` on -/
theorem trC_shift (a b : Nat) : ∀ (n s : Nat), a + s + n ≤ 55296 → ∀ c : Char,
    trC ((List.range' s n).map (fun i => (Char.ofNat (a + i), Char.ofNat (b + i)))) c =
      if a + s ≤ c.toNat ∧ c.toNat < a + s + n then Char.ofNat (b + (c.toNat - a)) else c
  | 0, s, _, c => by
    rw [if_neg (by omega)]
    rfl
  | n + 1, s, h, c => by
    rw [List.range'_succ, List.map_cons, trC_cons, trC_shift a b n (s + 1) (by omega)]
    by_cases hc : c = Char.ofNat (a + s)
    · have hn : c.toNat = a + s := by rw [hc]; exact toNat_ofNat_small _ (by omega)
      rw [if_pos hc, if_pos (by omega), hn, Nat.add_sub_cancel_left]
    · have hn : c.toNat ≠ a + s := fun e => hc (by rw [← e, Char.ofNat_toNat])
      rw [if_neg hc]
      exact ite_congr (propext (by omega)) (fun _ => rfl) (fun _ => rfl)

theorem trC_lowerTable (c : Char) : trC lowerTable c = toLowerC c := by
  rw [lowerTable, List.range_eq_range', trC_shift 65 97 26 0 (by omega), toLowerC]
  by_cases h : isUpperC c = true
  · have hn := (isUpperC_iff c).1 h
    rw [if_pos h, if_pos (by omega)]
    congr 1
    omega
  · rw [if_neg h, if_neg (fun hn => h ((isUpperC_iff c).2 (by omega)))]

theorem trC_upperTable (c : Char) : trC upperTable c = toUpperC c := by
  rw [upperTable, List.range_eq_range', trC_shift 97 65 26 0 (by omega), toUpperC]
  by_cases h : isLowerC c = true
  · have hn := (isLowerC_iff c).1 h
    rw [if_pos h, if_pos (by omega)]
    congr 1
    omega
  · rw [if_neg h, if_neg (fun hn => h ((isLowerC_iff c).2 (by omega)))]

/-! ### zfill -/

theorem zfill1_neg (w : Nat) (b : Str) :
    zfill1 w ('-' :: b) = '-' :: (List.replicate (w - 1 - b.length) '0' ++ b) := by
  unfold zfill1
  simp only [decide_true, if_true, List.drop_one, List.tail_cons]
  split
  · rfl
  · rename_i h
    have : w - 1 - b.length = 0 := by omega
    rw [this]; rfl

theorem zfill1_nonneg (w : Nat) (s : Str) (h : s.head? ≠ some '-') :
    zfill1 w s = List.replicate (w - s.length) '0' ++ s := by
  cases s with
  | nil => unfold zfill1; simp
  | cons c cs =>
    have hc : c ≠ '-' := by simpa using h
    unfold zfill1
    simp only [hc, decide_false, Bool.false_eq_true, if_false, Nat.sub_zero]
    split
    · rfl
    · rename_i h2
      have : w - (c :: cs).length = 0 := by omega
      rw [this]; rfl

/-- padding to `n1` and then to `n2` is padding to the larger width -/
theorem replicate_pad_pad (c : Char) (n1 n2 : Nat) (l : Str) :
    List.replicate (n2 - (List.replicate (n1 - l.length) c ++ l).length) c ++ (List.replicate (n1 - l.length) c ++ l) =
      List.replicate (max n1 n2 - l.length) c ++ l := by
  rw [← List.append_assoc, List.replicate_append_replicate, List.length_append, List.length_replicate]
  congr 2
  omega

/-- the number a text of decimal digits denotes -/
def digitsVal (s : Str) : Nat := s.foldl (fun acc c => 10 * acc + (c.toNat - 48)) 0

theorem digitsVal_zeros (n : Nat) (s : Str) : digitsVal (List.replicate n '0' ++ s) = digitsVal s := by
  unfold digitsVal
  rw [List.foldl_append]
  congr 1
  induction n with
  | zero => rfl
  | succ n ih => rw [List.replicate_succ, List.foldl_cons]; exact ih

theorem all_digit_append_zeros (n : Nat) (s : Str) :
    (List.replicate n '0' ++ s).all isDigitC = s.all isDigitC := by
  rw [List.all_append]
  have : (List.replicate n '0').all isDigitC = true := by
    rw [List.all_eq_true]; intro c hc
    rw [List.eq_of_mem_replicate hc]; decide
  rw [this, Bool.true_and]

/-! ### the literal grammar of `zfill`'s refusal test -/

def stripSign (s : Str) : Str := match s with
  | c :: r => if c = '-' ∨ c = '+' then r else s
  | [] => []

def expOkF (r2 : Str) : Bool := match r2 with
  | [] => true
  | c :: r => if c = 'e' ∨ c = 'E' then !(stripSign r).isEmpty && (stripSign r).all isDigitC else false

def fracSplit (r1 : Str) : Str × Str := match r1 with
  | c :: r => if c = '.' then (r.takeWhile isDigitC, r.dropWhile isDigitC) else ([], r1)
  | [] => ([], [])

def specialF (body : Str) : Bool :=
  lower body == ['i','n','f'] || lower body == ['i','n','f','i','n','i','t','y'] || lower body == ['n','a','n']

def bodyOkF (body : Str) : Bool :=
  if body.isEmpty then false
  else (decide ((body.takeWhile isDigitC).length + (fracSplit (body.dropWhile isDigitC)).1.length ≠ 0) &&
        expOkF (fracSplit (body.dropWhile isDigitC)).2) || specialF body

/-- `stripSign`, `fracSplit`, `expOkF`, `specialF` and `bodyOkF` name the `let`s of the model's `isF64Literal` and copy
them verbatim, so that the equation holds by `rfl` -/
theorem isF64Literal_eq (s : Str) : isF64Literal s = bodyOkF (stripSign s) := rfl

/-- a run of decimal digits (possibly empty) -/
def DigitRun (a : Str) : Prop := ∀ c ∈ a, isDigitC c = true
def SignOpt (sg : Str) : Prop := sg = [] ∨ sg = ['-'] ∨ sg = ['+']
/-- `digits` | `digits . digits` with at least one digit -/
def Mantissa (m : Str) : Prop :=
  ∃ a b, DigitRun a ∧ DigitRun b ∧ ((m = a ∧ a ≠ []) ∨ (m = a ++ '.' :: b ∧ (a ≠ [] ∨ b ≠ [])))
/-- nothing | `e`/`E` [sign] digits⁺ -/
def ExpPart (e : Str) : Prop :=
  e = [] ∨ ∃ c sg d, (c = 'e' ∨ c = 'E') ∧ SignOpt sg ∧ d ≠ [] ∧ DigitRun d ∧ e = c :: (sg ++ d)
def Special (body : Str) : Prop :=
  lower body = ['i','n','f'] ∨ lower body = ['i','n','f','i','n','i','t','y'] ∨ lower body = ['n','a','n']
def F64Body (body : Str) : Prop := (∃ m e, body = m ++ e ∧ Mantissa m ∧ ExpPart e) ∨ Special body
/-- the grammar of `core::num::dec2flt`: [sign] (mantissa [exponent] | inf | infinity | nan) -/
def F64Text (s : Str) : Prop := ∃ sg body, s = sg ++ body ∧ SignOpt sg ∧ F64Body body

theorem digit_not_sign {x : Char} (h : isDigitC x = true) : ¬ (x = '-' ∨ x = '+') := by
  rintro (rfl | rfl) <;> exact absurd h (by decide)

theorem stripSign_sign (sg body : Str) (hs : sg = ['-'] ∨ sg = ['+']) : stripSign (sg ++ body) = body := by
  rcases hs with rfl | rfl <;> rfl

/-- `takeWhile` / `dropWhile` cut a text exactly where the digits stop -/
theorem span_digits : ∀ (a r : Str), DigitRun a → (∀ c r', r = c :: r' → isDigitC c = false) →
    (a ++ r).takeWhile isDigitC = a ∧ (a ++ r).dropWhile isDigitC = r
  | [], [], _, _ => ⟨rfl, rfl⟩
  | [], c :: r', _, h => by
    rw [List.nil_append, List.takeWhile_cons, List.dropWhile_cons, h c r' rfl]
    exact ⟨rfl, rfl⟩
  | x :: a, r, ha, h => by
    have ih := span_digits a r (fun c hc => ha c (List.mem_cons_of_mem x hc)) h
    rw [List.cons_append, List.takeWhile_cons, List.dropWhile_cons, ha x List.mem_cons_self, ih.1, ih.2]
    exact ⟨rfl, rfl⟩

theorem span_exists (l : Str) : DigitRun (l.takeWhile isDigitC) ∧
    (∀ c r', l.dropWhile isDigitC = c :: r' → isDigitC c = false) ∧
    l = l.takeWhile isDigitC ++ l.dropWhile isDigitC := by
  refine ⟨fun c hc => mem_takeWhile _ _ c hc, ?_, List.takeWhile_append_dropWhile.symm⟩
  intro c r' h
  have := List.head?_dropWhile_not isDigitC l
  rw [h] at this
  simpa using this

theorem stripSign_sign_digits (sg d : Str) (hs : SignOpt sg) (hd : DigitRun d) (hne : d ≠ []) :
    stripSign (sg ++ d) = d := by
  rcases hs with rfl | hs
  · cases d with
    | nil => exact absurd rfl hne
    | cons x xs => exact if_neg (digit_not_sign (hd x List.mem_cons_self))
  · exact stripSign_sign sg d hs

theorem expOkF_iff (e : Str) : expOkF e = true ↔ ExpPart e := by
  constructor
  · intro h
    cases e with
    | nil => exact .inl rfl
    | cons c r =>
      right
      unfold expOkF at h
      simp only at h
      split at h
      · rename_i hc
        simp only [Bool.and_eq_true, Bool.not_eq_true', List.all_eq_true] at h
        have hne : stripSign r ≠ [] := by intro e; rw [e] at h; simp at h
        cases r with
        | nil => simp [stripSign] at hne
        | cons d0 r'' =>
          by_cases hd0 : d0 = '-' ∨ d0 = '+'
          · have hs : stripSign (d0 :: r'') = r'' := if_pos hd0
            rw [hs] at h hne
            exact ⟨c, [d0], r'', hc, .inr (hd0.imp (congrArg (· :: [])) (congrArg (· :: []))), hne, h.2, rfl⟩
          · have hs : stripSign (d0 :: r'') = d0 :: r'' := if_neg hd0
            rw [hs] at h
            exact ⟨c, [], d0 :: r'', hc, .inl rfl, List.cons_ne_nil _ _, h.2, rfl⟩
      · cases h
  · rintro (rfl | ⟨c, sg, d, hc, hsg, hne, hd, rfl⟩)
    · rfl
    · unfold expOkF
      simp only [if_pos hc, stripSign_sign_digits sg d hsg hd hne]
      rw [List.isEmpty_eq_false_iff.2 hne, List.all_eq_true.2 hd]
      rfl

/-- an exponent part starts with `e` or `E`: neither a digit nor the point -/
theorem ExpPart.head {e : Str} (he : ExpPart e) :
    (∀ c r', e = c :: r' → isDigitC c = false) ∧ fracSplit e = ([], e) := by
  rcases he with rfl | ⟨c, sg, d, hc, _, _, _, rfl⟩
  · exact ⟨nofun, rfl⟩
  · rcases hc with rfl | rfl
    · exact ⟨fun _ _ h => (List.cons.inj h).1 ▸ by decide, rfl⟩
    · exact ⟨fun _ _ h => (List.cons.inj h).1 ▸ by decide, rfl⟩

theorem specialF_iff (body : Str) : specialF body = true ↔ Special body := by
  simp [specialF, Special, or_assoc]

/-- a body of the grammar starts with a digit, the point or a letter: `stripSign` leaves it alone -/
theorem F64Body.head {body : Str} (h : F64Body body) : ∃ x r, body = x :: r ∧ ¬ (x = '-' ∨ x = '+') := by
  rcases h with ⟨m, e, rfl, ⟨a, b, ha, _, hm⟩, _⟩ | hs
  · cases a with
    | cons x a' =>
      have hx := digit_not_sign (ha x List.mem_cons_self)
      rcases hm with ⟨rfl, _⟩ | ⟨rfl, _⟩
      · exact ⟨x, _, rfl, hx⟩
      · exact ⟨x, _, rfl, hx⟩
    | nil =>
      rcases hm with ⟨_, hne⟩ | ⟨rfl, _⟩
      · exact absurd rfl hne
      · exact ⟨'.', _, rfl, by decide⟩
  · cases body with
    | nil => rcases hs with h | h | h <;> cases h
    | cons x r =>
      refine ⟨x, r, rfl, ?_⟩
      rintro (rfl | rfl) <;> rcases hs with h | h | h <;> exact absurd (List.cons.inj h).1 (by decide)

theorem F64Body.stripSign_eq {body : Str} (h : F64Body body) : stripSign body = body := by
  obtain ⟨x, r, rfl, hx⟩ := h.head
  exact if_neg hx

/-- the stages of `bodyOkF` on a text cut where its leading digits stop -/
theorem bodyOkF_append (a r : Str) (ha : DigitRun a) (hr : ∀ c r', r = c :: r' → isDigitC c = false)
    (hne : (a ++ r).isEmpty = false) :
    bodyOkF (a ++ r) =
      ((decide (a.length + (fracSplit r).1.length ≠ 0) && expOkF (fracSplit r).2) || specialF (a ++ r)) := by
  rw [bodyOkF, hne, (span_digits a r ha hr).1, (span_digits a r ha hr).2]
  rfl

theorem bodyOkF_of_grammar (body : Str) (h : F64Body body) : bodyOkF body = true := by
  obtain ⟨x, r, hbody, -⟩ := h.head
  have hne : body.isEmpty = false := by rw [hbody]; rfl
  rcases h with ⟨m, e, rfl, ⟨a, b, ha, hb, hm⟩, he⟩ | hs
  · rcases hm with ⟨rfl, hane⟩ | ⟨rfl, hab⟩
    · have hlen : m.length + (([] : Str), e).1.length ≠ 0 := fun h0 => hane (List.eq_nil_of_length_eq_zero h0)
      rw [bodyOkF_append m e ha he.head.1 hne, he.head.2, (expOkF_iff e).2 he, decide_eq_true hlen]
      rfl
    · have hdot : ∀ c r', '.' :: (b ++ e) = c :: r' → isDigitC c = false :=
        fun _ _ h => (List.cons.inj h).1 ▸ by decide
      have hfs : fracSplit ('.' :: (b ++ e)) = (b, e) := by
        rw [fracSplit, if_pos rfl, (span_digits b e hb he.head.1).1, (span_digits b e hb he.head.1).2]
      have hlen : a.length + (b, e).1.length ≠ 0 := fun h0 =>
        hab.elim (fun h => h (List.eq_nil_of_length_eq_zero (Nat.eq_zero_of_add_eq_zero_right h0)))
          (fun h => h (List.eq_nil_of_length_eq_zero (Nat.eq_zero_of_add_eq_zero_left h0)))
      rw [List.append_assoc, List.cons_append] at hne ⊢
      rw [bodyOkF_append a _ ha hdot hne, hfs, (expOkF_iff e).2 he, decide_eq_true hlen]
      rfl
  · rw [bodyOkF, hne, (specialF_iff body).2 hs, Bool.or_true]
    rfl

theorem grammar_of_bodyOkF (body : Str) (h : bodyOkF body = true) : F64Body body := by
  unfold bodyOkF at h
  split at h
  · cases h
  · rw [Bool.or_eq_true] at h
    rcases h with h | h
    · left
      rw [Bool.and_eq_true, decide_eq_true_eq] at h
      obtain ⟨hman, hexp⟩ := h
      obtain ⟨ha, hr1, hbody⟩ := span_exists body
      generalize hA : body.takeWhile isDigitC = a at *
      generalize hR : body.dropWhile isDigitC = r1 at *
      cases r1 with
      | nil =>
        simp only [fracSplit, List.length_nil, Nat.add_zero] at hman hexp
        refine ⟨a, [], by simpa using hbody, ⟨a, [], ha, by simp [DigitRun], .inl ⟨rfl, ?_⟩⟩, .inl rfl⟩
        intro e; rw [e] at hman; simp at hman
      | cons c r =>
        by_cases hc : c = '.'
        · subst hc
          obtain ⟨hb, _, hr⟩ := span_exists r
          have hfs : fracSplit ('.' :: r) = (r.takeWhile isDigitC, r.dropWhile isDigitC) := by simp [fracSplit]
          rw [hfs] at hman hexp
          refine ⟨a ++ '.' :: r.takeWhile isDigitC, r.dropWhile isDigitC, ?_,
            ⟨a, r.takeWhile isDigitC, ha, hb, .inr ⟨rfl, ?_⟩⟩, (expOkF_iff _).1 hexp⟩
          · rw [hbody]; simp only [List.append_assoc, List.cons_append]; rw [← hr]
          · simp only at hman
            by_cases hae : a = []
            · right; intro e; rw [hae, e] at hman; simp at hman
            · exact .inl hae
        · have hfs : fracSplit (c :: r) = ([], c :: r) := by simp [fracSplit, hc]
          rw [hfs] at hman hexp
          refine ⟨a, c :: r, hbody, ⟨a, [], ha, by simp [DigitRun], .inl ⟨rfl, ?_⟩⟩, (expOkF_iff _).1 hexp⟩
          intro e; rw [e] at hman; simp at hman
    · exact .inr ((specialF_iff body).1 h)

/-- the model's refusal test accepts exactly the texts of the grammar -/
theorem isF64Literal_iff_grammar (s : Str) : isF64Literal s = true ↔ F64Text s := by
  rw [isF64Literal_eq]
  constructor
  · intro h
    have hb := grammar_of_bodyOkF _ h
    cases s with
    | nil => exact ⟨[], [], rfl, .inl rfl, hb⟩
    | cons c r =>
      by_cases hc : c = '-' ∨ c = '+'
      · have hs : stripSign (c :: r) = r := if_pos hc
        rw [hs] at hb
        exact ⟨[c], r, rfl, .inr (hc.imp (congrArg (· :: [])) (congrArg (· :: []))), hb⟩
      · have hs : stripSign (c :: r) = c :: r := if_neg hc
        rw [hs] at hb
        exact ⟨[], c :: r, rfl, .inl rfl, hb⟩
  · rintro ⟨sg, body, rfl, hsg, hb⟩
    have hs : stripSign (sg ++ body) = body := by
      rcases hsg with rfl | hsg
      · exact hb.stripSign_eq
      · exact stripSign_sign sg body hsg
    rw [hs]
    exact bodyOkF_of_grammar body hb

/-! ### the literal grammar accepts every (signed) run of decimal digits -/

theorem F64Body_digits (s : Str) (hne : s ≠ []) (hd : s.all isDigitC = true) : F64Body s :=
  .inl ⟨s, [], (List.append_nil s).symm, ⟨s, [], List.all_eq_true.1 hd, nofun, .inl ⟨rfl, hne⟩⟩, .inl rfl⟩

theorem isF64Literal_digits (s : Str) (hne : s ≠ []) (hd : s.all isDigitC = true) : isF64Literal s = true :=
  (isF64Literal_iff_grammar s).2 ⟨[], s, rfl, .inl rfl, F64Body_digits s hne hd⟩

theorem isF64Literal_signed_digits (sg : Char) (hs : sg = '-' ∨ sg = '+') (s : Str) (hne : s ≠ [])
    (hd : s.all isDigitC = true) : isF64Literal (sg :: s) = true :=
  (isF64Literal_iff_grammar (sg :: s)).2
    ⟨[sg], s, rfl, .inr (hs.imp (congrArg (· :: [])) (congrArg (· :: []))), F64Body_digits s hne hd⟩

end ArrModel.C17
