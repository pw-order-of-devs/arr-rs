import Mathlib.Tactic.Ring
import ArrProofs.Lemmas.C13Bcast
import ArrProofs.Lemmas.C11Append
import ArrProofs.Lemmas.C08Empty
/-!
# C13: `repeat` along an axis

`Mathlib.Tactic.Ring` is imported for the algebraic instances on `Nat` it brings: the `List.sum` / `List.prod` in the
statements of this file and of `Props/C13` are elaborated with them (`Nat.instOne`, `Nat.instMulZeroClass`).  That is also
why `unravel_snoc` and `broadcastTo_lastaxis` stand here and not with the other broadcast facts in `C13Bcast`.

Worked in cut form (`C11Flat`): the shape is `P ++ n :: Q`, the axis is `P.length`, a coordinate is `p ++ j :: q`.
`repeatAxis_cut` is the call with its three layout steps (reshape to the swapped shape, `moveaxis`, reshape) folded into
one statement about flat positions; `repeatAxis_at` reads the slabs of `split` (`split_slabs`) through it.  In front of
them stand `rollaxis` to the front and `moveaxis` from the front in whole coordinates (`rollFront_spec`, `moveFront_spec`);
at the end the refusals and `Arr.repeatAxis_zero_ok`, the call on an array with an empty axis other than the working one.
-/
namespace ArrModel
open Arr
variable {α β : Type}

/-! ### `unravel` and `broadcast_to` on a shape `P ++ [L]` -/

theorem unravel_snoc : ∀ (P : List Nat) (L i : Nat), i < (P ++ [L]).prod →
    ∃ cp, unravel (P ++ [L]) i = cp ++ [i % L] ∧ cp.length = P.length :=
  unravel_append_last

/-- a vector of the last-axis length broadcast to a shape of any rank: the vector tiled once per row — both arms of the
code (the equal-count `reshape` shortcut when all leading axes are 1, the coordinate gather otherwise); a zero-length
LEADING axis gives the empty tiling -/
theorem broadcastTo_lastaxis (R : List β) (d : β) (P : List Nat) (hL : 0 < R.length) :
    (⟨R, [R.length]⟩ : Arr β).broadcastTo (P ++ [R.length]) =
      .ok ⟨(List.replicate P.prod R).flatten, P ++ [R.length]⟩ := by
  rw [broadcastTo_rows R P R.length hL (.inl rfl), bc1_same]

/-! ### whole coordinates and cut coordinates -/

theorem idx_mid (P Q : List Nat) (n : Nat) : Res.idx (P ++ n :: Q) P.length = .ok n := by simp [Res.idx]

/-- an in-range coordinate of a shape cut in two, cut at the same place -/
theorem inRange_append_inv (P Q c : List Nat) (h : inRange (P ++ Q) c = true) :
    ∃ p q, c = p ++ q ∧ inRange P p = true ∧ inRange Q q = true := by
  have hl : c.length = P.length + Q.length := (inRange_length _ _ h).trans List.length_append
  have hp : P.length = (c.take P.length).length := by
    rw [List.length_take, hl, Nat.min_eq_left (Nat.le_add_right _ _)]
  rw [← List.take_append_drop P.length c, inRange_append_append _ _ _ _ hp, Bool.and_eq_true] at h
  exact ⟨_, _, (List.take_append_drop _ _).symm, h⟩

/-- every position of a block of `P.prod * Q.prod` entries is a pair of coordinates -/
theorem exists_coords (P Q : List Nat) (x : Nat) (hx : x < P.prod * Q.prod) :
    ∃ p q, inRange P p = true ∧ inRange Q q = true ∧ ravel P p * Q.prod + ravel Q q = x := by
  have hQ : 0 < Q.prod := Nat.pos_of_ne_zero fun h => by rw [h] at hx; exact absurd hx (Nat.not_lt_zero _)
  obtain ⟨e1, h1⟩ := ravel_unravel P (x / Q.prod) (Nat.div_lt_of_lt_mul (by rwa [Nat.mul_comm]))
  obtain ⟨e2, h2⟩ := ravel_unravel Q (x % Q.prod) (Nat.mod_lt _ hQ)
  exact ⟨_, _, h1, h2, by rw [e1, e2]; exact Nat.div_add_mod' x Q.prod⟩

/-- `rollaxis(axis, None)`: the axis comes first, the others keep their order -/
theorem rollFront_spec (a : Arr α) (zero : α) (axis : Nat) (hwf : a.WF) (hax : axis < a.ndim) :
    ∃ arr, a.rollaxis zero (Int.ofNat axis) none = .ok arr ∧
      arr.shape = a.shape.getD axis 0 :: a.shape.eraseIdx axis ∧ arr.WF ∧
      ∀ c, inRange a.shape c = true → arr.get? (c.getD axis 0 :: c.eraseIdx axis) = a.get? c := by
  obtain ⟨P, Q, rfl, hs, he⟩ := C11.exists_cut a.shape axis hax
  generalize a.shape.getD P.length 0 = n at hs ⊢
  obtain ⟨arr, h1, h2, h3, h4⟩ := C11.toFront_spec a zero n P Q hwf hs
  refine ⟨arr, h1, ?_, h3, ?_⟩
  · rw [h2, he]; rfl
  · intro c hc
    rw [hs] at hc
    obtain ⟨p, j, q, rfl, hp, hj, hq⟩ := C11.inRange_cut P Q n c hc
    rw [← inRange_length _ _ hp, C11.getD_mid, C11.eraseIdx_mid]
    exact h4 p q j hp hq hj

/-- `moveaxis([0], [axis])`: the first axis goes to position `axis`, the others keep their order -/
theorem moveFront_spec (p : Arr β) (zb : β) (Q : List Nat) (m axis : Nat) (hwf : p.WF) (hs : p.shape = m :: Q)
    (hax : axis ≤ Q.length) :
    ∃ r, p.moveaxis zb [0] [Int.ofNat axis] = .ok r ∧ r.shape = Q.insertIdx axis m ∧ r.WF ∧
      ∀ q j, inRange Q q = true → j < m → r.get? (q.insertIdx axis j) = p.get? (j :: q) := by
  obtain ⟨P, T, rfl, rfl⟩ : ∃ P T, Q = P ++ T ∧ P.length = axis :=
    ⟨_, _, (List.take_append_drop axis Q).symm, by rw [List.length_take, Nat.min_eq_left hax]⟩
  obtain ⟨r, h1, h2, h3, h4⟩ := C11.frontTo_spec p zb m P T hwf hs
  refine ⟨r, h1, ?_, h3, ?_⟩
  · rw [h2, C11.insertIdx_mid]
  · intro q j hq hj
    obtain ⟨cp, ct, rfl, hcp, hct⟩ := inRange_append_inv P T q hq
    rw [← inRange_length _ _ hcp, C11.insertIdx_mid]
    exact h4 cp ct j hcp hct hj

/-- moving a unit axis does not change the flat element order -/
theorem moveFront_unit_elems (p : Arr β) (zb : β) (Q : List Nat) (axis : Nat) (hwf : p.WF) (hs : p.shape = 1 :: Q)
    (hax : axis ≤ Q.length) : ∃ r, p.moveaxis zb [0] [Int.ofNat axis] = .ok r ∧ r.elems = p.elems := by
  obtain ⟨r, h1, h2, h3, h4⟩ := moveFront_spec p zb Q 1 axis hwf hs hax
  refine ⟨r, h1, ?_⟩
  have hrl : r.elems.length = Q.prod := by
    rw [h3, h2]
    exact (perm_prod (List.perm_insertIdx 1 Q hax)).trans (by simp)
  have hpl : p.elems.length = Q.prod := by rw [hwf, hs]; simp
  apply List.ext_getElem?
  intro i
  by_cases hi : i < Q.prod
  · obtain ⟨e1, e2⟩ := ravel_unravel Q i hi
    have := h4 (unravel Q i) 0 e2 Nat.one_pos
    simp only [Arr.get?, h2, hs] at this
    rw [ravel_insertIdx_one _ _ _ (inRange_length _ _ e2).symm, e1] at this
    simpa [ravel, e1] using this
  · rw [List.getElem?_eq_none (hrl ▸ Nat.le_of_not_lt hi), List.getElem?_eq_none (hpl ▸ Nat.le_of_not_lt hi)]

theorem ravel_insert_mid (P T cp ct : List Nat) (L l i : Nat) (hi : i = P.length) (hl : cp.length = P.length) :
    ravel ((P ++ T).insertIdx i L) ((cp ++ ct).insertIdx i l)
      = ravel P cp * (L * T.prod) + l * T.prod + ravel T ct := by
  subst hi
  rw [C11.insertIdx_mid, ← hl, C11.insertIdx_mid, C11.ravel_mid _ _ _ _ _ _ hl.symm, Nat.add_mul, Nat.mul_assoc]

/-! ### `split(n, Some(axis))` with `n` = the axis length: the `n` slabs -/

theorem split_eq_arraySplit (a : Arr α) (zero : α) (P Q : List Nat) (n : Nat) (hwf : a.WF) (hs : a.shape = P ++ n :: Q)
    (hnz : 0 ∉ a.shape) : a.split zero n (some P.length) = a.arraySplit zero n (some P.length) := by
  have hn : n ≠ 0 := fun e => hnz (by rw [hs, e]; simp)
  have hax : ¬ decide (P.length ≥ a.ndim) = true := by simpa using C11.lt_ndim_cut a P Q n hs
  have hidx : Res.idx a.shape P.length = .ok n := hs ▸ idx_mid P Q n
  unfold Arr.split
  simp only [Option.getD_some, hax, hn, show a.isEmpty = false from Bool.eq_false_iff.2 fun h => hnz ((C11.isEmpty_iff_zero_mem a hwf).1 h), hidx, Res.bind_ok, Nat.mod_self,
    Bool.false_eq_true, if_false, if_true]

/-- the slabs: `n` pieces of `P.prod * Q.prod` entries, piece `i` holding the entries whose axis coordinate is `i` -/
theorem split_slabs (a : Arr α) (zero : α) (P Q : List Nat) (n : Nat) (hwf : a.WF) (hs : a.shape = P ++ n :: Q)
    (hnz : 0 ∉ a.shape) :
    ∃ pieces, a.split zero n (some P.length) = .ok pieces ∧ pieces.length = n ∧
      ∀ i (hi : i < pieces.length), pieces[i].elems.length = P.prod * Q.prod ∧
        ∀ p q, inRange P p = true → inRange Q q = true →
          pieces[i].elems[ravel P p * Q.prod + ravel Q q]? = a.get? (p ++ i :: q) := by
  have hn : 0 < n := Nat.pos_of_ne_zero fun e => hnz (by rw [hs, e]; simp)
  obtain ⟨pieces, h1, h2, h3⟩ := C11.arraySplit_cut a zero n n P Q hwf hs hnz hn
  rw [C11.sectionSizes_self n hn] at h3
  refine ⟨pieces, (split_eq_arraySplit a zero P Q n hwf hs hnz).trans h1, h2, ?_⟩
  intro i hi
  obtain ⟨g1, g2, g3⟩ := h3 i hi
  have hin : i < n := h2 ▸ hi
  rw [C11.getD_replicate_one n i hin] at g1 g3
  refine ⟨by rw [g2, g1]; simp [List.prod_append], ?_⟩
  intro p q hp hq
  have := g3 p q 0 hp hq Nat.one_pos
  rw [C11.sum_take_replicate_one n i (Nat.le_of_lt hin), Nat.add_zero] at this
  rw [← this]
  simp only [Arr.get?, g1]
  rw [C11.ravel_mid _ _ _ _ _ _ (inRange_length _ _ hp).symm, Nat.mul_one, Nat.add_zero]

/-- the slabs of `split` along an axis, as flat element lists: slab `k` is chunk `k` of the array rolled to the front -/
theorem split_axis_elems (a : Arr α) (zero : α) (axis : Nat) (hwf : a.WF) (hax : axis < a.ndim) (hnz : 0 ∉ a.shape) :
    ∃ arr pieces, a.rollaxis zero (Int.ofNat axis) none = .ok arr ∧
      arr.shape = a.shape.getD axis 0 :: a.shape.eraseIdx axis ∧ arr.WF ∧
      (∀ c, inRange a.shape c = true → arr.get? (c.getD axis 0 :: c.eraseIdx axis) = a.get? c) ∧
      a.split zero (a.shape.getD axis 0) (some axis) = .ok pieces ∧
      pieces.map (·.elems) = (List.range (a.shape.getD axis 0)).map (fun k =>
        (arr.elems.drop (k * (a.shape.eraseIdx axis).prod)).take (a.shape.eraseIdx axis).prod) := by
  obtain ⟨arr, ha1, ha2, ha3, ha4⟩ := rollFront_spec a zero axis hwf hax
  obtain ⟨P, Q, rfl, hs, he⟩ := C11.exists_cut a.shape axis hax
  generalize a.shape.getD P.length 0 = n at hs ha2 ⊢
  obtain ⟨pieces, hp1, hp2, hp3⟩ := split_slabs a zero P Q n hwf hs hnz
  refine ⟨arr, pieces, ha1, ha2, ha3, ha4, hp1, ?_⟩
  rw [he, List.prod_append]
  apply List.ext_getElem
  · simp [hp2]
  intro i hi _
  have hi' : i < pieces.length := by simpa using hi
  obtain ⟨hl, hget⟩ := hp3 i hi'
  rw [List.getElem_map, List.getElem_map, List.getElem_range]
  -- both lists read `a` at `(p, i, q)` in position `(p, q)`
  apply List.ext_getElem?
  intro x
  by_cases hx : x < P.prod * Q.prod
  · obtain ⟨p, q, hp, hq, rfl⟩ := exists_coords P Q x hx
    have hc : inRange a.shape (p ++ i :: q) = true := by
      rw [hs]; exact C11.inRange_mid_true _ _ _ _ _ _ hp (hp2 ▸ hi') hq
    have := ha4 _ hc
    rw [← inRange_length _ _ hp, C11.getD_mid, C11.eraseIdx_mid] at this
    rw [hget p q hp hq, List.getElem?_take, if_pos hx, List.getElem?_drop, ← this]
    simp only [Arr.get?, ha2, hs, C11.eraseIdx_mid, ravel, List.prod_append]
    rw [ravel_append_append _ _ _ _ (inRange_length _ _ hp).symm]
  · rw [List.getElem?_eq_none (hl ▸ Nat.le_of_not_lt hx),
      List.getElem?_eq_none (Nat.le_trans (List.length_take_le _ _) (Nat.le_of_not_lt hx))]

/-! ### the layout steps of `repeat` along an axis -/

/-- `new_shape.swap_ext(0, axis)`: the new axis length in front, then a rearrangement of the leading axes (same
length, same product), then the trailing axes -/
theorem swapExt_cut (P Q : List Nat) (n L : Nat) :
    ∃ P', (((P ++ n :: Q).set P.length L).set 0 L).set P.length (((P ++ n :: Q).set P.length L).getD 0 0)
        = L :: P' ++ Q ∧ P'.length = P.length ∧ P'.prod = P.prod := by
  cases P with
  | nil => exact ⟨[], rfl, rfl, rfl⟩
  | cons d P1 =>
    refine ⟨P1 ++ [d], ?_, by simp, by simp [List.prod_append, Nat.mul_comm]⟩
    rw [C11.set_mid]
    simp only [List.cons_append, List.set_cons_zero, List.getD_cons_zero, List.length_cons, List.set_cons_succ,
      List.append_assoc, List.nil_append]
    rw [C11.set_mid]

theorem tmpShape_decomp : ∀ (s : List Nat) (axis L : Nat), axis < s.length →
    ∃ P', ((s.set axis L).set 0 L).set axis ((s.set axis L).getD 0 0) = L :: (P' ++ (s.eraseIdx axis).drop axis) ∧
      P'.length = axis ∧ P'.prod = ((s.eraseIdx axis).take axis).prod := by
  intro s axis L h
  obtain ⟨P, Q, rfl, hs, -⟩ := C11.exists_cut s axis h
  generalize s.getD P.length 0 = n at hs
  subst hs
  obtain ⟨P', h1, h2, h3⟩ := swapExt_cut P Q n L
  exact ⟨P', by rw [h1, C11.eraseIdx_mid, List.drop_left]; rfl, h2, by rw [h3, C11.eraseIdx_mid, List.take_left]⟩

/-- a flat buffer laid out as `N :: P' ++ Q`, its first axis moved behind the `P'` block: the result read under
`P ++ N :: Q`, for any `P` of the length and product of `P'`, position by position -/
theorem moveFront_flat (E : List α) (zero : α) (N : Nat) (P P' Q : List Nat) (hl : P'.length = P.length)
    (hp : P'.prod = P.prod) (hE : E.length = N * (P.prod * Q.prod)) :
    ∃ m, (⟨E, N :: P' ++ Q⟩ : Arr α).moveaxis zero [0] [Int.ofNat P.length] = .ok m ∧ m.elems.length = E.length ∧
      ∀ p q j, inRange P p = true → inRange Q q = true → j < N →
        m.elems[ravel (P ++ N :: Q) (p ++ j :: q)]? = E[(j * P.prod + ravel P p) * Q.prod + ravel Q q]? := by
  obtain ⟨m, h1, h2, h3, h4⟩ := C11.moveFront_flat E zero N P' Q (hp ▸ hE)
  rw [hl] at h1
  refine ⟨m, h1, ?_, ?_⟩
  · rw [h3, h2, hE, List.prod_append, List.prod_cons, hp, Nat.mul_left_comm]
  · intro p q j hp' hq hj
    rw [C11.ravel_mid _ _ _ _ _ _ (inRange_length _ _ hp').symm, ← hp]
    exact h4 _ _ j (hp ▸ ravel_lt _ _ hp') (ravel_lt _ _ hq) hj

/-- **`repeat` along axis `P.length` of a shape `P ++ n :: Q`, once the counts `R` are accepted and `split` has answered**:
`E` is the chained buffer of the replicated pieces; the call reshapes it to the swapped shape, moves the first axis back
and reshapes again, so entry `(p, j, q)` of the result is entry `(j, p, q)` of `E` -/
theorem repeatAxis_cut (a : Arr α) (zero : α) (repeats R : List Nat) (P Q : List Nat) (n : Nat) (pieces : List (Arr α))
    (E : List α) (hs : a.shape = P ++ n :: Q) (hbc : (Arr.flat repeats).broadcastTo [n] = .ok ⟨R, [n]⟩)
    (hsplit : a.split zero n (some P.length) = .ok pieces)
    (hE : E = ((pieces.zip R).flatMap (fun p => List.replicate p.2 p.1)).flatMap (·.elems))
    (hEl : E.length = R.sum * (P.prod * Q.prod)) :
    ∃ m, a.repeatAxis zero repeats P.length = .ok ⟨m, P ++ R.sum :: Q⟩ ∧ m.length = R.sum * (P.prod * Q.prod) ∧
      ∀ p q j, inRange P p = true → inRange Q q = true → j < R.sum →
        m[ravel (P ++ R.sum :: Q) (p ++ j :: q)]? = E[(j * P.prod + ravel P p) * Q.prod + ravel Q q]? := by
  obtain ⟨P', htmp, hl, hp⟩ := swapExt_cut P Q n R.sum
  obtain ⟨m, hm1, hm2, hm3⟩ := moveFront_flat E zero R.sum P P' Q hl hp hEl
  refine ⟨m.elems, ?_, hm2.trans hEl, hm3⟩
  unfold Arr.repeatAxis
  rw [if_neg (Nat.not_le_of_lt (C11.lt_ndim_cut a P Q n hs))]
  simp only [hs, idx_mid, Res.bind_ok, hbc, hsplit, ← hE, htmp]
  rw [show (Arr.flat E).reshape (R.sum :: P' ++ Q) = .ok ⟨E, R.sum :: P' ++ Q⟩ from
      Arr.new_of_prod (by show _ = E.length; rw [hEl, List.cons_append, List.prod_cons, List.prod_append, hp]),
    Res.bind_ok, hm1, Res.bind_ok, C11.set_mid]
  exact Arr.new_of_prod (by rw [hm2, hEl, List.prod_append, List.prod_cons, Nat.mul_left_comm])

/-- counts that `broadcast_to([n])` refuses are refused by `repeat` along the axis -/
theorem repeatAxis_count_err (a : Arr α) (zero : α) (repeats : List Nat) (axis : Nat) (hax : axis < a.ndim)
    (h : ¬ (0 < a.shape.getD axis 0 ∧ (repeats.length = a.shape.getD axis 0 ∨ repeats.length = 1))) :
    a.repeatAxis zero repeats axis = .err .BroadcastShapeMismatch := by
  have hidx : Res.idx a.shape axis = .ok (a.shape.getD axis 0) := by
    simp [Res.idx, List.getD_eq_getElem?_getD, show axis < a.shape.length from hax]
  unfold Arr.repeatAxis
  rw [if_neg (Nat.not_le_of_lt hax), hidx, Res.bind_ok, show Arr.flat repeats = ⟨repeats, [repeats.length]⟩ from rfl,
    broadcastTo_1d_reject _ _ h]
  rfl

theorem repeatAxis_axis_err (a : Arr α) (zero : α) (repeats : List Nat) (axis : Nat) (h : a.ndim ≤ axis) :
    a.repeatAxis zero repeats axis = .err .AxisOutOfBounds :=
  if_pos h

/-! ### `repeat` along an axis -/

/-- **`repeat(repeats, Some(axis))`, every axis of every rank**, in cut form: output index `j` of the axis reads source
index `(expandIdx R)[j]`, `R` the counts stretched to the axis length -/
theorem repeatAxis_at (a : Arr α) (zero : α) (repeats : List Nat) (P Q : List Nat) (n : Nat) (hwf : a.WF)
    (hs : a.shape = P ++ n :: Q) (hnz : 0 ∉ a.shape) (hr : repeats.length = n ∨ repeats.length = 1) :
    ∃ r, a.repeatAxis zero repeats P.length = .ok r ∧ r.shape = P ++ (bc1 repeats n).sum :: Q ∧ r.WF ∧
      ∀ p q j, inRange P p = true → inRange Q q = true → j < (bc1 repeats n).sum →
        ∃ k, (expandIdx (bc1 repeats n))[j]? = some k ∧ r.get? (p ++ j :: q) = a.get? (p ++ k :: q) := by
  have hn : 0 < n := Nat.pos_of_ne_zero fun e => hnz (by rw [hs, e]; simp)
  have hbc := broadcastTo_1d repeats n hn hr
  have hRl := bc1_length repeats n hr
  generalize bc1 repeats n = R at hbc hRl ⊢
  obtain ⟨pieces, hp1, hp2, hp3⟩ := split_slabs a zero P Q n hwf hs hnz
  obtain ⟨hEl, hEget⟩ := expand_blocks (·.elems) (P.prod * Q.prod) pieces R (hp2.trans hRl.symm) (fun x hx => by
    obtain ⟨i, hi, rfl⟩ := List.getElem_of_mem hx
    exact (hp3 i hi).1)
  obtain ⟨m, hm1, hm2, hm3⟩ := repeatAxis_cut a zero repeats R P Q n pieces _ hs hbc hp1 rfl hEl
  refine ⟨_, hm1, rfl, by rw [Arr.WF, hm2, List.prod_append, List.prod_cons, Nat.mul_left_comm], ?_⟩
  intro p q j hp hq hj
  have hx : ravel P p * Q.prod + ravel Q q < P.prod * Q.prod := mul_add_lt (ravel_lt _ _ hp) (ravel_lt _ _ hq)
  obtain ⟨k, hk, hjk, hread⟩ := hEget j _ hj hx
  refine ⟨k, hjk, ?_⟩
  show m[ravel (P ++ R.sum :: Q) (p ++ j :: q)]? = _
  rw [hm3 p q j hp hq hj, C11.lin3_eq, hread, (hp3 k hk).2 p q hp hq]

/-- **`repeat` along an axis, an empty axis OTHER than the working axis** (the working axis itself is not empty), counts
of the axis length or a single count: the empty array with the working axis set to the sum of the counts -/
theorem Arr.repeatAxis_zero_ok (a : Arr α) (zero : α) (repeats : List Nat) (axis : Nat)
    (hwf : a.WF) (hax : axis < a.ndim) (hz : 0 ∈ a.shape) (hn : a.shape.getD axis 0 ≠ 0)
    (hr : repeats.length = a.shape.getD axis 0 ∨ repeats.length = 1) :
    a.repeatAxis zero repeats axis = .ok ⟨[], a.shape.set axis (bc1 repeats (a.shape.getD axis 0)).sum⟩ := by
  obtain ⟨P, Q, rfl, hs, -⟩ := C11.exists_cut a.shape axis hax
  generalize a.shape.getD P.length 0 = n at hs hn hr ⊢
  rw [hs]
  have hnil : a.elems = [] := elems_nil_of_zero_mem a hwf hz
  have hS : P.prod * Q.prod = 0 := by
    have := prod_eq_zero_of_mem _ hz
    rw [hs, List.prod_append, List.prod_cons] at this
    rcases Nat.mul_eq_zero.1 this with h | h
    · rw [h, Nat.zero_mul]
    · rw [(Nat.mul_eq_zero.1 h).resolve_left hn, Nat.mul_zero]
  -- `split` hands back the empty array itself, so the chained buffer is empty
  have hsplit : a.split zero n (some P.length) = .ok [a] := by
    unfold Arr.split
    simp only [Option.getD_some, Arr.isEmpty, hnil, List.length_nil, beq_self_eq_true, hn, if_false, if_true]
    rw [if_neg (by simpa using C11.lt_ndim_cut a P Q n hs)]
  obtain ⟨m, hm1, hm2, _⟩ := repeatAxis_cut a zero repeats (bc1 repeats n) P Q n [a] [] hs
    (broadcastTo_1d repeats n (Nat.pos_of_ne_zero hn) hr) hsplit
    (flatMap_replicate_nil (·.elems) [a] _ (fun x hx => by rw [List.mem_singleton.1 hx, hnil])).symm
    (by rw [hS]; rfl)
  rw [hS, Nat.mul_zero] at hm2
  rw [hm1, List.eq_nil_of_length_eq_zero hm2, C11.set_mid]

end ArrModel
