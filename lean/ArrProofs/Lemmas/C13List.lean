import ArrModel.C13
import ArrProofs.Lemmas.C07
import ArrProofs.Lemmas.C11Flat
/-!
# C13 on plain lists

Removing a set of positions (`dropIdx`, `deleteOrder`, `keepPositions` / `keptIdx`) and flat `delete` in those terms
(`Arr.deleteFlat_ok`, `Arr.deleteFlat_err`), the insertion fold of flat `insert` (`sortByIdx`, `insertAllAt`, `landing`),
the run-length expansion of `repeat` (`expandIdx`), tiling, `trim_zeros` (`trimList`).
-/
namespace ArrModel
open Arr
variable {α β γ : Type}

/-! ### `dedupSorted`, `deleteOrder` -/

theorem mem_dedupSorted (x : Nat) : ∀ (l : List Nat), x ∈ dedupSorted l ↔ x ∈ l := by
  intro l
  fun_induction dedupSorted l with
  | case1 a r ih => simp only [List.mem_cons] at ih ⊢; rw [ih]; simp
  | case2 a b r h ih => simp only [List.mem_cons] at ih ⊢; rw [ih]
  | case3 l h => rfl

theorem dedupSorted_strict : ∀ (l : List Nat), l.Pairwise (· ≤ ·) → (dedupSorted l).Pairwise (· < ·) := by
  intro l
  fun_induction dedupSorted l with
  | case1 a r ih => intro h; exact ih (List.pairwise_cons.1 h).2
  | case2 a b r hne ih =>
    intro h
    rw [List.pairwise_cons] at h
    refine List.pairwise_cons.2 ⟨?_, ih h.2⟩
    intro y hy
    rw [mem_dedupSorted] at hy
    have h1 := h.1 b List.mem_cons_self
    rcases List.mem_cons.1 hy with rfl | hy'
    · omega
    · have := (List.pairwise_cons.1 h.2).1 y hy'; omega
  | case3 l h =>
    intro _
    match l, h with
    | [], _ => exact List.Pairwise.nil
    | [a], _ => exact List.pairwise_singleton _ _
    | a :: b :: r, h => exact absurd rfl (h a b r)

theorem mem_deleteOrder (x : Nat) (l : List Nat) : x ∈ deleteOrder l ↔ x ∈ l := by
  unfold deleteOrder
  rw [List.mem_reverse, mem_dedupSorted, mem_sortNat]

theorem deleteOrder_desc (l : List Nat) : (deleteOrder l).Pairwise (· > ·) := by
  unfold deleteOrder
  rw [List.pairwise_reverse]
  exact dedupSorted_strict _ (sortNat_sorted l)

theorem deleteOrder_nodup (l : List Nat) : (deleteOrder l).Nodup :=
  (deleteOrder_desc l).imp (by intro a b h; omega)

/-! ### flat delete -/

/-- the elements whose POSITION is not requested, in order -/
def keepPositions (l : List α) (idxs : List Nat) : List α :=
  (l.zipIdx.filter (fun p => decide (p.2 ∉ idxs))).map (·.1)

theorem keepPositions_eq_dropIdx (l : List α) (idxs : List Nat) :
    keepPositions l idxs = dropIdx (fun i => decide (i ∈ idxs)) l := by
  refine Eq.trans ?_ (dropIdx_eq_filter l (fun i => decide (i ∈ idxs)) 0).symm
  unfold keepPositions
  congr 2; funext p; simp

theorem deleteOrder_any (idxs : List Nat) (n : Nat) :
    (deleteOrder idxs).any (fun i => decide (i ≥ n)) = true ↔ ∃ i ∈ idxs, n ≤ i := by
  simp only [List.any_eq_true, mem_deleteOrder, decide_eq_true_eq, ge_iff_le]

theorem Arr.deleteFlat_err (a : Arr α) (idxs : List Nat) (h : ∃ i ∈ idxs, a.elems.length ≤ i) :
    a.deleteFlat idxs = .err .OutOfBounds :=
  if_pos ((deleteOrder_any _ _).2 h)

theorem Arr.deleteFlat_ok (a : Arr α) (idxs : List Nat) (h : ∀ i ∈ idxs, i < a.elems.length) :
    a.deleteFlat idxs = .ok (Arr.flat (keepPositions a.elems idxs)) := by
  have hany : ¬ (deleteOrder idxs).any (fun i => decide (i ≥ a.elems.length)) = true := fun hb =>
    have ⟨i, hi, hle⟩ := (deleteOrder_any _ _).1 hb
    Nat.lt_irrefl _ (Nat.lt_of_lt_of_le (h i hi) hle)
  refine (if_neg hany).trans ?_
  rw [eraseFold_eq_dropIdx _ _ (deleteOrder_desc idxs), keepPositions_eq_dropIdx]
  congr 2
  apply dropIdx_congr
  intro i; simp [mem_deleteOrder]

/-- the kept positions, as numbers -/
def keptIdx (n : Nat) (idxs : List Nat) : List Nat := (List.range n).filter (fun i => decide (i ∉ idxs))

theorem keptIdx_lt (n : Nat) (idxs : List Nat) (k : Nat) (h : k ∈ keptIdx n idxs) : k < n ∧ k ∉ idxs := by
  simpa [keptIdx] using h

theorem keptIdx_length (n : Nat) (idxs : List Nat) :
    (keptIdx n idxs).length + ((List.range n).filter (fun i => decide (i ∈ idxs))).length = n := by
  have h := List.length_eq_countP_add_countP (fun i => decide (i ∈ idxs)) (l := List.range n)
  simp only [List.countP_eq_length_filter, List.length_range, decide_eq_true_eq] at h
  unfold keptIdx
  omega

/-- the elements kept by a removal are the elements at the kept positions, in increasing position order -/
theorem keepPositions_eq_kept : ∀ (n : Nat) (l : List α) (idxs : List Nat), l.length = n →
    keepPositions l idxs = (keptIdx n idxs).filterMap (fun i => l[i]?)
  | 0, l, idxs, h => by
    have : l = [] := List.length_eq_zero_iff.1 h
    subst this; rfl
  | n + 1, l, idxs, h => by
    rcases List.eq_nil_or_concat l with rfl | ⟨l', x, rfl⟩
    · simp at h
    · rw [List.concat_eq_append] at h ⊢
      have hl' : l'.length = n := by simpa using h
      have ih := keepPositions_eq_kept n l' idxs hl'
      unfold keepPositions keptIdx at ih ⊢
      rw [List.zipIdx_append, List.filter_append, List.map_append, ih, List.range_succ, List.filter_append,
        List.filterMap_append]
      congr 1
      · apply List.filterMap_congr
        intro i hi
        have : i < n := by simpa using (List.mem_filter.1 hi).1
        rw [List.getElem?_append_left (by omega)]
      · subst hl'
        rw [Nat.zero_add, List.zipIdx_singleton, List.filter_singleton, List.filter_singleton]
        cases decide (l'.length ∉ idxs)
        · rfl
        · simp only [cond, List.map_cons, List.map_nil, List.filterMap_cons, List.filterMap_nil,
            List.getElem?_concat_length]

theorem isSome_getElem?_of_mem_keptIdx (l : List α) (idxs : List Nat) (k : Nat) (hk : k ∈ keptIdx l.length idxs) :
    (l[k]?).isSome = true := by
  simp [(keptIdx_lt _ _ _ hk).1]

theorem keepPositions_getElem? (l : List α) (idxs : List Nat) (j : Nat) :
    (keepPositions l idxs)[j]? = (keptIdx l.length idxs)[j]?.bind (fun i => l[i]?) := by
  rw [keepPositions_eq_kept l.length l idxs rfl, getElem?_filterMap_of_isSome]
  exact isSome_getElem?_of_mem_keptIdx l idxs

theorem keepPositions_length_keptIdx (l : List α) (idxs : List Nat) :
    (keepPositions l idxs).length = (keptIdx l.length idxs).length := by
  rw [keepPositions_eq_kept l.length l idxs rfl, length_filterMap_of_isSome]
  exact isSome_getElem?_of_mem_keptIdx l idxs

theorem keepPositions_length (l : List α) (idxs : List Nat) :
    (keepPositions l idxs).length + ((List.range l.length).filter (fun i => decide (i ∈ idxs))).length = l.length := by
  rw [keepPositions_length_keptIdx]; exact keptIdx_length _ _

/-! ### `sortByIdx` -/

theorem sortByIdx_perm (l : List (Nat × α)) : (sortByIdx l).Perm l := List.mergeSort_perm _ _

theorem sortByIdx_sorted (l : List (Nat × α)) : (sortByIdx l).Pairwise (fun p q => p.1 ≤ q.1) := by
  have h := List.pairwise_mergeSort (le := fun (p q : Nat × α) => decide (p.1 ≤ q.1))
    (by intro a b c; simp only [decide_eq_true_eq]; omega)
    (by intro a b; simp only [Bool.or_eq_true, decide_eq_true_eq]; omega) l
  exact h.imp (by intro a b; simp)

theorem sortByIdx_of_sorted (l : List (Nat × α)) (h : l.Pairwise (fun p q => p.1 ≤ q.1)) : sortByIdx l = l :=
  List.mergeSort_of_pairwise (h.imp (by intro a b; simp))

theorem sortByIdx_length (l : List (Nat × α)) : (sortByIdx l).length = l.length := (sortByIdx_perm l).length_eq

/-- stability: the pairs carrying one and the same index keep their request order -/
theorem sortByIdx_stable (l : List (Nat × α)) (i : Nat) :
    (sortByIdx l).filter (fun p => p.1 == i) = l.filter (fun p => p.1 == i) := by
  have hsub : (l.filter (fun p => p.1 == i)).Sublist (sortByIdx l) := by
    apply List.sublist_mergeSort (le := fun (p q : Nat × α) => decide (p.1 ≤ q.1))
      (by intro a b c; simp only [decide_eq_true_eq]; omega)
      (by intro a b; simp only [Bool.or_eq_true, decide_eq_true_eq]; omega)
    · apply List.pairwise_of_forall_mem_list
      intro a ha b hb
      have h1 := (List.mem_filter.1 ha).2
      have h2 := (List.mem_filter.1 hb).2
      simp only [beq_iff_eq] at h1 h2
      simp [h1, h2]
    · exact List.filter_sublist
  have h2 := hsub.filter (fun p => p.1 == i)
  rw [List.filter_filter] at h2
  simp only [Bool.and_self] at h2
  exact (h2.eq_of_length ((sortByIdx_perm l).filter _).length_eq.symm).symm

/-! ### the insertion fold -/

/-- insert the pairs from the last to the first -/
def insertAllAt (l : List α) (S : List (Nat × α)) : List α := S.foldr (fun p es => es.insertIdx p.1 p.2) l

/-- landing positions: the `j`-th pair (in sorted order) lands at its index plus `j` -/
def landing (S : List (Nat × α)) : List Nat := S.zipIdx.map (fun q => q.1.1 + q.2)

theorem landing_nil : landing ([] : List (Nat × α)) = [] := rfl

theorem landing_cons (p : Nat × α) (S : List (Nat × α)) : landing (p :: S) = p.1 :: (landing S).map (· + 1) := by
  unfold landing
  rw [List.zipIdx_cons, List.map_cons, Nat.zero_add, List.zipIdx_succ, List.map_map, List.map_map]
  rfl

theorem landing_length (S : List (Nat × α)) : (landing S).length = S.length := by simp [landing]

theorem landing_getElem? (S : List (Nat × α)) (j : Nat) : (landing S)[j]? = S[j]?.map (fun p => p.1 + j) := by
  unfold landing
  rw [List.getElem?_map, List.getElem?_zipIdx]
  cases S[j]? <;> simp

theorem landing_ge : ∀ (S : List (Nat × α)) (m : Nat), (∀ q ∈ S, m ≤ q.1) → ∀ y ∈ landing S, m ≤ y
  | [], _, _, y, hy => by simp [landing] at hy
  | p :: S, m, h, y, hy => by
    rw [landing_cons] at hy
    rcases List.mem_cons.1 hy with rfl | hy'
    · exact h p List.mem_cons_self
    · obtain ⟨y', hy1, rfl⟩ := List.mem_map.1 hy'
      have := landing_ge S m (fun q hq => h q (List.mem_cons_of_mem _ hq)) y' hy1
      omega

theorem landing_lt (S : List (Nat × α)) (n : Nat) (h : ∀ p ∈ S, p.1 ≤ n) : ∀ y ∈ landing S, y < n + S.length := by
  intro y hy
  obtain ⟨j, hj, e⟩ := List.getElem_of_mem hy
  have hj' : j < S.length := by simpa [landing_length] using hj
  have := landing_getElem? S j
  rw [List.getElem?_eq_getElem hj, List.getElem?_eq_getElem hj'] at this
  simp only [Option.map_some, Option.some.injEq] at this
  have := h S[j] (List.getElem_mem hj')
  omega

theorem insertAllAt_length : ∀ (S : List (Nat × α)) (l : List α), (∀ p ∈ S, p.1 ≤ l.length) →
    (insertAllAt l S).length = l.length + S.length
  | [], _, _ => rfl
  | p :: S, l, h => by
    have ih := insertAllAt_length S l (fun q hq => h q (List.mem_cons_of_mem _ hq))
    have hp := h p List.mem_cons_self
    show ((insertAllAt l S).insertIdx p.1 p.2).length = _
    rw [List.length_insertIdx_of_le_length (by omega), ih, List.length_cons]; omega

/-- the model's fold over the reversed pair list never panics and computes `insertAllAt` -/
theorem insert_fold_eq : ∀ (S : List (Nat × α)) (l : List α), (∀ p ∈ S, p.1 ≤ l.length) →
    S.reverse.foldl (fun (acc : Res (List α)) p => acc >>= fun es => vecInsert es p.1 p.2) (.ok l)
      = .ok (insertAllAt l S)
  | [], _, _ => rfl
  | p :: S, l, h => by
    have hS := fun q hq => h q (List.mem_cons_of_mem _ hq)
    have ih := insert_fold_eq S l hS
    have hp := h p List.mem_cons_self
    have hlen := insertAllAt_length S l hS
    rw [List.reverse_cons, List.foldl_append, ih]
    simp only [List.foldl_cons, List.foldl_nil, Res.bind_ok, vecInsert]
    rw [if_neg (by omega)]
    rfl

/-- the part of the list before every insertion index is untouched -/
theorem insertAllAt_take : ∀ (S : List (Nat × α)) (l : List α) (m : Nat), (∀ q ∈ S, m ≤ q.1) →
    (insertAllAt l S).take m = l.take m
  | [], _, _, _ => rfl
  | p :: S, l, m, h => by
    have ih := insertAllAt_take S l m (fun q hq => h q (List.mem_cons_of_mem _ hq))
    have hp := h p List.mem_cons_self
    show ((insertAllAt l S).insertIdx p.1 p.2).take m = _
    rw [← ih]
    apply List.ext_getElem?
    intro i
    rw [List.getElem?_take, List.getElem?_take]
    split
    · rw [List.getElem?_insertIdx_of_lt (by omega)]
    · rfl

/-- the `j`-th pair of the sorted list sits at its landing position -/
theorem insertAllAt_at_landing : ∀ (S : List (Nat × α)) (l : List α), S.Pairwise (fun p q => p.1 ≤ q.1) →
    (∀ p ∈ S, p.1 ≤ l.length) → ∀ j (hj : j < S.length), (insertAllAt l S)[S[j].1 + j]? = some S[j].2
  | [], _, _, _, j, hj => by simp at hj
  | p :: S, l, hs, h, j, hj => by
    rw [List.pairwise_cons] at hs
    have hS := fun q hq => h q (List.mem_cons_of_mem _ hq)
    have hp := h p List.mem_cons_self
    have hlen := insertAllAt_length S l hS
    show ((insertAllAt l S).insertIdx p.1 p.2)[_]? = _
    cases j with
    | zero =>
      simp only [List.getElem_cons_zero, Nat.add_zero]
      rw [List.getElem?_insertIdx_self, if_pos (by omega)]
    | succ j =>
      have hj' : j < S.length := by simpa using hj
      simp only [List.getElem_cons_succ]
      have := hs.1 S[j] (List.getElem_mem hj')
      rw [List.getElem?_insertIdx_of_gt (by omega)]
      exact insertAllAt_at_landing S l hs.2 hS j hj'

theorem dropIdx_insertIdx : ∀ (L : List α) (i : Nat) (v : α) (P : Nat → Bool), i ≤ L.length → P i = true →
    dropIdx P (L.insertIdx i v) = dropIdx (fun j => if j < i then P j else P (j + 1)) L
  | L, 0, v, P, _, hP => by
    simp only [List.insertIdx_zero, dropIdx, hP, if_true, Nat.not_lt_zero, if_false]
  | [], i + 1, _, _, h, _ => by simp at h
  | x :: xs, i + 1, v, P, h, hP => by
    have ih := dropIdx_insertIdx xs i v (fun j => P (j + 1)) (by simpa using h) hP
    simp only [List.insertIdx_succ_cons, dropIdx, ih, Nat.zero_lt_succ, if_true, Nat.add_lt_add_iff_right]

/-- removing the landing positions gives back the old elements, in order -/
theorem dropIdx_landing : ∀ (S : List (Nat × α)) (l : List α), S.Pairwise (fun p q => p.1 ≤ q.1) →
    (∀ p ∈ S, p.1 ≤ l.length) → dropIdx (fun i => decide (i ∈ landing S)) (insertAllAt l S) = l
  | [], l, _, _ => by simp [landing, insertAllAt, dropIdx_false]
  | p :: S, l, hs, h => by
    rw [List.pairwise_cons] at hs
    have hS := fun q hq => h q (List.mem_cons_of_mem _ hq)
    have hp := h p List.mem_cons_self
    have hlen := insertAllAt_length S l hS
    have ih := dropIdx_landing S l hs.2 hS
    show dropIdx _ ((insertAllAt l S).insertIdx p.1 p.2) = l
    rw [dropIdx_insertIdx _ _ _ _ (by omega) (by simp [landing_cons])]
    refine Eq.trans ?_ ih
    apply dropIdx_congr
    intro j
    have hge := landing_ge S p.1 hs.1
    rw [landing_cons]
    by_cases hj : j < p.1
    · rw [if_pos hj]
      have h1 : j ∉ landing S := fun hm => by have := hge j hm; omega
      have h2 : j ∉ p.1 :: (landing S).map (· + 1) := by
        intro hm
        rcases List.mem_cons.1 hm with e | hm'
        · omega
        · obtain ⟨y, hy, e⟩ := List.mem_map.1 hm'
          have := hge y hy; omega
      simp [h1, h2]
    · rw [if_neg hj]
      have : (j + 1 ∈ p.1 :: (landing S).map (· + 1)) ↔ j ∈ landing S := by
        simp only [List.mem_cons, List.mem_map, Nat.add_right_cancel_iff, exists_eq_right]
        constructor
        · rintro (e | hm)
          · omega
          · exact hm
        · exact Or.inr
      simp only [this]

theorem insertAllAt_spec (l : List α) (S : List (Nat × α)) (hs : S.Pairwise (fun p q => p.1 ≤ q.1))
    (hb : ∀ p ∈ S, p.1 ≤ l.length) :
    (insertAllAt l S).length = l.length + S.length ∧
    (∀ j (hj : j < S.length), (insertAllAt l S)[S[j].1 + j]? = some S[j].2) ∧
    keepPositions (insertAllAt l S) (landing S) = l ∧
    (Arr.flat (insertAllAt l S)).deleteFlat (landing S) = .ok (Arr.flat l) := by
  have hlen := insertAllAt_length S l hb
  have hkeep : keepPositions (insertAllAt l S) (landing S) = l := by
    rw [keepPositions_eq_dropIdx]; exact dropIdx_landing S l hs hb
  refine ⟨hlen, insertAllAt_at_landing S l hs hb, hkeep, ?_⟩
  rw [Arr.deleteFlat_ok, show (Arr.flat (insertAllAt l S)).elems = insertAllAt l S from rfl, hkeep]
  intro i hi
  show i < (insertAllAt l S).length
  rw [hlen]; exact landing_lt S _ hb i hi

/-- several values at one and the same position go in as a block, in request order -/
theorem insertAllAt_same_index (l : List α) (i : Nat) (hi : i ≤ l.length) : ∀ (vs : List α),
    insertAllAt l (vs.map (fun v => (i, v))) = l.take i ++ vs ++ l.drop i
  | [] => by simp [insertAllAt]
  | v :: vs => by
    have ih := insertAllAt_same_index l i hi vs
    show (insertAllAt l (vs.map (fun v => (i, v)))).insertIdx i v = _
    rw [ih, List.append_assoc]
    have := C11.insertIdx_mid (l.take i) (vs ++ l.drop i) v
    rw [List.length_take, Nat.min_eq_left hi] at this
    rw [this]; simp

/-! ### run-length expansion -/

/-- source index of every output position of a run-length expansion: index `i` is emitted `R[i]` consecutive times -/
def expandIdx (R : List Nat) : List Nat := ((List.range R.length).zip R).flatMap (fun p => List.replicate p.2 p.1)

theorem zip_flatMap_replicate_map (f : β → γ) : ∀ (l : List β) (R : List Nat),
    ((l.map f).zip R).flatMap (fun p => List.replicate p.2 p.1) = ((l.zip R).flatMap (fun p => List.replicate p.2 p.1)).map f
  | [], _ => by simp
  | _ :: _, [] => by simp
  | x :: xs, r :: R => by
    simp only [List.map_cons, List.zip_cons_cons, List.flatMap_cons, List.map_append, List.map_replicate,
      zip_flatMap_replicate_map f xs R]

theorem zip_replicate_flatMap (c : Nat) : ∀ (l : List α),
    (l.zip (List.replicate l.length c)).flatMap (fun p => List.replicate p.2 p.1) = l.flatMap (List.replicate c)
  | [] => rfl
  | x :: xs => by
    simp only [List.length_cons, List.replicate_succ, List.zip_cons_cons, List.flatMap_cons, zip_replicate_flatMap c xs]

theorem zip_flatMap_replicate_length : ∀ (l : List β) (R : List Nat), R.length ≤ l.length →
    ((l.zip R).flatMap (fun p => List.replicate p.2 p.1)).length = R.sum
  | _, [], _ => by simp
  | [], _ :: _, h => by simp at h
  | x :: xs, r :: R, h => by
    simp only [List.zip_cons_cons, List.flatMap_cons, List.length_append, List.length_replicate, List.sum_cons,
      zip_flatMap_replicate_length xs R (by simpa using h)]

theorem mem_zip_flatMap_replicate (l : List β) (R : List Nat) (x : β)
    (h : x ∈ (l.zip R).flatMap (fun p => List.replicate p.2 p.1)) : x ∈ l := by
  obtain ⟨p, hp, hx⟩ := List.mem_flatMap.1 h
  rw [(List.mem_replicate.1 hx).2]
  exact (List.of_mem_zip hp).1

theorem expandIdx_length (R : List Nat) : (expandIdx R).length = R.sum :=
  zip_flatMap_replicate_length _ R (by simp)

theorem expandIdx_lt (R : List Nat) (i : Nat) (h : i ∈ expandIdx R) : i < R.length := by
  simpa using mem_zip_flatMap_replicate _ R i h

theorem expandFrom_spec : ∀ (R : List Nat) (s : Nat),
    (((List.range' s R.length).zip R).flatMap (fun p => List.replicate p.2 p.1)).Pairwise (· ≤ ·) ∧
    (∀ y ∈ ((List.range' s R.length).zip R).flatMap (fun p => List.replicate p.2 p.1), s ≤ y) ∧
    ∀ i, s ≤ i → (((List.range' s R.length).zip R).flatMap (fun p => List.replicate p.2 p.1)).count i = R.getD (i - s) 0
  | [], s => by simp
  | r :: R, s => by
    obtain ⟨ih1, ih2, ih3⟩ := expandFrom_spec R (s + 1)
    simp only [List.length_cons, List.range'_succ, List.zip_cons_cons, List.flatMap_cons]
    refine ⟨?_, ?_, ?_⟩
    · rw [List.pairwise_append]
      refine ⟨?_, ih1, ?_⟩
      · exact List.pairwise_of_forall_mem_list (fun a ha b hb => by
          rw [(List.mem_replicate.1 ha).2, (List.mem_replicate.1 hb).2]; exact Nat.le_refl s)
      · intro x hx y hy
        rw [(List.mem_replicate.1 hx).2]
        exact Nat.le_of_succ_le (ih2 y hy)
    · intro y hy
      rcases List.mem_append.1 hy with h | h
      · rw [(List.mem_replicate.1 h).2]; exact Nat.le_refl s
      · exact Nat.le_of_succ_le (ih2 y h)
    · intro i hi
      rw [List.count_append, List.count_replicate]
      rcases Nat.eq_or_lt_of_le hi with rfl | hlt
      · -- the run of `s` itself: nothing later is `s`
        rw [if_pos (beq_self_eq_true s), List.count_eq_zero_of_not_mem (fun hm => Nat.lt_irrefl _ (ih2 _ hm)), Nat.sub_self]
        rfl
      · rw [if_neg (by simpa using Nat.ne_of_lt hlt), Nat.zero_add, ih3 i hlt,
          show i - s = (i - (s + 1)) + 1 by omega]
        rfl

/-- `expandIdx` is determined by: ascending, and index `i` occurs exactly `R[i]` times -/
theorem expandIdx_spec (R : List Nat) :
    (expandIdx R).Pairwise (· ≤ ·) ∧ ∀ i, (expandIdx R).count i = R.getD i 0 := by
  obtain ⟨h1, _, h3⟩ := expandFrom_spec R 0
  unfold expandIdx
  rw [List.range_eq_range']
  exact ⟨h1, fun i => h3 i (Nat.zero_le i)⟩

theorem eq_bind_of_map_eq_map_some {ι : Type} {x : Option β} {y : Option ι} {f : ι → Option β}
    (h : y.map f = x.map some) : x = y.bind f := by
  cases y with
  | none => cases x with
    | none => rfl
    | some b => cases h
  | some i => cases x with
    | none => cases h
    | some b => exact (Option.some.inj h).symm

/-- expanding any list by counts = reading the list at the expanded indices -/
theorem getElem?_zip_flatMap_replicate (l : List β) (R : List Nat) (h : l.length = R.length) (j : Nat) :
    ((l.zip R).flatMap (fun p => List.replicate p.2 p.1))[j]? = (expandIdx R)[j]?.bind (fun i => l[i]?) := by
  have hl : (List.range R.length).map (fun i => l[i]?) = l.map some := by
    rw [← h]
    apply List.ext_getElem (by simp)
    intro i h1 h2
    rw [List.getElem_map, List.getElem_map, List.getElem_range, List.getElem?_eq_getElem]
  -- both expansions of `l.map some`: by position, and through `l`
  have e := zip_flatMap_replicate_map (fun i => l[i]?) (List.range R.length) R
  rw [hl, zip_flatMap_replicate_map] at e
  have ej := congrArg (·[j]?) e
  simp only [List.getElem?_map] at ej
  exact eq_bind_of_map_eq_map_some ej.symm

/-- blocks of one length `S`, block `i` repeated `R[i]` times, chained: the length, and which block every position reads -/
theorem expand_blocks (g : β → List γ) (S : Nat) (l : List β) (R : List Nat) (hl : l.length = R.length)
    (hg : ∀ x ∈ l, (g x).length = S) :
    (((l.zip R).flatMap (fun p => List.replicate p.2 p.1)).flatMap g).length = R.sum * S ∧
    ∀ j x, j < R.sum → x < S → ∃ k, ∃ hk : k < l.length, (expandIdx R)[j]? = some k ∧
      (((l.zip R).flatMap (fun p => List.replicate p.2 p.1)).flatMap g)[j * S + x]? = (g l[k])[x]? := by
  have hXl := zip_flatMap_replicate_length l R (by omega)
  have hXg := fun x hx => hg x (mem_zip_flatMap_replicate l R x hx)
  refine ⟨by rw [length_flatMap_uniform g S _ hXg, hXl], ?_⟩
  intro j x hj hx
  have hjE : j < (expandIdx R).length := by rw [expandIdx_length]; exact hj
  have hk : (expandIdx R)[j] < l.length := by rw [hl]; exact expandIdx_lt R _ (List.getElem_mem hjE)
  refine ⟨_, hk, List.getElem?_eq_getElem hjE, ?_⟩
  rw [getElem?_flatMap_uniform g S _ j x (by omega) hXg hx]
  have := getElem?_zip_flatMap_replicate l R hl j
  rw [List.getElem?_eq_getElem (by omega), List.getElem?_eq_getElem hjE, Option.bind_some,
    List.getElem?_eq_getElem hk] at this
  rw [Option.some.inj this]

/-- blocks that are all empty chain to nothing, whatever the counts -/
theorem flatMap_replicate_nil (g : β → List γ) (l : List β) (R : List Nat) (h : ∀ x ∈ l, g x = []) :
    ((l.zip R).flatMap (fun p => List.replicate p.2 p.1)).flatMap g = [] :=
  List.flatMap_eq_nil_iff.2 fun x hx => h x (mem_zip_flatMap_replicate l R x hx)

/-! ### tiling -/

/-- the vector tiled `n` times, position by position -/
theorem tile_eq (R : List β) (d : β) : ∀ (n : Nat),
    (List.range (n * R.length)).map (fun i => R.getD (i % R.length) d) = (List.replicate n R).flatten
  | 0 => by simp
  | n + 1 => by
    rw [List.replicate_succ', List.flatten_append, ← tile_eq R d n, Nat.add_mul, Nat.one_mul,
      List.range_add, List.map_append, List.map_map]
    congr 1
    simp only [List.flatten_cons, List.flatten_nil, List.append_nil]
    apply List.ext_getElem
    · simp
    · intro i h1 h2
      have hi : i < R.length := by simpa using h2
      simp [Nat.mod_eq_of_lt hi, List.getD_eq_getElem?_getD, hi]

/-- the tiling of a count vector: its length, its sum and its entries -/
theorem tile_spec (R : List Nat) (n : Nat) :
    ((List.replicate n R).flatten).length = n * R.length ∧ ((List.replicate n R).flatten).sum = n * R.sum ∧
    ∀ i, i < n * R.length → ((List.replicate n R).flatten)[i]? = R[i % R.length]? := by
  refine ⟨by simp, ?_, ?_⟩
  · induction n with
    | zero => simp
    | succ n ih => rw [List.replicate_succ, List.flatten_cons, List.sum_append, ih, Nat.add_mul, Nat.one_mul, Nat.add_comm]
  · intro i hi
    have hL : 0 < R.length := by
      rcases Nat.eq_zero_or_pos R.length with h | h
      · rw [h] at hi; simp at hi
      · exact h
    have hm : i % R.length < R.length := Nat.mod_lt _ hL
    rw [← tile_eq R 0 n, List.getElem?_map, List.getElem?_range hi]
    simp [List.getD_eq_getElem?_getD, hm]

/-! ### trim_zeros -/

/-- the list operation of `trim_zeros` -/
def trimList [DecidableEq α] (z : α) (l : List α) : List α :=
  ((l.reverse.dropWhile (· = z)).reverse).dropWhile (· = z)

theorem dropWhile_all [DecidableEq α] (z : α) : ∀ (l : List α), (∀ x ∈ l, x = z) → l.dropWhile (· = z) = []
  | [], _ => rfl
  | x :: xs, h => by
    rw [List.dropWhile_cons_of_pos (by simpa using h x List.mem_cons_self)]
    exact dropWhile_all z xs (fun y hy => h y (List.mem_cons_of_mem _ hy))

theorem mem_takeWhile_eq [DecidableEq α] (z : α) (l : List α) (x : α) (h : x ∈ l.takeWhile (· = z)) : x = z :=
  of_decide_eq_true (List.all_eq_true.1 List.all_takeWhile x h)

theorem dropWhile_head_ne [DecidableEq α] (z : α) (l : List α) (h : l.head? ≠ some z) : l.dropWhile (· = z) = l := by
  cases l with
  | nil => rfl
  | cons x xs =>
    have : x ≠ z := by intro e; apply h; simp [e]
    rw [List.dropWhile_cons_of_neg (by simpa using this)]

/-- any decomposition `zeros ++ r ++ zeros` with `r` not starting or ending with zero is the one `trim_zeros` finds -/
theorem trimList_of_decomp [DecidableEq α] (z : α) (l p r s : List α) (hl : l = p ++ r ++ s)
    (hp : ∀ x ∈ p, x = z) (hs : ∀ x ∈ s, x = z) (hh : r.head? ≠ some z) (ht : r.getLast? ≠ some z) :
    trimList z l = r := by
  subst hl
  unfold trimList
  rw [List.reverse_append, List.reverse_append,
    List.dropWhile_append_of_pos (by intro x hx; simpa using hs x (List.mem_reverse.1 hx))]
  by_cases hr : r = []
  · subst hr
    rw [List.reverse_nil, List.nil_append,
      dropWhile_all z p.reverse (by intro x hx; exact hp x (List.mem_reverse.1 hx))]
    rfl
  · have hrr : (r.reverse ++ p.reverse).head? ≠ some z := by
      rw [List.head?_append, List.head?_reverse]
      cases hg : r.getLast? with
      | none => rw [List.getLast?_eq_none_iff] at hg; exact absurd hg hr
      | some y => rw [hg] at ht; simpa using ht
    rw [dropWhile_head_ne z _ hrr, List.reverse_append, List.reverse_reverse, List.reverse_reverse,
      List.dropWhile_append_of_pos (by intro x hx; simpa using hp x hx), dropWhile_head_ne z _ hh]

theorem trimList_decomp [DecidableEq α] (z : α) (l : List α) :
    ∃ p s, l = p ++ trimList z l ++ s ∧ (∀ x ∈ p, x = z) ∧ (∀ x ∈ s, x = z) ∧
      (trimList z l).head? ≠ some z ∧ (trimList z l).getLast? ≠ some z := by
  let m := (l.reverse.dropWhile (· = z)).reverse
  have hm : l = m ++ (l.reverse.takeWhile (· = z)).reverse := by
    have := List.takeWhile_append_dropWhile (p := (· = z)) (l := l.reverse)
    have h2 := congrArg List.reverse this
    rw [List.reverse_append, List.reverse_reverse] at h2
    exact h2.symm
  have hmm : m = m.takeWhile (· = z) ++ trimList z l := (List.takeWhile_append_dropWhile).symm
  have hhead : ∀ (q : List α), (q.dropWhile (· = z)).head? ≠ some z := by
    intro q hq
    have := List.head?_dropWhile_not (fun x => decide (x = z)) q
    rw [hq] at this
    simp at this
  refine ⟨m.takeWhile (· = z), (l.reverse.takeWhile (· = z)).reverse, ?_, ?_, ?_, hhead _, ?_⟩
  · rw [← hmm]; exact hm
  · intro x hx; exact mem_takeWhile_eq z _ x hx
  · intro x hx; exact mem_takeWhile_eq z _ x (List.mem_reverse.1 hx)
  · intro hg
    have hml : m.getLast? = some z := by
      rw [hmm, List.getLast?_append, hg]; rfl
    have : (l.reverse.dropWhile (· = z)).head? = some z := by
      rw [← List.getLast?_reverse]; exact hml
    exact hhead _ this

end ArrModel
