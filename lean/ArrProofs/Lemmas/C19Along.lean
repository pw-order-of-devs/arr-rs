import ArrModel.C19Pipe
import ArrProofs.Lemmas.C19Axis
import ArrProofs.Lemmas.C08AlongAxis
import ArrProofs.Lemmas.AxisInv
/-!
# Lemmas for C19 — the crate's `apply_along_axis` pipeline (shared model `Arr.applyAlongAxis`) lifts
lane-wise inverse pairs (`AlongLifts`), by the central lemma `applyAlongAxis_spec`.
-/
namespace ArrModel.C19
open ArrModel

theorem mem_laneOf (a : Arr Nat) (k : Nat) (c : List Nat) : ∀ b ∈ laneOf a k c, b ∈ a.elems := by
  intro b hb
  simp only [laneOf, List.mem_filterMap] at hb
  obtain ⟨j, _, hj⟩ := hb
  unfold Arr.get? at hj
  exact List.mem_of_getElem? hj

/-- the crate's pipeline with a lane function that sends every lane `l` of the axis' length to the 1-D array `h l` of `m`
elements: the axis takes length `m`, and position `c` holds element `c[k]` of the image of the lane through `c` -/
theorem alongPipe_lanes (a : Arr Nat) (k m : Nat) (f : Arr Nat → Res (Arr Nat)) (h : List Nat → List Nat)
    (hwf : a.WF) (hk : k < a.ndim) (hnz : 0 ∉ a.shape)
    (hf : ∀ l : List Nat, l.length = a.shape.getD k 0 → f (Arr.flat l) = .ok (Arr.flat (h l)) ∧ (h l).length = m) :
    ∃ u, alongPipe a k f = .ok u ∧ u.shape = a.shape.set k m ∧ u.WF ∧
      ∀ c, inRange u.shape c = true → u.get? c = (h (laneOf a k c))[c.getD k 0]? := by
  obtain ⟨u, hu, hs, huwf, hget⟩ := applyAlongAxis_spec a 0 0 k m f hwf hk hnz
    fun l hl => ⟨_, (hf l hl).1, (hf l hl).2⟩
  refine ⟨u, hu, hs, huwf, fun c hc => ?_⟩
  obtain ⟨y, hy1, hy2⟩ := hget c hc
  rw [(hf _ (laneOf_length a k m c hwf (hs ▸ hc))).1] at hy1
  rw [hy2, ← Res.ok.inj hy1]; rfl

theorem not_mem_zero_set (s : List Nat) (k m : Nat) (hm : 0 < m) (h : 0 ∉ s) : 0 ∉ s.set k m := by
  intro hz
  rcases List.mem_or_eq_of_mem_set hz with h1 | h1
  · exact h h1
  · omega

theorem alongPipe_lifts (a : Arr Nat) (k : Nat) (hwf : a.WF) (hk : k < a.ndim) (hnz : 0 ∉ a.shape) :
    AlongLifts alongPipe a k := by
  intro f g m hm hfg hftot hgtot
  have hk' : k < a.shape.length := hk
  -- first pass
  obtain ⟨u, hu, hushape, huwf, huget⟩ := applyAlongAxis_spec a 0 0 k m f hwf hk hnz hftot
  have hund : u.ndim = a.ndim := by simp [Arr.ndim, hushape]
  have hunz : 0 ∉ u.shape := by rw [hushape]; exact not_mem_zero_set _ _ _ hm hnz
  have hune : u.isEmpty = false := by
    have : 0 < u.shape.prod := prod_pos_of_not_mem _ hunz
    rw [← huwf] at this
    simp only [Arr.isEmpty, beq_eq_false_iff_ne, ne_eq]; omega
  have hugetD : u.shape.getD k 0 = m := by rw [hushape]; exact getD_set_self _ _ _ hk'
  have hushape' : u.shape.set k (a.shape.getD k 0) = a.shape := by
    rw [hushape, List.set_set]; exact set_getD_self _ _
  -- second pass
  obtain ⟨v, hv, hvshape, hvwf, hvget⟩ := applyAlongAxis_spec u 0 0 k (a.shape.getD k 0) g huwf (by rw [hund]; exact hk) hunz
    (by rw [hugetD]; exact hgtot)
  rw [hushape'] at hvshape
  refine ⟨u, hu, hund, hune, ?_⟩
  show u.applyAlongAxis 0 0 k g = .ok a
  rw [hv]
  congr 1
  apply Arr.ext_get v a hvwf hwf hvshape
  intro c hc
  rw [hvshape] at hc
  have hclen : c.length = a.shape.length := inRange_length _ _ hc
  have hck : c.getD k 0 < a.shape.getD k 0 := inRange_getD_lt _ _ _ hc hk'
  -- the lane of `a` through `c`, its image under `f`
  have hc_a : inRange (a.shape.set k (a.shape.getD k 0)) c = true := by rw [set_getD_self]; exact hc
  have hLlen := laneOf_length a k _ c hwf hc_a
  obtain ⟨r, hrlen, hfL, hgr⟩ := hfg (laneOf a k c) hLlen (mem_laneOf a k c)
  -- the lane of `u` through `c` is that image
  have hc_u : inRange (u.shape.set k (a.shape.getD k 0)) c = true := by rw [hushape']; exact hc
  have hUlen := laneOf_length u k _ c huwf hc_u
  have hlane : laneOf u k c = r := by
    apply List.ext_getElem?
    intro j
    by_cases hj : j < m
    · rw [laneOf_getElem? u k _ c huwf hc_u j (by rw [hugetD]; exact hj)]
      have hcj : inRange u.shape (c.set k j) = true := by
        rw [hushape]; exact inRange_set a.shape c k m j hc hj
      obtain ⟨y, hy1, hy2⟩ := huget (c.set k j) hcj
      rw [laneOf_set, hfL] at hy1
      cases hy1
      rw [hy2, getD_set_self _ _ _ (by omega)]
      rfl
    · have h1 : (laneOf u k c)[j]? = none := by
        rw [List.getElem?_eq_none_iff, hUlen, hugetD]; omega
      have h2 : r[j]? = none := by rw [List.getElem?_eq_none_iff, hrlen]; omega
      rw [h1, h2]
  -- read `v` at `c`
  obtain ⟨y, hy1, hy2⟩ := hvget c (by rw [hvshape]; exact hc)
  rw [hlane, hgr] at hy1
  cases hy1
  rw [hy2]
  show (laneOf a k c)[c.getD k 0]? = a.get? c
  rw [laneOf_getElem? a k _ c hwf hc_a _ hck, set_getD_self]

end ArrModel.C19
