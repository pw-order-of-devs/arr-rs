import ArrProofs.Lemmas.C15Basic
/-!
# Lemmas for C15: the elimination invariant `P·A = L·U`
-/
namespace ArrModel.C15
open ArrModel

/-! ### pivot search -/

theorem pivotRow_spec (u : Mat) (n j : Nat) (hj : j < n) :
    j ≤ pivotRow u n j ∧ pivotRow u n j < n ∧
    ∀ i, j ≤ i → i < n → |entry u i j| ≤ |entry u (pivotRow u n j) j| := by
  obtain ⟨h1, h2⟩ := foldl_pick_spec (fun p i : Nat => absR (entry u i j) > absR (entry u p j))
    (fun _ _ h => not_lt.2 (le_of_lt h)) (fun _ _ _ h1 h2 => not_lt.2 (le_trans (not_lt.1 h2) (not_lt.1 h1)))
    (List.range' (j + 1) (n - (j + 1))) j
  have hmem : ∀ i, i ∈ j :: List.range' (j + 1) (n - (j + 1)) ↔ j ≤ i ∧ i < n := by
    intro i; rw [List.mem_cons, List.mem_range'_1]; omega
  refine ⟨((hmem _).1 h1).1, ((hmem _).1 h1).2, fun i hji hin => ?_⟩
  rw [← absR_eq_abs, ← absR_eq_abs]
  exact not_lt.1 (h2 i ((hmem i).2 ⟨hji, hin⟩))

/-! ### the row exchange -/

/-- exchange of indices `j` and `p` -/
def sw (j p i : Nat) : Nat := if i = j then p else if i = p then j else i

theorem sw_lt {n j p i : Nat} (hj : j < n) (hp : p < n) (hi : i < n) : sw j p i < n := by
  unfold sw; split
  · exact hp
  · split
    · exact hj
    · exact hi

theorem sw_of_lt {j p i : Nat} (hjp : j ≤ p) (hi : i < j) : sw j p i = i := by
  rw [sw, if_neg (Nat.ne_of_lt hi), if_neg (Nat.ne_of_lt (Nat.lt_of_lt_of_le hi hjp))]

theorem sw_ge {j p i : Nat} (hjp : j ≤ p) (hi : j ≤ i) : j ≤ sw j p i := by
  unfold sw; split
  · exact hjp
  · split
    · exact le_refl _
    · exact hi

theorem min_sw {j p i : Nat} (hjp : j ≤ p) : min (sw j p i) j = min i j := by
  rcases Nat.lt_or_ge i j with hi | hi
  · rw [sw_of_lt hjp hi]
  · rw [Nat.min_eq_right hi, Nat.min_eq_right (sw_ge hjp hi)]

theorem sw_comm (j p i : Nat) : sw j p i = sw p j i := by
  unfold sw
  by_cases h1 : i = j
  · by_cases h2 : i = p
    · rw [if_pos h1, if_pos h2, ← h1, ← h2]
    · rw [if_pos h1, if_neg h2, if_pos h1]
  · rw [if_neg h1, if_neg h1]

/-- on `Fin n` the exchange is `Equiv.swap` -/
theorem sw_eq_swap {n j p : Nat} (hj : j < n) (hp : p < n) (i : Fin n) :
    sw j p i = ((Equiv.swap (⟨j, hj⟩ : Fin n) ⟨p, hp⟩ i : Fin n) : Nat) := by
  rw [sw, Equiv.swap_apply_def]
  by_cases h1 : i = ⟨j, hj⟩
  · rw [if_pos h1, if_pos (congrArg Fin.val h1)]
  · rw [if_neg h1, if_neg (fun e => h1 (Fin.ext e))]
    by_cases h2 : i = ⟨p, hp⟩
    · rw [if_pos h2, if_pos (congrArg Fin.val h2)]
    · rw [if_neg h2, if_neg (fun e => h2 (Fin.ext e))]

theorem entry_swapRows {n c : Nat} (m : Mat) (a b : Nat) {i cc : Nat} (hi : i < n) (hc : cc < c) :
    entry (swapRows n c m a b) i cc = entry m (sw a b i) cc :=
  entry_build_lt _ hi hc

theorem entry_swapPrefix {n : Nat} (l : Mat) (j p : Nat) {i c : Nat} (hi : i < n) (hc : c < n) :
    entry (swapPrefix n l j p) i c = if c < j then entry l (sw j p i) c else entry l i c :=
  entry_build_lt _ hi hc

theorem getD_swapList (perm : List Nat) (j p i : Nat) (hj : j < perm.length) (hp : p < perm.length) :
    (swapList perm j p).getD i 0 = perm.getD (sw j p i) 0 := by
  unfold swapList sw
  simp only [List.getD_eq_getElem?_getD, List.getElem?_set, List.length_set]
  by_cases h1 : p = i
  · rw [if_pos h1, if_pos hp, ← h1]
    by_cases h2 : p = j
    · rw [if_pos h2, h2]; rfl
    · rw [if_neg h2, if_pos rfl]; rfl
  · rw [if_neg h1, if_neg (Ne.symm h1)]
    by_cases h2 : j = i
    · rw [if_pos h2, if_pos hj, if_pos h2.symm]; rfl
    · rw [if_neg h2, if_neg (Ne.symm h2)]

/-! ### the elimination of one column -/

theorem entry_eliminate_u {n j : Nat} (s : LU) {i c : Nat} (hi : i < n) (hc : c < n) :
    entry (eliminate n j s).u i c =
      if j < i ∧ j ≤ c then entry s.u i c - entry s.u j c * (entry s.u i j / entry s.u j j) else entry s.u i c :=
  entry_build_lt _ hi hc

theorem entry_eliminate_l {n j : Nat} (s : LU) {i c : Nat} (hi : i < n) (hc : c < n) :
    entry (eliminate n j s).l i c = if j < i ∧ c = j then entry s.u i j / entry s.u j j else entry s.l i c :=
  entry_build_lt _ hi hc

/-! ### the invariant -/

/-- The state `s` after `j` columns of the elimination of `a`, with `cnt` exchanges made.  `fact` is `P·A = L̂·U` entry by entry,
for as much of `L̂` as exists: `L̂` has the unit diagonal that `s.l` does not store, so row `i` has its `min i j` entries left of
the diagonal in the sum and the diagonal term `1 · u[i][c]` behind it; for `i ≥ j` that last term is the not yet reduced
remainder of row `i`.  `cnt` is kept only for the sign of the permutation, which `det` needs. -/
structure Inv (n : Nat) (a : Mat) (j : Nat) (s : LU) (cnt : Nat) : Prop where
  plen : s.perm.length = n
  perm : ∃ σ : Equiv.Perm (Fin n), (∀ i : Fin n, s.perm.getD i 0 = (σ i : Nat)) ∧
    Equiv.Perm.sign σ = (-1) ^ cnt
  fact : ∀ i c, i < n → c < n →
    entry a (s.perm.getD i 0) c = sumTo (min i j) (fun t => entry s.l i t * entry s.u t c) + entry s.u i c
  tri : ∀ i c, i < n → c < n → c < min i j → entry s.u i c = 0
  lrows : ∀ i, i < n → (s.l.getD i []).length = n
  urows : ∀ i, i < n → (s.u.getD i []).length = n

theorem inv_init (n : Nat) (a : Mat) (hA : ∀ i, i < n → (a.getD i []).length = n) :
    Inv n a 0 (luInit n a) 0 where
  plen := List.length_range
  perm := ⟨1, fun i => by
    show (List.range n).getD i 0 = _
    rw [List.getD_eq_getElem?_getD, List.getElem?_range i.2]; rfl, by rw [Equiv.Perm.sign_one, pow_zero]⟩
  fact := fun i c hi _ => by
    show entry a ((List.range n).getD i 0) c = sumTo (min i 0) _ + entry a i c
    rw [List.getD_eq_getElem?_getD, List.getElem?_range hi, Nat.min_zero, sumTo, zero_add]; rfl
  tri := fun i c _ _ h => absurd h (by rw [Nat.min_zero]; exact Nat.not_lt_zero c)
  lrows := fun i hi => build_row_length _ _ _ _ hi
  urows := fun i hi => hA i hi

/-- the exchange keeps the invariant (with one more transposition) -/
theorem inv_swap {n : Nat} {a : Mat} {j p : Nat} {s : LU} {cnt : Nat} (hjp : j < p) (hp : p < n)
    (h : Inv n a j s cnt) :
    Inv n a j { l := swapPrefix n s.l j p, u := swapRows n n s.u p j, perm := swapList s.perm j p } (cnt + 1) := by
  have hj : j < n := Nat.lt_trans hjp hp
  have hU : ∀ i c, i < n → c < n → entry (swapRows n n s.u p j) i c = entry s.u (sw j p i) c := fun i c hi hc => by
    rw [entry_swapRows _ _ _ hi hc, sw_comm]
  have hP : ∀ i, (swapList s.perm j p).getD i 0 = s.perm.getD (sw j p i) 0 := fun i =>
    getD_swapList _ _ _ _ (h.plen.symm ▸ hj) (h.plen.symm ▸ hp)
  refine ⟨?_, ?_, fun i c hi hc => ?_, fun i c hi hc hlt => ?_, fun i hi => build_row_length _ _ _ _ hi,
    fun i hi => build_row_length _ _ _ _ hi⟩
  · rw [swapList, List.length_set, List.length_set, h.plen]
  · obtain ⟨σ, hσ, hs⟩ := h.perm
    refine ⟨σ * Equiv.swap ⟨j, hj⟩ ⟨p, hp⟩, fun i => ?_, ?_⟩
    · rw [hP, sw_eq_swap hj hp, hσ]; rfl
    · rw [Equiv.Perm.sign_mul, hs, Equiv.Perm.sign_swap (fun e => Nat.ne_of_lt hjp (congrArg Fin.val e)), pow_succ]
  · show entry a ((swapList s.perm j p).getD i 0) c = _
    rw [hP, h.fact _ c (sw_lt hj hp hi) hc, min_sw (le_of_lt hjp), hU i c hi hc]
    congr 1
    apply sumTo_congr
    intro t ht
    have htj : t < j := Nat.lt_of_lt_of_le ht (Nat.min_le_right i j)
    show entry s.l (sw j p i) t * entry s.u t c = entry (swapPrefix n s.l j p) i t * entry (swapRows n n s.u p j) t c
    rw [entry_swapPrefix _ _ _ hi (Nat.lt_trans htj hj), if_pos htj, hU t c (Nat.lt_trans htj hj) hc, sw_of_lt (le_of_lt hjp) htj]
  · show entry (swapRows n n s.u p j) i c = 0
    rw [hU i c hi hc]
    exact h.tri _ c (sw_lt hj hp hi) hc (by rw [min_sw (le_of_lt hjp)]; exact hlt)

/-- the elimination of column `j` keeps the invariant, provided the pivot dominates its column -/
theorem inv_elim {n : Nat} {a : Mat} {j : Nat} {s : LU} {cnt : Nat} (hj : j < n)
    (h : Inv n a j s cnt)
    (hmax : ∀ i, j < i → i < n → |entry s.u i j| ≤ |entry s.u j j|) :
    Inv n a (j + 1) (eliminate n j s) cnt := by
  -- columns of `L` left of `j` and rows of `U` down to the pivot row are not touched
  have hl : ∀ i t, i < n → t < j → entry (eliminate n j s).l i t = entry s.l i t := fun i t hi ht => by
    rw [entry_eliminate_l s hi (Nat.lt_trans ht hj), if_neg (fun h => Nat.ne_of_lt ht h.2)]
  have hu : ∀ t c, t ≤ j → c < n → entry (eliminate n j s).u t c = entry s.u t c := fun t c ht hc => by
    rw [entry_eliminate_u s (Nat.lt_of_le_of_lt ht hj) hc, if_neg (fun h => Nat.not_lt.2 ht h.1)]
  have hsum : ∀ i c m, i < n → c < n → m ≤ j →
      sumTo m (fun t => entry (eliminate n j s).l i t * entry (eliminate n j s).u t c) =
        sumTo m (fun t => entry s.l i t * entry s.u t c) := fun i c m hi hc hm =>
    sumTo_congr _ _ _ fun t ht => by
      rw [hl i t hi (Nat.lt_of_lt_of_le ht hm), hu t c (le_of_lt (Nat.lt_of_lt_of_le ht hm)) hc]
  refine ⟨h.plen, h.perm, fun i c hi hc => ?_, fun i c hi hc hlt => ?_, fun i hi => build_row_length _ _ _ _ hi,
    fun i hi => build_row_length _ _ _ _ hi⟩
  · show entry a (s.perm.getD i 0) c = _
    rw [h.fact i c hi hc]
    rcases Nat.lt_or_ge j i with hji | hij
    · -- a row below the pivot gains the term `l[i][j] · u[j][c]`
      rw [Nat.min_eq_right (le_of_lt hji), Nat.min_eq_right (Nat.succ_le_of_lt hji), sumTo, hsum i c j hi hc (le_refl j),
        entry_eliminate_l s hi hj, if_pos ⟨hji, rfl⟩, hu j c (le_refl j) hc, entry_eliminate_u s hi hc]
      by_cases hc' : j ≤ c
      · rw [if_pos ⟨hji, hc'⟩]; ring
      · rw [if_neg (fun h => hc' h.2), h.tri j c hj hc (by rw [Nat.min_self]; exact Nat.not_le.1 hc')]; ring
    · rw [Nat.min_eq_left hij, Nat.min_eq_left (Nat.le_succ_of_le hij), hsum i c i hi hc hij, hu i c hij hc]
  · rcases Nat.lt_or_ge j i with hji | hij
    · rw [Nat.min_eq_right (Nat.succ_le_of_lt hji)] at hlt
      rw [entry_eliminate_u s hi hc]
      rcases Nat.lt_or_ge c j with hcj | hcj
      · rw [if_neg (fun h => Nat.not_le.2 hcj h.2)]
        exact h.tri i c hi hc (by rw [Nat.min_eq_right (le_of_lt hji)]; exact hcj)
      · -- the entry below the pivot: cancelled, or already zero when the pivot is zero
        have hcj' : c = j := Nat.le_antisymm (Nat.le_of_lt_succ hlt) hcj
        subst hcj'
        rw [if_pos ⟨hji, le_refl _⟩]
        by_cases hz : entry s.u c c = 0
        · have := hmax i hji hi
          rw [hz, abs_zero] at this
          rw [abs_eq_zero.1 (le_antisymm this (abs_nonneg _)), zero_div, mul_zero, sub_zero]
        · rw [mul_div_cancel₀ _ hz, sub_self]
    · rw [Nat.min_eq_left (Nat.le_succ_of_le hij)] at hlt
      rw [hu i c hij hc]
      exact h.tri i c hi hc (by rw [Nat.min_eq_left hij]; exact hlt)

theorem inv_step {n : Nat} {a : Mat} {j : Nat} {s : LU} {cnt : Nat} (hj : j < n) (h : Inv n a j s cnt) :
    Inv n a (j + 1) (luStep n s j) (if pivotRow s.u n j ≠ j then cnt + 1 else cnt) := by
  obtain ⟨hp1, hp2, hp3⟩ := pivotRow_spec s.u n j hj
  unfold luStep
  by_cases hne : pivotRow s.u n j ≠ j
  · simp only [if_pos hne]
    have hjp : j < pivotRow s.u n j := Nat.lt_of_le_of_ne hp1 (Ne.symm hne)
    refine inv_elim hj (inv_swap hjp hp2 h) fun i hji hi => ?_
    -- after the exchange the pivot row holds the dominating entry; every other row holds an entry of the old column
    show |entry (swapRows n n s.u (pivotRow s.u n j) j) i j| ≤ |entry (swapRows n n s.u (pivotRow s.u n j) j) j j|
    have hjj : sw j (pivotRow s.u n j) j = pivotRow s.u n j := if_pos rfl
    rw [entry_swapRows _ _ _ hi hj, entry_swapRows _ _ _ hj hj, sw_comm _ j i, sw_comm _ j j, hjj]
    exact hp3 _ (sw_ge hp1 (le_of_lt hji)) (sw_lt hj hp2 hi)
  · simp only [if_neg hne]
    have hpj : pivotRow s.u n j = j := not_not.1 hne
    refine inv_elim hj h fun i hji hi => ?_
    have := hp3 i (le_of_lt hji) hi
    rwa [hpj] at this

/-! ### the whole elimination -/

/-- the elimination together with the number of exchanges so far -/
def luCnt (n : Nat) (a : Mat) (m : Nat) : LU × Nat :=
  (List.range m).foldl (fun (sc : LU × Nat) j =>
    (luStep n sc.1 j, if pivotRow sc.1.u n j ≠ j then sc.2 + 1 else sc.2)) (luInit n a, 0)

theorem luCnt_succ (n : Nat) (a : Mat) (m : Nat) :
    luCnt n a (m + 1) = (luStep n (luCnt n a m).1 m,
      if pivotRow (luCnt n a m).1.u n m ≠ m then (luCnt n a m).2 + 1 else (luCnt n a m).2) := by
  unfold luCnt; rw [List.range_succ, List.foldl_append]; rfl

theorem luCnt_fst (n : Nat) (a : Mat) (m : Nat) :
    (luCnt n a m).1 = (List.range m).foldl (luStep n) (luInit n a) := by
  induction m with
  | zero => rfl
  | succ m ih => rw [luCnt_succ, List.range_succ, List.foldl_append, ← ih]; rfl

theorem inv_luCnt (n : Nat) (a : Mat) (hA : ∀ i, i < n → (a.getD i []).length = n) (m : Nat) :
    m ≤ n → Inv n a m (luCnt n a m).1 (luCnt n a m).2 := by
  induction m with
  | zero => exact fun _ => inv_init n a hA
  | succ m ih =>
    intro hm
    simp only [luCnt_succ]
    exact inv_step hm (ih (Nat.le_of_succ_le hm))

theorem inv_lu (n : Nat) (a : Mat) (hA : ∀ i, i < n → (a.getD i []).length = n) :
    Inv n a n (lu n a) (swapCount n a) := by
  have h := inv_luCnt n a hA n (le_refl _)
  rwa [luCnt_fst] at h

end ArrModel.C15
