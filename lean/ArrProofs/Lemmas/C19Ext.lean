import ArrProofs.Lemmas.C19Along
import ArrProofs.Lemmas.C08Empty
/-!
# Lemmas for C19: empty arrays / zero-length axes, never-panics, `count` for every count (flat and by axis), canonical
form of `binary_repr`.

Specification-side definitions (`orderAccepted`, `axisAccepted`, `emptyAnswer`, `countKeep`) live here: they are NOT part
of the executable model (`ArrModel/C19.lean`); the theorems say that the model's `unpackBits` / `packBits` compute exactly
these.
-/
namespace ArrModel.C19
open ArrModel

/-! ## empty arrays -/

/-- the order option is one that `to_bit_order` accepts -/
def orderAccepted : Option Spelling → Bool
  | none => true
  | some (.enum _) => true
  | some (.text s) => decide (s = ['b', 'i', 'g']) || decide (s = ['l', 'i', 't', 't', 'l', 'e'])

/-- the axis option passes `axis_in_bounds(normalize_axis(axis))` on an array of rank `ndim` -/
def axisAccepted (ndim : Nat) : Option Int → Bool
  | none => true
  | some ax => decide (normalizeAxis ndim ax < ndim)

/-- what both operations answer on an array without elements: order first, axis second, then `Array::empty()` -/
def emptyAnswer (ndim : Nat) (axis : Option Int) (ord : Option Spelling) : Res (Arr Nat) :=
  if orderAccepted ord = false then .err .ParameterError
  else if axisAccepted ndim axis = false then .err .AxisOutOfBounds
  else .ok ⟨[], [0]⟩

theorem optOrder_of_not_accepted (ord : Option Spelling) (h : orderAccepted ord = false) :
    optOrder ord = .err .ParameterError := by
  match ord, h with
  | some (.text s), h =>
    simp only [orderAccepted, Bool.or_eq_false_iff, decide_eq_false_iff_not] at h
    simp [optOrder, toBitOrder, h.1, h.2]

theorem optOrder_of_accepted (ord : Option Spelling) (h : orderAccepted ord = true) : ∃ o, optOrder ord = .ok o := by
  match ord, h with
  | none, _ => exact ⟨.big, rfl⟩
  | some (.enum o), _ => exact ⟨o, rfl⟩
  | some (.text s), h =>
    simp only [orderAccepted, Bool.or_eq_true, decide_eq_true_eq] at h
    by_cases h1 : s = ['b', 'i', 'g']
    · exact ⟨.big, by simp [optOrder, toBitOrder, h1]⟩
    · have h2 := h.resolve_left h1
      exact ⟨.little, by simp [optOrder, toBitOrder, h2]⟩

theorem toBitOrder_never_panics (s : Spelling) : toBitOrder s ≠ .panic := by
  cases s with
  | enum o => exact fun h => nomatch h
  | text s =>
    exact Res.ite_ne_panic (fun _ h => nomatch h) fun _ => Res.ite_ne_panic (fun _ h => nomatch h) fun _ h => nomatch h

theorem orderAccepted_iff (ord : Option Spelling) : orderAccepted ord = true ↔ ∃ o, optOrder ord = .ok o := by
  constructor
  · exact optOrder_of_accepted ord
  · rintro ⟨o, ho⟩
    cases hb : orderAccepted ord with
    | true => rfl
    | false => rw [optOrder_of_not_accepted ord hb] at ho; cases ho

theorem axisCheck_eq (ndim : Nat) (axis : Option Int) :
    axisCheck ndim axis = if axisAccepted ndim axis = false then .err .AxisOutOfBounds else .ok () := by
  cases axis with
  | none => rfl
  | some ax => by_cases h : normalizeAxis ndim ax < ndim <;> simp [axisCheck, axisAccepted, h, Nat.not_le.2, Nat.le_of_not_lt]

/-- `normalize_axis` + `axis_in_bounds` accept exactly `-ndim ≤ axis < ndim`, for every `isize` axis and every rank below
`2^63` (outside the `isize` range the wrapping cast of the model could come back into range) -/
theorem normalizeAxis_lt_iff (ndim : Nat) (ax : Int) (hnd : ndim < 2 ^ 63) (hax : -(2 ^ 63 : Int) ≤ ax) :
    normalizeAxis ndim ax < ndim ↔ (-(Int.ofNat ndim) ≤ ax ∧ ax < Int.ofNat ndim) := by
  have h64 : (2 : Int) ^ 64 = 18446744073709551616 := by decide
  have h63 : (2 : Int) ^ 63 = 9223372036854775808 := by decide
  have h63n : (2 : Nat) ^ 63 = 9223372036854775808 := by decide
  rw [h63] at hax; rw [h63n] at hnd
  unfold normalizeAxis
  simp only [Int.ofNat_eq_natCast]
  split
  · rename_i hneg
    rw [h64]
    by_cases hs : 0 ≤ ax + (ndim : Int)
    · rw [Int.emod_eq_of_lt hs (by omega)]
      omega
    · have : (ax + (ndim : Int)) % 18446744073709551616 = ax + (ndim : Int) + 18446744073709551616 := by
        rw [← Int.add_emod_right, Int.emod_eq_of_lt (by omega) (by omega)]
      rw [this]
      omega
  · omega

/-- **outcome on an array without elements** (any `apply_along_axis`, any flat arm and lane closure): `emptyAnswer` -/
theorem bitsFrame_of_isEmpty {along : Along} {a : Arr Nat} (he : a.isEmpty = true) (axis : Option Int) (ord : Option Spelling)
    (flatArm : BitOrder → Res (Arr Nat)) (lane : BitOrder → Arr Nat → Res (Arr Nat)) :
    bitsFrame along a axis ord flatArm lane = emptyAnswer a.ndim axis ord := by
  unfold emptyAnswer
  cases ho : orderAccepted ord with
  | false => rw [bitsFrame_bad_order (optOrder_of_not_accepted ord ho)]; rfl
  | true =>
    obtain ⟨o, hoo⟩ := optOrder_of_accepted ord ho
    rw [bitsFrame, hoo, Res.bind_ok, axisCheck_eq, he]
    cases axisAccepted a.ndim axis <;> rfl

/-- a well-formed array without a zero-length axis is not empty -/
theorem not_empty_of_no_zero_axis (a : Arr Nat) (hwf : a.WF) (hnz : 0 ∉ a.shape) : a.isEmpty = false :=
  Bool.eq_false_iff.2 (mt (Arr.isEmpty_iff_zero_mem a hwf).1 hnz)

theorem flat_not_empty {l : List Nat} (hl : l ≠ []) : (Arr.flat l).isEmpty = false := by
  simpa [Arr.isEmpty, Arr.flat] using hl

/-! ## `count`, and the flat arm of `unpack_bits` -/

/-- how many of `total` bits the `count` option keeps (`none` = refused with `OutOfBounds`):
absent — all; `c ≥ 0` — the first `c`, refused when `c > total`; `c < 0` — all but the last `|c|`, refused when
`|c| > total` -/
def countKeep (total : Nat) : Option Int → Option Nat
  | none => some total
  | some c =>
    if 0 ≤ c then (if c.toNat ≤ total then some c.toNat else none)
    else (if c.natAbs ≤ total then some (total - c.natAbs) else none)

theorem countKeep_ofNat (total c : Nat) : countKeep total (some (Int.ofNat c)) = if c ≤ total then some c else none := by
  simp [countKeep]

theorem countKeep_neg (total c : Nat) (hc : 0 < c) :
    countKeep total (some (-(Int.ofNat c))) = if c ≤ total then some (total - c) else none := by
  have hneg : ¬ (0 ≤ -(Int.ofNat c)) := by simp; omega
  have habs : (-(Int.ofNat c)).natAbs = c := by simp
  simp only [countKeep, if_neg hneg, habs]

theorem countKeep_le (total : Nat) (count : Option Int) (m : Nat) (h : countKeep total count = some m) : m ≤ total := by
  cases count with
  | none => exact Nat.le_of_eq (Option.some.inj h).symm
  | some c =>
    rw [countKeep] at h
    split at h
    · split at h
      · exact Option.some.inj h ▸ ‹c.toNat ≤ total›
      · cases h
    · split at h
      · exact Option.some.inj h ▸ Nat.sub_le _ _
      · cases h

theorem slice1_zero (xs : List Nat) (hi : Nat) :
    slice1 xs 0 hi = if hi ≤ xs.length then .ok (Arr.flat (xs.take hi)) else .err .OutOfBounds := by
  simp only [slice1, Nat.zero_le, true_and, List.drop_zero, Nat.sub_zero, ite_not]

/-- **the flat arm for every count**: the first `countKeep (8·len) count` bits of the full unpacking, or `OutOfBounds` -/
theorem unpackFlatArr_count (o : BitOrder) (count : Option Int) (a : Arr Nat) :
    unpackFlatArr o count a =
      match countKeep (8 * a.elems.length) count with
      | some m => .ok (Arr.flat ((unpackFlat o a.elems).take m))
      | none => .err .OutOfBounds := by
  rw [unpackFlatArr]
  simp only [slice1_zero, unpackFlat_length]
  cases count with
  | none =>
    have h8 : Int.ofNat a.elems.length * 8 = ((8 * a.elems.length : Nat) : Int) := by
      rw [Int.ofNat_eq_natCast]; omega
    rw [Option.getD_none, h8, if_pos (Int.natCast_nonneg _), Int.toNat_natCast, if_pos (Nat.le_refl _)]; rfl
  | some c =>
    rw [Option.getD_some, countKeep]
    by_cases hc : 0 ≤ c
    · rw [if_pos hc, if_pos hc]; split <;> rfl
    · rw [if_neg hc, if_neg hc]
      by_cases h : c.natAbs ≤ 8 * a.elems.length
      · rw [if_neg (Nat.not_lt.2 h), if_pos h, if_pos (Nat.sub_le _ _)]
      · rw [if_pos (Nat.lt_of_not_le h), if_neg h]

theorem unpackFlat_take_all (o : BitOrder) (bs : List Nat) : (unpackFlat o bs).take (8 * bs.length) = unpackFlat o bs := by
  rw [← unpackFlat_length o, List.take_length]

/-- the flat form of `unpack_bits` (no `count`): a 1-D array of `8 · len` bits -/
theorem unpack_flat_arr (o : BitOrder) (a : Arr Nat) :
    unpackFlatArr o none a = .ok (Arr.flat (unpackFlat o a.elems)) := by
  simp only [unpackFlatArr_count, countKeep, unpackFlat_take_all]

theorem unpackFlatArr_total (o : BitOrder) (count : Option Int) (a : Arr Nat) :
    (∃ u, unpackFlatArr o count a = .ok u ∧ u.WF) ∨ (∃ e, unpackFlatArr o count a = .err e) := by
  rw [unpackFlatArr_count]
  cases countKeep (8 * a.elems.length) count with
  | some m => exact Or.inl ⟨_, rfl, Arr.flat_wf _⟩
  | none => exact Or.inr ⟨_, rfl⟩

theorem unpackFlatArr_ne_panic (o : BitOrder) (count : Option Int) (a : Arr Nat) : unpackFlatArr o count a ≠ .panic := by
  rcases unpackFlatArr_total o count a with ⟨_, h, _⟩ | ⟨_, h⟩ <;> rw [h] <;> exact fun h => nomatch h

/-- unpacking a non-empty lane, every count -/
theorem unpackLane_flat (o : BitOrder) (count : Option Int) (l : List Nat) (hl : l ≠ []) :
    unpackLane o count (Arr.flat l) =
      match countKeep (8 * l.length) count with
      | some m => .ok (Arr.flat ((unpackFlat o l).take m))
      | none => .err .OutOfBounds := by
  rw [unpackLane, flat_not_empty hl]
  exact unpackFlatArr_count o count (Arr.flat l)

theorem unpackLane_none (o : BitOrder) (l : List Nat) (hl : l ≠ []) :
    unpackLane o none (Arr.flat l) = .ok (Arr.flat (unpackFlat o l)) := by
  rw [unpackLane, flat_not_empty hl]; exact unpack_flat_arr o (Arr.flat l)

/-- the lane closure of `unpack_bits` (no count) on the lanes of an axis of length `n > 0` -/
theorem unpackLane_of_length (o : BitOrder) {n : Nat} (hn : 0 < n) (l : List Nat) (hl : l.length = n) :
    unpackLane o none (Arr.flat l) = .ok (Arr.flat (unpackFlat o l)) ∧ (unpackFlat o l).length = 8 * n :=
  ⟨unpackLane_none o l (List.ne_nil_of_length_pos (hl ▸ hn)), hl ▸ unpackFlat_length o l⟩

theorem unpackLane_ne_panic (o : BitOrder) (count : Option Int) (lane : Arr Nat) : unpackLane o count lane ≠ .panic :=
  Res.ite_ne_panic (fun _ h => nomatch h) fun _ => unpackFlatArr_ne_panic o count lane

theorem unpackLane_nil (o : BitOrder) (count : Option Int) : unpackLane o count (Arr.flat []) = .ok ⟨[], [0]⟩ := rfl

/-! ## the flat arm of `pack_bits` -/

theorem packFlatArr_eq (o : BitOrder) (a : Arr Nat) : packFlatArr o a = .ok (Arr.flat (packedBytes o a.elems)) := by
  rw [packFlatArr, packFlat_eq]; rfl

/-- packing a non-empty lane always succeeds, whatever the values -/
theorem packLane_flat (o : BitOrder) (l : List Nat) (hl : l ≠ []) :
    packLane o (Arr.flat l) = .ok (Arr.flat (packedBytes o l)) := by
  rw [packLane, flat_not_empty hl]; exact packFlatArr_eq o (Arr.flat l)

/-- the lane closure of `pack_bits` on the lanes of an axis of length `n > 0` -/
theorem packLane_of_length (o : BitOrder) {n : Nat} (hn : 0 < n) (l : List Nat) (hl : l.length = n) :
    packLane o (Arr.flat l) = .ok (Arr.flat (packedBytes o l)) ∧ (packedBytes o l).length = (n + 7) / 8 :=
  ⟨packLane_flat o l (List.ne_nil_of_length_pos (hl ▸ hn)), hl ▸ packedBytes_length o l⟩

theorem packFlatArr_unpackFlat (o : BitOrder) (l : List Nat) (h : ∀ b ∈ l, b < 256) :
    packFlatArr o (Arr.flat (unpackFlat o l)) = .ok (Arr.flat l) := by
  rw [packFlatArr]
  show (packFlat o (unpackFlat o l) >>= _) = _
  rw [packFlat_unpackFlat o l h]; rfl

theorem packLane_unpackFlat (o : BitOrder) (l : List Nat) (hl : l ≠ []) (h : ∀ b ∈ l, b < 256) :
    packLane o (Arr.flat (unpackFlat o l)) = .ok (Arr.flat l) := by
  rw [packLane, flat_not_empty (unpackFlat_ne_nil o hl)]; exact packFlatArr_unpackFlat o l h

theorem packLane_ne_panic (o : BitOrder) (lane : Arr Nat) : packLane o lane ≠ .panic := by
  refine Res.ite_ne_panic (fun _ h => nomatch h) fun _ => ?_
  rw [packFlatArr_eq]; exact fun h => nomatch h

theorem packLane_nil (o : BitOrder) : packLane o (Arr.flat []) = .ok ⟨[], [0]⟩ := rfl

/-! ## never a panic -/

/-- **the shared frame on the pipeline model is total**: `Ok` with a well-formed array, or `Err` — for every well-formed
array (zero-length axes included), every axis and order option, given a total flat arm and lane closures that never panic -/
theorem bitsFrame_pipe_total (a : Arr Nat) (hwf : a.WF) (axis : Option Int) (ord : Option Spelling)
    (flatArm : BitOrder → Res (Arr Nat)) (lane : BitOrder → Arr Nat → Res (Arr Nat))
    (hflat : ∀ o, (∃ u, flatArm o = .ok u ∧ u.WF) ∨ (∃ e, flatArm o = .err e)) (hlane : ∀ o x, lane o x ≠ .panic) :
    (∃ u, bitsFrame alongPipe a axis ord flatArm lane = .ok u ∧ u.WF) ∨
    (∃ e, bitsFrame alongPipe a axis ord flatArm lane = .err e) := by
  cases he : a.isEmpty with
  | true =>
    rw [bitsFrame_of_isEmpty he]
    unfold emptyAnswer
    split
    · exact Or.inr ⟨_, rfl⟩
    · split
      · exact Or.inr ⟨_, rfl⟩
      · exact Or.inl ⟨_, rfl, rfl⟩
  | false =>
    cases ho : orderAccepted ord with
    | false => exact Or.inr ⟨_, bitsFrame_bad_order (optOrder_of_not_accepted ord ho)⟩
    | true =>
      obtain ⟨o, hoo⟩ := optOrder_of_accepted ord ho
      cases axis with
      | none => rw [bitsFrame_flat hoo he]; exact hflat o
      | some ax =>
        by_cases hk : normalizeAxis a.ndim ax < a.ndim
        · rw [bitsFrame_axis hoo hk he]
          rcases applyAlongAxis_total a 0 0 (normalizeAxis a.ndim ax) (lane o) hwf (hlane o) with ⟨r, h1, h2, _⟩ | ⟨e, h1⟩
          · exact Or.inl ⟨r, h1, h2⟩
          · exact Or.inr ⟨e, h1⟩
        · exact Or.inr ⟨_, bitsFrame_bad_axis hoo (Nat.le_of_not_lt hk)⟩

/-! ## `apply_along_axis` itself: on a zero-length axis (where the shortcut decides), and when every lane is refused -/

/-- on a well-formed array with a zero-length axis, the crate's `apply_along_axis` handed a lane function that answers the
empty 1-D array on the empty lane (both `unpackLane` and `packLane` do) would refuse with `ParameterError` when an axis
OTHER than the processed one has length 0, and give back the input array (its own shape) otherwise — neither is the
`Array::empty()` of shape `[0]` that the shortcut answers; the shortcut is reached first and decides -/
theorem alongPipe_zero_axis (a : Arr Nat) (hwf : a.WF) (k : Nat) (hk : k < a.ndim) (h0 : 0 ∈ a.shape)
    (f : Arr Nat → Res (Arr Nat)) (hf : f (Arr.flat []) = .ok ⟨[], [0]⟩) :
    alongPipe a k f = if 0 ∈ a.shape.eraseIdx k then .err .ParameterError else .ok a := by
  unfold alongPipe
  rcases zero_mem_cases a.shape k hk h0 with h | ⟨hrest, hn⟩
  · rw [if_pos h]; exact applyAlongAxis_other_zero a 0 0 k f hwf hk h
  · rw [if_neg hrest, applyAlongAxis_axis_zero a 0 0 k f hwf hk hrest hn, hf]
    simp only [Res.bind_ok, List.length_nil, or_true, if_true]
    rw [← hn, set_getD_self]
    exact congrArg _ (eq_mk_nil_of_zero_mem a hwf h0).symm

/-- a lane function that refuses every lane with the same error makes `apply_along_axis` refuse with that error -/
theorem applyAlongAxis_all_err {α β : Type} (a : Arr α) (zero : α) (zb : β) (axis : Nat) (f : Arr α → Res (Arr β)) (e : Err)
    (hwf : a.WF) (hax : axis < a.ndim) (hnz : 0 ∉ a.shape)
    (hf : ∀ lane : List α, lane.length = a.shape.getD axis 0 → f (Arr.flat lane) = .err e) :
    a.applyAlongAxis zero zb axis f = .err e := by
  have hP : 0 < (a.shape.eraseIdx axis).prod := prod_pos_of_not_mem _ (not_mem_eraseIdx _ _ hnz)
  have hn : 0 < a.shape.getD axis 0 := getD_mem_pos _ _ hax hnz
  obtain ⟨arr, ha1, ha2, ha3, _⟩ := moveLast_spec a zero axis hwf hax
  have hL : arr.elems.length = (a.shape.eraseIdx axis).prod * a.shape.getD axis 0 := by
    rw [ha3, ha2]; simp [List.prod_append]
  have hsplit := split_flat_even arr.elems zero _ _ hP hn hL
  unfold Arr.applyAlongAxis
  rw [if_neg (by omega)]
  simp only [ha1, Res.bind_ok, Arr.ravel, hsplit]
  obtain ⟨P, hPe⟩ : ∃ P, (a.shape.eraseIdx axis).prod = P + 1 := ⟨_, (Nat.succ_pred_eq_of_pos hP).symm⟩
  rw [hPe, List.range_succ_eq_map]
  simp only [List.map_cons, Res.mapM', Res.sequence]
  rw [hf _ (by
    rw [List.length_take, List.length_drop, hL, hPe]
    simp only [Nat.zero_mul, Nat.sub_zero]
    rw [Nat.add_mul]; omega)]
  rfl

/-! ## `binary_repr`: canonical form -/

/-- the digit loop emits exactly as many digits as the value needs: `2^(len-1) ≤ x < 2^len` -/
theorem reprLoop_length_bounds : ∀ (fuel x : Nat), 0 < x → x < fuel →
    2 ^ ((reprLoop fuel x).length - 1) ≤ x ∧ x < 2 ^ (reprLoop fuel x).length
  | 0, _, _, h => by omega
  | fuel + 1, x, hx, hf => by
    unfold reprLoop
    by_cases h2 : x / 2 = 0
    · rw [if_pos h2]
      simp only [List.length_cons, List.length_nil]
      have : x = 1 := by omega
      subst this; decide
    · rw [if_neg h2]
      obtain ⟨ih1, ih2⟩ := reprLoop_length_bounds fuel (x / 2) (by omega) (by omega)
      simp only [List.length_cons, Nat.add_sub_cancel]
      generalize (reprLoop fuel (x / 2)).length = L at ih1 ih2
      cases L with
      | zero => simp at ih2; omega
      | succ L' =>
        simp only [Nat.add_sub_cancel] at ih1
        simp only [Nat.pow_succ] at ih2 ⊢
        omega

/-- the last digit emitted (the most significant one) is `1` for a positive value: no leading zeros -/
theorem reprLoop_getLast : ∀ (fuel x : Nat), 0 < x → x < fuel → (reprLoop fuel x).getLast? = some 1
  | 0, _, _, h => by omega
  | fuel + 1, x, hx, hf => by
    unfold reprLoop
    by_cases h2 : x / 2 = 0
    · rw [if_pos h2]
      have : x = 1 := by omega
      subst this; rfl
    · rw [if_neg h2]
      have ih := reprLoop_getLast fuel (x / 2) (by omega) (by omega)
      cases hr : reprLoop fuel (x / 2) with
      | nil => rw [hr] at ih; simp at ih
      | cons y ys => rw [hr] at ih; simpa [List.getLast?_cons_cons] using ih

theorem binaryRepr_length (n : Nat) : (binaryRepr n).length = (reprLoop (n + 1) n).length := by
  simp [binaryRepr, binaryDigits]

/-- a value that needs `L` digits and needs `w` digits: `L = w` -/
theorem pow_window_unique (u L w : Nat) (h1 : 2 ^ (L - 1) ≤ u) (h2 : u < 2 ^ L) (h3 : 2 ^ (w - 1) ≤ u) (h4 : u < 2 ^ w) :
    L = w := by
  rcases Nat.lt_trichotomy L w with h | h | h
  · have : 2 ^ L ≤ 2 ^ (w - 1) := Nat.pow_le_pow_right (by decide) (by omega)
    omega
  · exact h
  · have : 2 ^ w ≤ 2 ^ (L - 1) := Nat.pow_le_pow_right (by decide) (by omega)
    omega

/-- the bit pattern of a value of a `w`-bit signed type -/
theorem signed_pattern (w : Nat) (v : Int) (hw : 0 < w)
    (hlo : -(2 ^ (w - 1) : Int) ≤ v) (hhi : v < (2 ^ (w - 1) : Int)) :
    ∃ u : Nat, (v % (2 ^ w : Int)).toNat = u ∧ u < 2 ^ w ∧
      (0 ≤ v → (u : Int) = v ∧ u < 2 ^ (w - 1)) ∧ (v < 0 → (u : Int) = v + (2 ^ w : Int) ∧ 2 ^ (w - 1) ≤ u) := by
  obtain ⟨k, rfl⟩ : ∃ k, w = k + 1 := ⟨w - 1, by omega⟩
  have hP : (2 ^ k : Int) = ((2 ^ k : Nat) : Int) := (Int.natCast_pow 2 k).symm
  rw [Nat.add_sub_cancel, hP] at hlo hhi
  rw [Nat.add_sub_cancel, Int.pow_succ, Nat.pow_succ, hP]
  generalize 2 ^ k = P at *
  refine ⟨_, rfl, ?_⟩
  by_cases h0 : 0 ≤ v
  · rw [Int.emod_eq_of_lt h0 (by omega)]
    omega
  · rw [← Int.add_emod_right, Int.emod_eq_of_lt (by omega) (by omega)]
    omega

/-! ### the converse: a canonical digit list is what the digit loop emits for its value -/

theorem ofDigitsLE_pos : ∀ ds : List Nat, ds.getLast? = some 1 → 0 < ofDigitsLE ds
  | [], h => by simp at h
  | [d], h => by
    simp only [List.getLast?_singleton, Option.some.injEq] at h
    subst h; decide
  | d :: e :: r, h => by
    have := ofDigitsLE_pos (e :: r) (by simpa [List.getLast?_cons_cons] using h)
    simp only [ofDigitsLE] at this ⊢
    omega

theorem reprLoop_ofDigitsLE (ds : List Nat) : ∀ fuel : Nat, (∀ d ∈ ds, d < 2) → ds.getLast? = some 1 →
    ofDigitsLE ds < fuel → reprLoop fuel (ofDigitsLE ds) = ds := by
  induction ds with
  | nil => intro _ _ h; cases h
  | cons d ds ih =>
    intro fuel hd h hf
    cases fuel with
    | zero => exact absurd hf (Nat.not_lt_zero _)
    | succ fuel =>
      cases ds with
      | nil =>
        rw [List.getLast?_singleton, Option.some.injEq] at h
        subst h; rfl
      | cons e r =>
        have hlast : (e :: r).getLast? = some 1 := by rwa [List.getLast?_cons_cons] at h
        have hpos := ofDigitsLE_pos (e :: r) hlast
        obtain ⟨h1, h2⟩ := digit_step d (ofDigitsLE (e :: r)) (hd d List.mem_cons_self)
        rw [ofDigitsLE] at hf ⊢
        rw [reprLoop, if_neg (by omega), h1, h2,
          ih fuel (fun x hx => hd x (List.mem_cons_of_mem _ hx)) hlast (by omega)]

/-- a canonical most-significant-first digit list (binary digits, no leading zero unless it is `[0]`) is the digit list
`binary_repr` produces for its value -/
theorem binaryDigits_ofDigitsBE (ds : List Nat) (hd : ∀ d ∈ ds, d < 2)
    (hc : ds = [0] ∨ ds.head? = some 1) : binaryDigits (ofDigitsBE ds) = ds := by
  unfold binaryDigits
  rcases hc with rfl | h
  · rfl
  · rw [ofDigitsBE_eq, reprLoop_ofDigitsLE ds.reverse _ (fun d h => hd d (List.mem_reverse.1 h))
      (by rw [List.getLast?_reverse]; exact h) (Nat.lt_succ_self _), List.reverse_reverse]

end ArrModel.C19
