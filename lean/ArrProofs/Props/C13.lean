import ArrProofs.Lemmas.C13Axis
import ArrProofs.Lemmas.C13Repeat
/-!
# C13 — delete, insert, append and repeat change exactly the addressed positions

Helper lemmas are in `ArrProofs/Lemmas/C13*.lean`.
Model under test: `ArrModel/C13.lean` (`deleteFlat`, `delete`, `insertFlat`, `appendFlat`, `repeatFlat`, `repeatAxis`,
`trimZeros`; `manipulate.rs:238-341, 382-393`, `tiling.rs`), with `applyAlongAxis` (`ArrModel/AlongAxis.lean`),
`broadcastTo` / `broadcastH2` (`ArrModel/Broadcast.lean`), `split` / `moveaxis`.

Specification vocabulary
* `keptIdx n idxs` — the positions `0 … n-1` that are NOT requested, ascending (`(List.range n).filter (· ∉ idxs)`).
* `laneOf`, `a.get? c`, `inRange` — as in C08 / C02.
* `bc1 L n` — a vector stretched to length `n` (itself, or its single entry `n` times).
* `expandIdx R` — the run-length expansion of the indices `0 … R.length-1` with counts `R`: index `i` emitted `R[i]`
  consecutive times (`((List.range R.length).zip R).flatMap (fun p => List.replicate p.2 p.1)`; `expandIdx_spec`).
* `sortByIdx` (model) — the stable sort of the (index, value) pairs the code performs; characterised by `sortByIdx_spec`.
-/
namespace ArrModel.C13
open ArrModel Arr
variable {α : Type}

/-! ## flat delete -/

/-- **flat delete removes exactly the requested positions**, whatever the order or repetition of the request: when
every requested index is inside the array the call succeeds and the result is the flat array of the elements whose
POSITION is not requested, in their original order; when some index is outside, the answer is `Err(OutOfBounds)`.
These two cases are exhaustive, so the call never panics. -/
theorem deleteFlat_spec (a : Arr α) (idxs : List Nat) :
    ((∀ i ∈ idxs, i < a.elems.length) →
      a.deleteFlat idxs = .ok (Arr.flat ((a.elems.zipIdx.filter (fun p => decide (p.2 ∉ idxs))).map (·.1)))) ∧
    ((∃ i ∈ idxs, a.elems.length ≤ i) → a.deleteFlat idxs = .err .OutOfBounds) :=
  ⟨Arr.deleteFlat_ok a idxs, Arr.deleteFlat_err a idxs⟩

/-- the same result position by position: element `j` of the result is the element at the `j`-th non-requested
position, and the length drops by the number of DISTINCT requested positions -/
theorem deleteFlat_at (a : Arr α) (idxs : List Nat) (h : ∀ i ∈ idxs, i < a.elems.length) :
    ∃ r, a.deleteFlat idxs = .ok r ∧ r.shape = [r.elems.length] ∧
      r.elems.length + ((List.range a.elems.length).filter (fun i => decide (i ∈ idxs))).length = a.elems.length ∧
      r.elems.length = (keptIdx a.elems.length idxs).length ∧
      ∀ j : Nat, r.elems[j]? = (keptIdx a.elems.length idxs)[j]?.bind (fun i => a.elems[i]?) :=
  ⟨_, Arr.deleteFlat_ok a idxs h, rfl, keepPositions_length _ _, keepPositions_length_keptIdx _ _,
    fun j => keepPositions_getElem? _ _ j⟩

/-- **order and repetition of the request are irrelevant**: two requests naming the same set of positions give the
same answer (result or error) -/
theorem deleteFlat_request_set (a : Arr α) (idxs idxs' : List Nat) (h : ∀ i, i ∈ idxs ↔ i ∈ idxs') :
    a.deleteFlat idxs = a.deleteFlat idxs' := by
  by_cases hb : ∀ i ∈ idxs, i < a.elems.length
  · rw [Arr.deleteFlat_ok a idxs hb, Arr.deleteFlat_ok a idxs' (fun i hi => hb i ((h i).2 hi))]
    have : (fun (p : α × Nat) => decide (p.2 ∉ idxs)) = (fun p => decide (p.2 ∉ idxs')) := by funext p; simp [h]
    unfold keepPositions; rw [this]
  · obtain ⟨i, hi, hle⟩ := exists_ge_of_not_forall_lt hb
    rw [Arr.deleteFlat_err a idxs ⟨i, hi, hle⟩, Arr.deleteFlat_err a idxs' ⟨i, (h i).1 hi, hle⟩]

theorem delete_none (a : Arr α) (zero : α) (idxs : List Nat) : a.delete zero idxs none = a.deleteFlat idxs := rfl

/-! ## delete along an axis -/

/-- **delete along an axis removes exactly those positions from every lane**: for a well-formed array without a
zero-length axis, an axis inside the rank and requested indices inside the axis (any order, any repetition), the call
succeeds; the axis shrinks to the number of non-requested positions, every other axis is kept, and the element at
coordinate `c` of the result is the element of `a` at `c` with the axis coordinate replaced by the `c[axis]`-th
non-requested position (so every untouched element sits at its shifted coordinate, in order). -/
theorem delete_axis_spec (a : Arr α) (zero : α) (idxs : List Nat) (axis : Nat)
    (hwf : a.WF) (hax : axis < a.ndim) (hnz : 0 ∉ a.shape) (hb : ∀ i ∈ idxs, i < a.shape.getD axis 0) :
    ∃ r, a.delete zero idxs (some axis) = .ok r ∧
      r.shape = a.shape.set axis (keptIdx (a.shape.getD axis 0) idxs).length ∧ r.WF ∧
      ∀ c, inRange r.shape c = true →
        ∃ k, (keptIdx (a.shape.getD axis 0) idxs)[c.getD axis 0]? = some k ∧ r.get? c = a.get? (c.set axis k) := by
  obtain ⟨r, h1, h2, h3, h4⟩ := Arr.delete_axis_keep a zero idxs axis hwf hax hnz hb
  refine ⟨r, h1, h2, h3, fun c hc => ?_⟩
  have hc' : inRange (a.shape.set axis (keptIdx (a.shape.getD axis 0) idxs).length) c = true := h2 ▸ hc
  have hll := laneOf_length a axis _ c hwf hc'
  have hax' : axis < a.shape.length := hax
  have hj : c.getD axis 0 < (keptIdx (a.shape.getD axis 0) idxs).length := by
    have := inRange_getD_lt _ _ axis hc' (by simpa using hax')
    rwa [getD_set_self _ _ _ hax'] at this
  refine ⟨_, List.getElem?_eq_getElem hj, ?_⟩
  rw [(h4 c hc).2, keepPositions_getElem?, hll, List.getElem?_eq_getElem hj, Option.bind_some]
  exact laneOf_getElem? a axis _ c hwf hc' _ (keptIdx_lt _ _ _ (List.getElem_mem hj)).1

/-- the kept positions: ascending, exactly the non-requested ones, and their number is the axis length minus the
number of distinct requested positions -/
theorem keptIdx_spec (n : Nat) (idxs : List Nat) :
    (keptIdx n idxs).Pairwise (· < ·) ∧ (∀ k, k ∈ keptIdx n idxs ↔ k < n ∧ k ∉ idxs) ∧
    (keptIdx n idxs).length + ((List.range n).filter (fun i => decide (i ∈ idxs))).length = n := by
  refine ⟨?_, fun k => by simp [keptIdx], keptIdx_length n idxs⟩
  unfold keptIdx
  exact (List.pairwise_lt_range (n := n)).filter _

/-- **delete along an axis equals the flat delete on every lane** (the form the code has) -/
theorem delete_axis_lanes (a : Arr α) (zero : α) (idxs : List Nat) (axis : Nat)
    (hwf : a.WF) (hax : axis < a.ndim) (hnz : 0 ∉ a.shape) (hb : ∀ i ∈ idxs, i < a.shape.getD axis 0) :
    ∃ r, a.delete zero idxs (some axis) = .ok r ∧
      ∀ c, inRange r.shape c = true →
        ∃ y, (Arr.flat (laneOf a axis c)).deleteFlat idxs = .ok y ∧ r.get? c = y.elems[c.getD axis 0]? := by
  obtain ⟨r, h1, _, _, h4⟩ := Arr.delete_axis_keep a zero idxs axis hwf hax hnz hb
  exact ⟨r, h1, fun c hc => ⟨_, h4 c hc⟩⟩

/-- **rejections along an axis**: an index beyond the axis length gives `Err(OutOfBounds)`, an axis outside the rank
`Err(AxisOutOfBounds)` — no panic, no data -/
theorem delete_axis_rejects (a : Arr α) (zero : α) (idxs : List Nat) (axis : Nat) :
    (a.WF → axis < a.ndim → 0 ∉ a.shape → (∃ i ∈ idxs, a.shape.getD axis 0 ≤ i) →
      a.delete zero idxs (some axis) = .err .OutOfBounds) ∧
    (a.ndim ≤ axis → a.delete zero idxs (some axis) = .err .AxisOutOfBounds) :=
  ⟨fun hwf hax hnz hb => Arr.delete_axis_oob a zero idxs axis hwf hax hnz hb,
   fun h => applyAlongAxis_axis_err a zero zero axis _ h⟩

/-! ## flat insert -/

/-- **the pair order the code inserts in**: a permutation of the request, ascending in the index, and pairs carrying
the same index keep their request order (stable) -/
theorem sortByIdx_spec (l : List (Nat × α)) :
    (sortByIdx l).Perm l ∧ (sortByIdx l).Pairwise (fun p q => p.1 ≤ q.1) ∧
    ∀ i, (sortByIdx l).filter (fun p => p.1 == i) = l.filter (fun p => p.1 == i) :=
  ⟨sortByIdx_perm l, sortByIdx_sorted l, sortByIdx_stable l⟩

/-- **flat insert, pairwise case** (`k ≥ 1` indices, `k` values in a 1-D array): positions refer to the OLD flattened
array.  With every index `≤ len` the call succeeds with a flat array of `len + k` elements; with
`S = sortByIdx (idxs.zip values)` (see `sortByIdx_spec`) the `j`-th pair of `S` lands at position `S[j].index + j` and
holds `S[j].value`; and removing exactly the `k` landing positions gives back the old elements in their old order. -/
theorem insertFlat_spec (a : Arr α) (idxs : List Nat) (values : Arr α)
    (hv : values.ndim = 1) (ha : 1 ≤ a.ndim) (hk : 0 < idxs.length) (hlen : values.elems.length = idxs.length)
    (hb : ∀ i ∈ idxs, i ≤ a.elems.length) :
    ∃ r, a.insertFlat idxs values = .ok r ∧ r.shape = [a.elems.length + idxs.length] ∧
      r.elems.length = a.elems.length + idxs.length ∧
      (∀ j (hj : j < (sortByIdx (idxs.zip values.elems)).length),
        r.elems[(sortByIdx (idxs.zip values.elems))[j].1 + j]? = some (sortByIdx (idxs.zip values.elems))[j].2) ∧
      (r.elems.zipIdx.filter (fun p => decide (p.2 ∉
          (sortByIdx (idxs.zip values.elems)).zipIdx.map (fun q => q.1.1 + q.2)))).map (·.1) = a.elems := by
  obtain ⟨hok, hSl, hs, hS⟩ := Arr.insertFlat_pairwise a idxs values hv ha hk hlen hb
  obtain ⟨h1, h2, h3, _⟩ := insertAllAt_spec a.elems _ hs hS
  rw [hSl] at h1
  exact ⟨_, hok, congrArg (fun n => [n]) h1, h1, h2, h3⟩

/-- **deleting what was just inserted restores the original**: the flat delete of the landing positions from the
result of the (pairwise) flat insert is the flattened original -/
theorem delete_insert_id (a : Arr α) (idxs : List Nat) (values : Arr α)
    (hv : values.ndim = 1) (ha : 1 ≤ a.ndim) (hk : 0 < idxs.length) (hlen : values.elems.length = idxs.length)
    (hb : ∀ i ∈ idxs, i ≤ a.elems.length) :
    (a.insertFlat idxs values >>= fun r =>
      r.deleteFlat ((sortByIdx (idxs.zip values.elems)).zipIdx.map (fun q => q.1.1 + q.2))) = .ok (Arr.flat a.elems) := by
  obtain ⟨hok, _, hs, hS⟩ := Arr.insertFlat_pairwise a idxs values hv ha hk hlen hb
  rw [hok, Res.bind_ok]
  exact (insertAllAt_spec a.elems _ hs hS).2.2.2

/-- **several values at one position** (the index broadcasts): they go in as one block, in request order, in front of
the old element at that position -/
theorem insertFlat_one_index (a : Arr α) (i : Nat) (values : Arr α)
    (hv : values.ndim = 1) (ha : 1 ≤ a.ndim) (hm : 0 < values.elems.length) (hb : i ≤ a.elems.length) :
    a.insertFlat [i] values = .ok (Arr.flat (a.elems.take i ++ values.elems ++ a.elems.drop i)) := by
  have hN : values.elems.length = max [i].length values.elems.length := by simp; omega
  have hsorted : (values.elems.map (fun v => (i, v))).Pairwise (fun p q => p.1 ≤ q.1) := by
    rw [List.pairwise_map]; exact List.pairwise_of_forall_mem_list (fun _ _ _ _ => Nat.le_refl _)
  have hok := (Arr.insertFlat_ok a [i] values hv ha (by simp) hm (.inr (.inl rfl)) (by simpa using hb)
    values.elems.length (values.elems.map (fun v => (i, v))) hN
    (by rw [bc1_same, bc1_single, zip_replicate_left, sortByIdx_of_sorted _ hsorted])).1
  rwa [insertAllAt_same_index _ _ hb] at hok

/-- **one value at several positions** (the value broadcasts): exactly the pairwise statement with the value repeated -/
theorem insertFlat_one_value (a : Arr α) (idxs : List Nat) (v : α) (values : Arr α) (hve : values.elems = [v])
    (hv : values.ndim = 1) (ha : 1 ≤ a.ndim) (hk : 0 < idxs.length) (hb : ∀ i ∈ idxs, i ≤ a.elems.length) :
    a.insertFlat idxs values = a.insertFlat idxs (Arr.flat (List.replicate idxs.length v)) := by
  have hN : idxs.length = max idxs.length values.elems.length := by simp [hve]; omega
  have hrl : (List.replicate idxs.length v).length = idxs.length := List.length_replicate
  have h1 := (Arr.insertFlat_ok a idxs values hv ha hk (by simp [hve]) (.inr (.inr (by simp [hve]))) hb
    idxs.length (sortByIdx (idxs.zip (List.replicate idxs.length v))) hN
    (by rw [bc1_same, hve, bc1_single])).1
  have h2 := (Arr.insertFlat_pairwise a idxs (Arr.flat (List.replicate idxs.length v)) rfl ha hk hrl hb).1
  rw [h1, h2]; rfl

/-- **rejections of flat insert** (exhaustive together with the three success cases above for a 1-D value array, so
the call never panics there): an index beyond `len` gives `Err(OutOfBounds)`; otherwise a value array that is not 1-D
(or a rank-0 receiver) gives `Err(UnsupportedDimension)`; otherwise index and value counts that are neither equal nor
one of them 1 (or zero) give `Err(BroadcastShapeMismatch)`. -/
theorem insertFlat_rejects (a : Arr α) (idxs : List Nat) (values : Arr α) :
    ((∃ i ∈ idxs, a.elems.length < i) → a.insertFlat idxs values = .err .OutOfBounds) ∧
    ((∀ i ∈ idxs, i ≤ a.elems.length) → (values.ndim ≠ 1 ∨ a.ndim = 0) →
      a.insertFlat idxs values = .err .UnsupportedDimension) ∧
    ((∀ i ∈ idxs, i ≤ a.elems.length) → values.ndim = 1 → 1 ≤ a.ndim →
      (idxs.length = 0 ∨ values.elems.length = 0 ∨
        (idxs.length ≠ values.elems.length ∧ idxs.length ≠ 1 ∧ values.elems.length ≠ 1)) →
      a.insertFlat idxs values = .err .BroadcastShapeMismatch) :=
  ⟨Arr.insertFlat_oob a idxs values, Arr.insertFlat_dim a idxs values, Arr.insertFlat_mismatch a idxs values⟩

/-! ## flat append -/

/-- **append puts the new elements exactly at the end**: the result is the flat array of the old elements followed
by the new ones; the first `len` positions are unchanged and position `len + j` holds the `j`-th new element -/
theorem appendFlat_spec (a v : Arr α) :
    (a.appendFlat v).elems = a.elems ++ v.elems ∧ (a.appendFlat v).shape = [a.elems.length + v.elems.length] ∧
    (a.appendFlat v).WF ∧
    (∀ i, i < a.elems.length → (a.appendFlat v).elems[i]? = a.elems[i]?) ∧
    (∀ j, (a.appendFlat v).elems[a.elems.length + j]? = v.elems[j]?) := by
  refine ⟨rfl, by simp [Arr.appendFlat, Arr.flat], by simp [Arr.appendFlat, Arr.flat, Arr.WF], ?_, ?_⟩
  · intro i hi; show (a.elems ++ v.elems)[i]? = _; rw [List.getElem?_append_left hi]
  · intro j; show (a.elems ++ v.elems)[_]? = _
    rw [List.getElem?_append_right (by omega)]; congr 1; omega

/-- deleting the appended tail restores the (flattened) original -/
theorem delete_append_id (a v : Arr α) :
    (a.appendFlat v).deleteFlat ((List.range v.elems.length).map (a.elems.length + ·)) = .ok (Arr.flat a.elems) := by
  rw [Arr.deleteFlat_ok]
  · congr 2
    show keepPositions (a.elems ++ v.elems) _ = a.elems
    unfold keepPositions
    rw [List.zipIdx_append, List.filter_append, List.map_append]
    have h1 : (a.elems.zipIdx.filter (fun p => decide (p.2 ∉ (List.range v.elems.length).map (a.elems.length + ·)))) = a.elems.zipIdx := by
      rw [List.filter_eq_self]
      intro p hp
      have := (List.mem_zipIdx hp).2.1
      simp at this ⊢; intro x _; omega
    have h2 : ((v.elems.zipIdx (0 + a.elems.length)).filter (fun p => decide (p.2 ∉ (List.range v.elems.length).map (a.elems.length + ·)))) = [] := by
      rw [List.filter_eq_nil_iff]
      intro p hp
      have := List.mem_zipIdx hp
      simp at this ⊢
      exact ⟨p.2 - a.elems.length, by omega, by omega⟩
    rw [h1, h2]; simp
  · intro i hi
    obtain ⟨j, hj, rfl⟩ := List.mem_map.1 hi
    have : j < v.elems.length := by simpa using hj
    show _ < (a.elems ++ v.elems).length
    rw [List.length_append]; omega

/-! ## repeat -/

/-- **flat repeat with one count**: every element of the flattened array is emitted `c` consecutive times (any rank;
the last axis must not be empty — then the call is refused) -/
theorem repeatFlat_spec (a : Arr α) (c : Nat) (hwf : a.WF) :
    (a.shape.getLast? ≠ some 0 → a.repeatFlat [c] = .ok (Arr.flat (a.elems.flatMap (List.replicate c)))) ∧
    (a.shape.getLast? = some 0 → a.repeatFlat [c] = .err .BroadcastShapeMismatch) :=
  ⟨repeatFlat_single a c hwf, repeatFlat_single_reject a c⟩

/-- **flat repeat with one count per element** (1-D array of `n ≥ 1` elements, `n` counts, zeros allowed): element `i`
is emitted `repeats[i]` consecutive times; the result has `Σ repeats` elements -/
theorem repeatFlat_counts_spec (a : Arr α) (repeats : List Nat) (n : Nat) (hwf : a.WF) (hs : a.shape = [n]) (hn : 0 < n)
    (hr : repeats.length = n) :
    ∃ r, a.repeatFlat repeats = .ok r ∧
      r.elems = (a.elems.zip repeats).flatMap (fun p => List.replicate p.2 p.1) ∧
      r.shape = [repeats.sum] ∧ r.elems.length = repeats.sum ∧
      ∀ j : Nat, r.elems[j]? = (expandIdx repeats)[j]?.bind (fun i => a.elems[i]?) := by
  have hlen : a.elems.length = n := by rw [hwf, hs]; simp
  have hl : ((a.elems.zip repeats).flatMap (fun p => List.replicate p.2 p.1)).length = repeats.sum :=
    zip_flatMap_replicate_length _ _ (by omega)
  refine ⟨_, repeatFlat_1d a repeats n hs hn hr, rfl, ?_, hl, ?_⟩
  · show [List.length _] = _; rw [hl]
  · intro j
    exact getElem?_zip_flatMap_replicate a.elems repeats (by omega) j

/-- the run-length expansion is determined by: ascending, and index `i` occurs exactly `R[i]` times — i.e. every
index is emitted `R[i]` consecutive times, in index order -/
theorem expandIdx_characterisation (R : List Nat) :
    (expandIdx R).Pairwise (· ≤ ·) ∧ (∀ i, (expandIdx R).count i = R.getD i 0) ∧ (expandIdx R).length = R.sum :=
  ⟨(expandIdx_spec R).1, (expandIdx_spec R).2, expandIdx_length R⟩

/-- **repeat along an axis, EVERY axis of EVERY rank**: for a well-formed array without a zero-length axis and a count
vector `R` with one count per index of the axis (or a single count, which is used for every index; zeros allowed), the
call succeeds, the axis gets length `Σ R`, every other axis is kept, and the element at coordinate `c` of the result
is the element of `a` at `c` with the axis coordinate replaced by the source index of output position `c[axis]` in the
run-length expansion (`expandIdx`): index `i` of the axis is emitted `R[i]` consecutive times. -/
theorem repeatAxis_spec (a : Arr α) (zero : α) (repeats : List Nat) (axis : Nat)
    (hwf : a.WF) (hax : axis < a.ndim) (hnz : 0 ∉ a.shape)
    (hr : repeats.length = a.shape.getD axis 0 ∨ repeats.length = 1) :
    ∃ r, a.repeatAxis zero repeats axis = .ok r ∧
      r.shape = a.shape.set axis (bc1 repeats (a.shape.getD axis 0)).sum ∧ r.WF ∧
      ∀ c, inRange r.shape c = true →
        ∃ k, (expandIdx (bc1 repeats (a.shape.getD axis 0)))[c.getD axis 0]? = some k ∧
          r.get? c = a.get? (c.set axis k) := by
  obtain ⟨P, Q, rfl, hs, -⟩ := C11.exists_cut a.shape axis hax
  generalize a.shape.getD P.length 0 = n at hs hr ⊢
  rw [hs]
  obtain ⟨r, h1, h2, h3, h4⟩ := repeatAxis_at a zero repeats P Q n hwf hs hnz hr
  refine ⟨r, h1, by rw [h2, C11.set_mid], h3, ?_⟩
  intro c hc
  rw [h2] at hc
  obtain ⟨p, j, q, rfl, hp, hj, hq⟩ := C11.inRange_cut P Q _ c hc
  obtain ⟨k, hk1, hk2⟩ := h4 p q j hp hq hj
  refine ⟨k, ?_, ?_⟩
  · rw [← inRange_length _ _ hp, C11.getD_mid]; exact hk1
  · rw [← inRange_length _ _ hp, C11.set_mid]; exact hk2

/-- the count vector actually used: the request itself when it has one count per index, the single count repeated
otherwise -/
theorem repeat_counts (repeats : List Nat) (n : Nat) :
    (repeats.length = n → bc1 repeats n = repeats) ∧ (∀ c : Nat, bc1 [c] n = List.replicate n c) :=
  ⟨fun h => by rw [← h]; exact bc1_same repeats, fun c => bc1_single c n⟩

/-- **rejections of repeat along an axis**: an axis outside the rank gives `Err(AxisOutOfBounds)`; a count vector
whose length is neither the axis length nor 1 (or is empty) gives `Err(BroadcastShapeMismatch)` -/
theorem repeatAxis_rejects (a : Arr α) (zero : α) (repeats : List Nat) (axis : Nat) :
    (a.ndim ≤ axis → a.repeatAxis zero repeats axis = .err .AxisOutOfBounds) ∧
    (axis < a.ndim →
      (repeats.length ≠ a.shape.getD axis 0 ∧ repeats.length ≠ 1 ∧ a.shape.getD axis 0 ≠ 1 ∨ repeats.length = 0) →
      a.repeatAxis zero repeats axis = .err .BroadcastShapeMismatch) :=
  ⟨repeatAxis_axis_err a zero repeats axis, fun hax h => repeatAxis_count_err a zero repeats axis hax (by omega)⟩

/-! ## trim_zeros -/

/-- **trimming removes leading and trailing zeros only**: a rank-1 array is answered with a flat array `r` such that
the input is `p ++ r ++ s` with `p` and `s` all zeros and `r` neither starting nor ending with a zero (so `p`, `s` are
the LONGEST all-zero prefix and suffix); any other rank is refused. -/
theorem trimZeros_spec [DecidableEq α] (a : Arr α) (zero : α) :
    (a.ndim = 1 → ∃ r p s, a.trimZeros zero = .ok r ∧ r.shape = [r.elems.length] ∧
      a.elems = p ++ r.elems ++ s ∧ (∀ x ∈ p, x = zero) ∧ (∀ x ∈ s, x = zero) ∧
      r.elems.head? ≠ some zero ∧ r.elems.getLast? ≠ some zero) ∧
    (a.ndim ≠ 1 → a.trimZeros zero = .err .UnsupportedDimension) := by
  constructor
  · intro h
    obtain ⟨p, s, h1, h2, h3, h4, h5⟩ := trimList_decomp zero a.elems
    refine ⟨Arr.flat (trimList zero a.elems), p, s, ?_, rfl, h1, h2, h3, h4, h5⟩
    unfold Arr.trimZeros; rw [if_neg (by simp [h])]; rfl
  · intro h; unfold Arr.trimZeros; rw [if_pos h]

/-- **nothing else is removed**: the decomposition of `trimZeros_spec` determines the result — whenever the input is
`zeros ++ r ++ zeros` with `r` not starting or ending with zero, the answer is exactly `r` -/
theorem trimZeros_unique [DecidableEq α] (a : Arr α) (zero : α) (h : a.ndim = 1) (p r s : List α)
    (hl : a.elems = p ++ r ++ s) (hp : ∀ x ∈ p, x = zero) (hs : ∀ x ∈ s, x = zero)
    (hh : r.head? ≠ some zero) (ht : r.getLast? ≠ some zero) : a.trimZeros zero = .ok (Arr.flat r) := by
  unfold Arr.trimZeros; rw [if_neg (by simp [h])]
  have := trimList_of_decomp zero a.elems p r s hl hp hs hh ht
  unfold trimList at this
  rw [this]

/-! ## non-vacuity (no `decide` through `List.mergeSort`: the theorems are instantiated, the hypotheses discharged) -/

/-- a `[2,3,2]` sample array -/
def sample : Arr Nat := ⟨List.range 12, [2, 3, 2]⟩

example : sample.WF ∧ 0 ∉ sample.shape := by decide
-- flat delete: request `[4, 1, 4]` (unordered, repeated) on 6 elements
example := (deleteFlat_spec (Arr.flat [10, 11, 12, 13, 14, 15]) [4, 1, 4]).1 (by decide)
example : ((([10, 11, 12, 13, 14, 15] : List Nat).zipIdx.filter (fun p => decide (p.2 ∉ [4, 1, 4]))).map (·.1)) = [10, 12, 13, 15] := by
  decide
example := (deleteFlat_spec (Arr.flat [10, 11, 12]) [0, 3]).2 ⟨3, by decide, by decide⟩
-- delete along the middle axis of the rank-3 sample, positions {2, 0} requested as [2, 0, 2]
example := delete_axis_spec sample 0 [2, 0, 2] 1 (by decide) (by decide) (by decide) (by decide)
example : keptIdx 3 [2, 0, 2] = [1] := by decide
example := (delete_axis_rejects sample 0 [3] 1).1 (by decide) (by decide) (by decide) ⟨3, by decide, by decide⟩
-- flat insert: three values at indices [2, 0, 2] of a 3-element array (equal indices, unordered)
example := insertFlat_spec (Arr.flat [7, 8, 9]) [2, 0, 2] (Arr.flat [100, 200, 300]) rfl (by decide) (by decide) rfl (by decide)
example := delete_insert_id (Arr.flat [7, 8, 9]) [2, 0, 2] (Arr.flat [100, 200, 300]) rfl (by decide) (by decide) rfl (by decide)
example : insertAllAt [7, 8, 9] [(0, 200), (2, 100), (2, 300)] = [200, 7, 8, 100, 300, 9] := by decide
example : landing [(0, 200), (2, 100), (2, 300)] = [0, 3, 4] := by decide
example := insertFlat_one_index (Arr.flat [7, 8, 9]) 1 (Arr.flat [100, 200]) rfl (by decide) (by decide) (by decide)
-- append / trim
example := appendFlat_spec (Arr.flat [1, 2]) (Arr.flat [3])
example := (trimZeros_spec (Arr.flat [0, 0, 1, 0, 2, 0]) 0).1 rfl
example : (Arr.flat [0, 0, 1, 0, 2, 0]).trimZeros 0 = .ok (Arr.flat [1, 0, 2]) := by decide
example := trimZeros_unique (Arr.flat [0, 0, 1, 0, 2, 0]) 0 rfl [0, 0] [1, 0, 2] [0] rfl (by decide) (by decide) (by decide) (by decide)
example := (trimZeros_spec sample 0).2 (by decide)
-- repeat: counts [2, 0, 1] along the middle axis (a zero count), and one count for all along the last axis
example := repeatAxis_spec sample 0 [2, 0, 1] 1 (by decide) (by decide) (by decide) (.inl (by decide))
example := repeatAxis_spec sample 0 [3] 2 (by decide) (by decide) (by decide) (.inr rfl)
example : expandIdx [2, 0, 1] = [0, 0, 2] := by decide
example : sample.repeatAxis 0 [2, 0, 1] 1 = .ok ⟨[0, 1, 0, 1, 4, 5, 6, 7, 6, 7, 10, 11], [2, 3, 2]⟩ := by decide +kernel
example := (repeatFlat_spec sample 2 (by decide)).1 (by decide)
example := repeatFlat_counts_spec (Arr.flat [5, 6, 7]) [2, 0, 1] 3 (by decide) rfl (by decide) rfl

/-! ## `delete` and `repeat` along an axis of an array with a zero-length axis; their totality -/

/-- **`delete` along an axis of a well-formed array that has a zero-length axis** — complete.  When an axis OTHER than
the working axis is empty the call is `Err(ParameterError)` whatever the request (the lane count is zero and
`apply_along_axis` asks `split` for zero parts).  Otherwise the working axis is the empty one: the empty request returns
the array unchanged, every other request is `Err(OutOfBounds)` (each index is beyond the empty lane). -/
theorem delete_axis_zero_spec (a : Arr α) (zero : α) (idxs : List Nat) (axis : Nat)
    (hwf : a.WF) (hax : axis < a.ndim) (hz : 0 ∈ a.shape) :
    (0 ∈ a.shape.eraseIdx axis → a.delete zero idxs (some axis) = .err .ParameterError) ∧
    (0 ∉ a.shape.eraseIdx axis → a.shape.getD axis 0 = 0 ∧
      (idxs = [] → a.delete zero idxs (some axis) = .ok a) ∧
      (idxs ≠ [] → a.delete zero idxs (some axis) = .err .OutOfBounds)) := by
  refine ⟨applyAlongAxis_other_zero a zero zero axis _ hwf hax, fun h => ?_⟩
  have hn : a.shape.getD axis 0 = 0 := ((zero_mem_cases a.shape axis hax hz).resolve_left h).2
  -- one lane, the empty one: the call answers what the flat delete answers on it
  have hcall := applyAlongAxis_axis_zero a zero zero axis (fun lane => lane.deleteFlat idxs) hwf hax h hn
  rw [deleteFlat_nil] at hcall
  refine ⟨hn, fun hi => ?_, fun hi => ?_⟩
  · rw [if_pos hi] at hcall
    refine hcall.trans ?_
    rw [Res.bind_ok, if_pos (.inr rfl)]
    show Res.ok (Arr.mk [] (a.shape.set axis 0)) = _
    rw [← hn, set_getD_self, ← eq_mk_nil_of_zero_mem a hwf hz]
  · rw [if_neg hi] at hcall
    exact hcall

/-- **`delete` never panics on a well-formed array**: no axis / any axis (inside the rank or not), any request, zero-length
axes included — the answer is data or an error -/
theorem delete_total (a : Arr α) (zero : α) (idxs : List Nat) (axis : Option Nat) (hwf : a.WF) :
    a.delete zero idxs axis ≠ .panic := by
  cases axis with
  | none =>
    rw [delete_none]
    by_cases hb : ∀ i ∈ idxs, i < a.elems.length
    · rw [(deleteFlat_spec a idxs).1 hb]; simp
    · rw [(deleteFlat_spec a idxs).2 (exists_ge_of_not_forall_lt hb)]; simp
  | some axis =>
    by_cases hax : axis < a.ndim
    · by_cases hz : 0 ∈ a.shape
      · obtain ⟨h1, h2⟩ := delete_axis_zero_spec a zero idxs axis hwf hax hz
        by_cases h0 : 0 ∈ a.shape.eraseIdx axis
        · rw [h1 h0]; simp
        · obtain ⟨_, g1, g2⟩ := h2 h0
          by_cases hi : idxs = []
          · rw [g1 hi]; simp
          · rw [g2 hi]; simp
      · by_cases hb : ∀ i ∈ idxs, i < a.shape.getD axis 0
        · obtain ⟨r, hr, _⟩ := delete_axis_spec a zero idxs axis hwf hax hz hb
          rw [hr]; simp
        · rw [(delete_axis_rejects a zero idxs axis).1 hwf hax hz (exists_ge_of_not_forall_lt hb)]; simp
    · rw [(delete_axis_rejects a zero idxs axis).2 (by omega)]; simp

/-- **`repeat` along an axis of a well-formed array that has a zero-length axis** — complete.  When the working axis is
the empty one every count vector is refused (`broadcast_to([0])` fails).  Otherwise (another axis is empty) a count
vector of the axis length or a single count gives the empty array whose working axis has length `Σ counts`; any other
count vector is refused. -/
theorem repeatAxis_zero_spec (a : Arr α) (zero : α) (repeats : List Nat) (axis : Nat)
    (hwf : a.WF) (hax : axis < a.ndim) (hz : 0 ∈ a.shape) :
    (a.shape.getD axis 0 = 0 → a.repeatAxis zero repeats axis = .err .BroadcastShapeMismatch) ∧
    (a.shape.getD axis 0 ≠ 0 → (repeats.length = a.shape.getD axis 0 ∨ repeats.length = 1) →
      a.repeatAxis zero repeats axis = .ok ⟨[], a.shape.set axis (bc1 repeats (a.shape.getD axis 0)).sum⟩) ∧
    (a.shape.getD axis 0 ≠ 0 → ¬ (repeats.length = a.shape.getD axis 0 ∨ repeats.length = 1) →
      a.repeatAxis zero repeats axis = .err .BroadcastShapeMismatch) :=
  ⟨fun h => repeatAxis_count_err a zero repeats axis hax (by omega),
   fun hn hr => Arr.repeatAxis_zero_ok a zero repeats axis hwf hax hz hn hr,
   fun _ hr => repeatAxis_count_err a zero repeats axis hax (fun h => hr h.2)⟩

/-- **`repeat` along an axis is total on well-formed arrays** (zero-length axes included, no hypothesis on the axis or
the counts): `Err(AxisOutOfBounds)` exactly for an axis outside the rank; otherwise `Err(BroadcastShapeMismatch)` exactly
when the axis is empty or the count vector has neither the axis length nor length 1; otherwise a well-formed array whose
working axis has length `Σ counts`, all other axes kept.  Never a panic. -/
theorem repeatAxis_total (a : Arr α) (zero : α) (repeats : List Nat) (axis : Nat) (hwf : a.WF) :
    (a.ndim ≤ axis ∧ a.repeatAxis zero repeats axis = .err .AxisOutOfBounds) ∨
    (axis < a.ndim ∧ ¬ (0 < a.shape.getD axis 0 ∧ (repeats.length = a.shape.getD axis 0 ∨ repeats.length = 1)) ∧
      a.repeatAxis zero repeats axis = .err .BroadcastShapeMismatch) ∨
    (axis < a.ndim ∧ 0 < a.shape.getD axis 0 ∧ (repeats.length = a.shape.getD axis 0 ∨ repeats.length = 1) ∧
      ∃ r, a.repeatAxis zero repeats axis = .ok r ∧
        r.shape = a.shape.set axis (bc1 repeats (a.shape.getD axis 0)).sum ∧ r.WF) := by
  by_cases hax : axis < a.ndim
  · by_cases hc : 0 < a.shape.getD axis 0 ∧ (repeats.length = a.shape.getD axis 0 ∨ repeats.length = 1)
    · refine .inr (.inr ⟨hax, hc.1, hc.2, ?_⟩)
      by_cases hz : 0 ∈ a.shape
      · refine ⟨_, Arr.repeatAxis_zero_ok a zero repeats axis hwf hax hz (by omega) hc.2, rfl, ?_⟩
        have h0 : 0 ∈ a.shape.eraseIdx axis := (zero_mem_cases a.shape axis hax hz).resolve_right (by omega)
        show ([] : List α).length = _
        rw [prod_set_eraseIdx _ _ _ hax, prod_eq_zero_of_mem _ h0, Nat.zero_mul]; rfl
      · obtain ⟨r, h1, h2, h3, _⟩ := repeatAxis_spec a zero repeats axis hwf hax hz hc.2
        exact ⟨r, h1, h2, h3⟩
    · exact .inr (.inl ⟨hax, hc, repeatAxis_count_err a zero repeats axis hax hc⟩)
  · exact .inl ⟨by omega, (repeatAxis_rejects a zero repeats axis).1 (by omega)⟩

/-! ## flat `repeat` with counts broadcast along the last axis (any rank) -/

/-- **flat repeat, counts broadcast to the array's shape, EVERY rank ≥ 1**: for a well-formed array of shape `P ++ [L]`
with a non-empty last axis and a count vector `R` with one count per index of the LAST axis (or a single count — then it
is used for every index; zeros allowed; leading axes may be empty), the call succeeds; the counts actually used are
`T` = the vector tiled once per row (`T[i] = R[i mod L]`, one count per element of the flattened array); element `i` is
emitted `T[i]` consecutive times, in order; the result is flat with `P.prod · Σ R` elements; and output position `j`
holds the element whose flat index is the `j`-th entry of the run-length expansion of `T`.
(For rank 1 this is `repeatFlat_counts_spec`; with a single count it is `repeatFlat_spec`.) -/
theorem repeatFlat_bcast_spec (a : Arr α) (repeats : List Nat) (P : List Nat) (L : Nat)
    (hwf : a.WF) (hs : a.shape = P ++ [L]) (hL : 0 < L) (hr : repeats.length = L ∨ repeats.length = 1) :
    ∃ r, a.repeatFlat repeats = .ok r ∧
      r.elems = (a.elems.zip (List.replicate P.prod (bc1 repeats L)).flatten).flatMap (fun p => List.replicate p.2 p.1) ∧
      ((List.replicate P.prod (bc1 repeats L)).flatten).length = a.elems.length ∧
      (∀ i, i < a.elems.length → ((List.replicate P.prod (bc1 repeats L)).flatten)[i]? = (bc1 repeats L)[i % L]?) ∧
      r.shape = [P.prod * (bc1 repeats L).sum] ∧ r.elems.length = P.prod * (bc1 repeats L).sum ∧
      ∀ j : Nat, r.elems[j]? =
        (expandIdx (List.replicate P.prod (bc1 repeats L)).flatten)[j]?.bind (fun i => a.elems[i]?) := by
  have hRl : (bc1 repeats L).length = L := bc1_length _ _ hr
  generalize hR : bc1 repeats L = R at hRl
  obtain ⟨t1, t2, t3⟩ := tile_spec R P.prod
  have hlen : a.elems.length = P.prod * L := by rw [hwf, hs]; simp [List.prod_append]
  rw [hRl] at t1 t3
  have hl : ((a.elems.zip (List.replicate P.prod R).flatten).flatMap (fun p => List.replicate p.2 p.1)).length
      = P.prod * R.sum := by
    rw [zip_flatMap_replicate_length _ _ (by omega), t2]
  have hcall := repeatFlat_lastaxis a repeats P L hs hL hr
  rw [hR] at hcall
  refine ⟨_, hcall, rfl, by omega, fun i hi => t3 i (by omega), ?_, hl, ?_⟩
  · show [List.length _] = _; rw [hl]
  · intro j
    exact getElem?_zip_flatMap_replicate a.elems _ (by omega) j

/-- **the other count vectors of flat repeat, and totality**: for a shape `P ++ [L]` an empty last axis, an empty count
vector, or a count vector whose length is neither `L` nor 1 (with `L ≠ 1`) is `Err(BroadcastShapeMismatch)`; in the one
remaining region — last axis of length 1 and two or more counts — the equal-count shortcut of `broadcast_to` accepts
exactly `P.prod` counts (one per element, in order) and refuses every other number; a rank-0 receiver accepts exactly one
count.  Together with `repeatFlat_bcast_spec` this is exhaustive: flat repeat never panics, on any array. -/
theorem repeatFlat_total (a : Arr α) (repeats : List Nat) :
    (∀ P L, a.shape = P ++ [L] →
      (L = 0 ∨ repeats.length = 0 ∨ (repeats.length ≠ L ∧ repeats.length ≠ 1 ∧ L ≠ 1)) →
      a.repeatFlat repeats = .err .BroadcastShapeMismatch) ∧
    (∀ P, a.shape = P ++ [1] → 2 ≤ repeats.length →
      a.repeatFlat repeats =
        if repeats.length = P.prod then .ok (Arr.flat ((a.elems.zip repeats).flatMap (fun p => List.replicate p.2 p.1)))
        else .err .BroadcastShapeMismatch) ∧
    (a.shape = [] →
      a.repeatFlat repeats =
        if repeats.length = 1 then .ok (Arr.flat ((a.elems.zip repeats).flatMap (fun p => List.replicate p.2 p.1)))
        else .err .BroadcastShapeMismatch) ∧
    a.repeatFlat repeats ≠ .panic :=
  ⟨fun P L hs h => repeatFlat_clash a repeats P L hs h, fun P hs hk => repeatFlat_unit_last a repeats P hs hk,
   fun hs => repeatFlat_rank0 a repeats hs, repeatFlat_no_panic a repeats⟩

/-! ## flat `insert` is total -/

/-- **flat insert, total case analysis** — for EVERY receiver, index list and value array (no well-formedness, rank or
length hypothesis; a value array that is not well formed or not 1-D included) exactly one of four things happens, in the
order the code tests them, and none of them is a panic:
1. some index is beyond `len` → `Err(OutOfBounds)`;
2. otherwise the value array is not 1-D (its rank is read off its shape vector; its elements are not looked at) or the
   receiver has rank 0 → `Err(UnsupportedDimension)`;
3. otherwise the number of indices `k` and of value ELEMENTS `m` are not broadcast-compatible (one of them 0, or
   `k ≠ m` with neither equal to 1) → `Err(BroadcastShapeMismatch)`;
4. otherwise the call succeeds: with `N = max k m` and `S` = the stable sort by index of the `N` (index, value) pairs
   (indices and values each stretched to `N`), the result is the flat array of `len + N` elements in which the `j`-th
   pair of `S` sits at position `S[j].index + j`, and removing those `N` positions gives back the old elements in order. -/
theorem insertFlat_total (a : Arr α) (idxs : List Nat) (values : Arr α) :
    ((∃ i ∈ idxs, a.elems.length < i) ∧ a.insertFlat idxs values = .err .OutOfBounds) ∨
    ((∀ i ∈ idxs, i ≤ a.elems.length) ∧ (values.ndim ≠ 1 ∨ a.ndim = 0) ∧
      a.insertFlat idxs values = .err .UnsupportedDimension) ∨
    ((∀ i ∈ idxs, i ≤ a.elems.length) ∧ values.ndim = 1 ∧ 1 ≤ a.ndim ∧
      (idxs.length = 0 ∨ values.elems.length = 0 ∨
        (idxs.length ≠ values.elems.length ∧ idxs.length ≠ 1 ∧ values.elems.length ≠ 1)) ∧
      a.insertFlat idxs values = .err .BroadcastShapeMismatch) ∨
    ((∀ i ∈ idxs, i ≤ a.elems.length) ∧ values.ndim = 1 ∧ 1 ≤ a.ndim ∧ 0 < idxs.length ∧ 0 < values.elems.length ∧
      (idxs.length = values.elems.length ∨ idxs.length = 1 ∨ values.elems.length = 1) ∧
      ∃ r S, S = sortByIdx ((bc1 idxs (max idxs.length values.elems.length)).zip
                (bc1 values.elems (max idxs.length values.elems.length))) ∧
        a.insertFlat idxs values = .ok r ∧ r.shape = [r.elems.length] ∧
        S.length = max idxs.length values.elems.length ∧
        r.elems.length = a.elems.length + max idxs.length values.elems.length ∧
        (∀ j (hj : j < S.length), r.elems[S[j].1 + j]? = some S[j].2) ∧
        (r.elems.zipIdx.filter (fun p => decide (p.2 ∉ S.zipIdx.map (fun q => q.1.1 + q.2)))).map (·.1) = a.elems) := by
  by_cases hb : ∀ i ∈ idxs, i ≤ a.elems.length
  · by_cases hd : values.ndim ≠ 1 ∨ a.ndim = 0
    · exact .inr (.inl ⟨hb, hd, (insertFlat_rejects a idxs values).2.1 hb hd⟩)
    · have hv : values.ndim = 1 := by omega
      have ha : 1 ≤ a.ndim := by omega
      by_cases hc : idxs.length = 0 ∨ values.elems.length = 0 ∨
          (idxs.length ≠ values.elems.length ∧ idxs.length ≠ 1 ∧ values.elems.length ≠ 1)
      · exact .inr (.inr (.inl ⟨hb, hv, ha, hc, (insertFlat_rejects a idxs values).2.2 hb hv ha hc⟩))
      · have hk : 0 < idxs.length := by omega
        have hm : 0 < values.elems.length := by omega
        have hcc : idxs.length = values.elems.length ∨ idxs.length = 1 ∨ values.elems.length = 1 := by omega
        refine .inr (.inr (.inr ⟨hb, hv, ha, hk, hm, hcc, ?_⟩))
        obtain ⟨hok, hSl, hs, hS⟩ := Arr.insertFlat_ok a idxs values hv ha hk hm hcc hb _ _ rfl rfl
        obtain ⟨h1, h2, h3, _⟩ := insertAllAt_spec a.elems _ hs hS
        rw [hSl] at h1
        exact ⟨_, _, rfl, hok, rfl, hSl, h1, h2, h3⟩
  · have : ∃ i ∈ idxs, a.elems.length < i :=
      exists_ge_of_not_forall_lt (n := a.elems.length + 1) fun h => hb fun i hi => Nat.le_of_lt_succ (h i hi)
    exact .inl ⟨this, (insertFlat_rejects a idxs values).1 this⟩

/-- flat insert never panics (any receiver, any index list, any value array) -/
theorem insertFlat_no_panic (a : Arr α) (idxs : List Nat) (values : Arr α) : a.insertFlat idxs values ≠ .panic := by
  rcases insertFlat_total a idxs values with h | h | h | h
  · rw [h.2]; simp
  · rw [h.2.2]; simp
  · rw [h.2.2.2.2]; simp
  · obtain ⟨_, _, _, _, _, _, r, S, _, hr, _⟩ := h
    rw [hr]; simp

/-! ### non-vacuity for zero-length axes, broadcast counts and the rejections of flat `insert` (shapes `[2,0]`, `[0,3]`,
`[2,0,3]`; no `decide` through `List.mergeSort`) -/

def e20 : Arr Nat := ⟨[], [2, 0]⟩
def e03 : Arr Nat := ⟨[], [0, 3]⟩
def e203 : Arr Nat := ⟨[], [2, 0, 3]⟩

example : e20.WF ∧ 0 ∈ e20.shape ∧ e03.WF ∧ 0 ∈ e03.shape ∧ e203.WF ∧ 0 ∈ e203.shape := by decide
-- delete: the empty axis is the working axis ([2,0] axis 1; [2,0,3] axis 1), or another one ([2,0] axis 0; [0,3] axis 1)
example : 0 ∉ e20.shape.eraseIdx 1 ∧ 0 ∈ e20.shape.eraseIdx 0 ∧ 0 ∈ e03.shape.eraseIdx 1 ∧ 0 ∉ e203.shape.eraseIdx 1 := by
  decide
example : e20.delete 0 [] (some 1) = .ok e20 :=
  ((delete_axis_zero_spec e20 0 [] 1 (by decide) (by decide) (by decide)).2 (by decide)).2.1 rfl
example : e203.delete 0 [0] (some 1) = .err .OutOfBounds :=
  ((delete_axis_zero_spec e203 0 [0] 1 (by decide) (by decide) (by decide)).2 (by decide)).2.2 (by decide)
example : e20.delete 0 [] (some 0) = .err .ParameterError :=
  (delete_axis_zero_spec e20 0 [] 0 (by decide) (by decide) (by decide)).1 (by decide)
example : e03.delete 0 [1] (some 1) = .err .ParameterError :=
  (delete_axis_zero_spec e03 0 [1] 1 (by decide) (by decide) (by decide)).1 (by decide)
-- repeat along an axis
example : e20.repeatAxis 0 [3] 1 = .err .BroadcastShapeMismatch :=
  (repeatAxis_zero_spec e20 0 [3] 1 (by decide) (by decide) (by decide)).1 (by decide)
example : e20.repeatAxis 0 [3, 1] 0 = .ok ⟨[], [4, 0]⟩ :=
  (repeatAxis_zero_spec e20 0 [3, 1] 0 (by decide) (by decide) (by decide)).2.1 (by decide) (.inl (by decide))
example : e203.repeatAxis 0 [2] 2 = .ok ⟨[], [2, 0, 6]⟩ :=
  (repeatAxis_zero_spec e203 0 [2] 2 (by decide) (by decide) (by decide)).2.1 (by decide) (.inr rfl)
example : e03.repeatAxis 0 [1, 1] 1 = .err .BroadcastShapeMismatch :=
  (repeatAxis_zero_spec e03 0 [1, 1] 1 (by decide) (by decide) (by decide)).2.2 (by decide) (by decide)
example : e203.repeatAxis 0 [2] 2 = .ok ⟨[], [2, 0, 6]⟩ := by decide +kernel
-- flat repeat with counts along the last axis of a rank-2 / rank-3 array; an empty LEADING axis; an empty last axis
example := repeatFlat_bcast_spec (⟨[10, 11, 12, 13, 14, 15], [2, 3]⟩ : Arr Nat) [2, 0, 1] [2] 3 (by decide) rfl (by decide)
  (.inl rfl)
example : (⟨[10, 11, 12, 13, 14, 15], [2, 3]⟩ : Arr Nat).repeatFlat [2, 0, 1] = .ok (Arr.flat [10, 10, 12, 13, 13, 15]) := by
  decide +kernel
example : (List.replicate 2 (bc1 [2, 0, 1] 3)).flatten = [2, 0, 1, 2, 0, 1] := by decide
example := repeatFlat_bcast_spec sample [1, 2] [2, 3] 2 (by decide) rfl (by decide) (.inl rfl)
example := repeatFlat_bcast_spec e03 [1, 2, 3] [0] 3 (by decide) rfl (by decide) (.inl rfl)
example : e03.repeatFlat [1, 2, 3] = .ok (Arr.flat []) := by decide +kernel
example : e20.repeatFlat [1] = .err .BroadcastShapeMismatch :=
  (repeatFlat_total e20 [1]).1 [2] 0 rfl (.inl rfl)
example : (⟨[7, 8, 9], [3, 1]⟩ : Arr Nat).repeatFlat [2, 0, 1] = .ok (Arr.flat [7, 7, 9]) := by decide +kernel
-- flat insert: a value array that is not 1-D, one that is not well formed (2 elements under shape [5]), an empty one
example : (Arr.flat [7, 8, 9]).insertFlat [1] ⟨[1, 2, 3, 4], [2, 2]⟩ = .err .UnsupportedDimension :=
  (insertFlat_rejects _ _ _).2.1 (by decide) (.inl (by decide))
example : ¬ (⟨[100, 200], [5]⟩ : Arr Nat).WF := by decide
example : (Arr.flat [7, 8, 9]).insertFlat [1] ⟨[100, 200], [5]⟩ = .ok (Arr.flat [7, 100, 200, 8, 9]) :=
  insertFlat_one_index (Arr.flat [7, 8, 9]) 1 ⟨[100, 200], [5]⟩ rfl (by decide) (by decide) (by decide)
example : (Arr.flat [7, 8, 9]).insertFlat [1] ⟨[], [0]⟩ = .err .BroadcastShapeMismatch :=
  (insertFlat_rejects _ _ _).2.2 (by decide) rfl (by decide) (.inr (.inl rfl))
example : e20.insertFlat [0] (Arr.flat [5]) = .ok (Arr.flat [5]) :=
  insertFlat_one_index e20 0 (Arr.flat [5]) rfl (by decide) (by decide) (by decide)

end ArrModel.C13
