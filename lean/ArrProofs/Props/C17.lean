import ArrProofs.Lemmas.C17Replace
import ArrProofs.Lemmas.C17Lift
import ArrProofs.Lemmas.C17Ext
/-!
# C17 — string-array operations apply the per-string function at every position

Property theorems only (helpers: `ArrProofs/Lemmas/C17*.lean`).  Models under test: `ArrModel/C17.lean` (the
per-string primitives of `impl Alphanumeric for String`, with `fixes/C17-*.diff` applied) and
`ArrModel/C17Lift.lean` (the array operations).  All statements are for every string (`List Char`), every separator
including the empty one, every limit including 0 — no bound.
-/
namespace ArrModel.C17
open ArrModel

/-! ## substring search -/

/-- `find` answers `Some(i)` exactly for the first position at which the pattern occurs -/
theorem find_spec (s pat : Str) (i : Nat) :
    find s pat = some i ↔ (pat.isPrefixOf (s.drop i) = true ∧ ∀ j, j < i → pat.isPrefixOf (s.drop j) = false) :=
  find_eq_some_iff pat s i

/-- `find` answers `None` exactly when the pattern occurs nowhere -/
theorem find_none_iff (s pat : Str) : find s pat = none ↔ ∀ j, pat.isPrefixOf (s.drop j) = false :=
  find_eq_none_iff pat s

/-- `rfind` answers `Some(i)` exactly for the last position at which the pattern occurs -/
theorem rfind_spec (s pat : Str) (i : Nat) :
    rfind s pat = some i ↔ (i ≤ s.length ∧ pat.isPrefixOf (s.drop i) = true ∧
      ∀ j, i < j → j ≤ s.length → pat.isPrefixOf (s.drop j) = false) :=
  rfind_eq_some_iff pat s i

theorem startsWith_iff (s pat : Str) : startsWith s pat = true ↔ ∃ t, s = pat ++ t := by
  unfold startsWith
  rw [List.isPrefixOf_iff_prefix]
  constructor <;> rintro ⟨t, h⟩ <;> exact ⟨t, h.symm⟩

theorem endsWith_iff (s pat : Str) : endsWith s pat = true ↔ ∃ t, s = t ++ pat := by
  unfold endsWith
  rw [List.isSuffixOf_iff_suffix]
  constructor <;> rintro ⟨t, h⟩ <;> exact ⟨t, h.symm⟩

/-! ## splitting and partitioning lose nothing -/

/-- **join ∘ split = id**, left form: unlimited (`none`) and limited (`some n`, every `n`), every separator -/
theorem join_split (s sep : Str) (m : Option Nat) : joinWith sep (split s sep m) = s := by
  have hsome : ∀ n, joinWith sep (split s sep (some n)) = s := by
    intro n
    obtain ⟨k, hk⟩ : ∃ k, max n 1 = k + 1 := ⟨max n 1 - 1, by omega⟩
    cases sep with
    | nil =>
      show joinWith [] (splitnEmpty (max n 1) s) = s
      rw [hk]
      exact join_splitnEmpty k s
    | cons c cs =>
      show joinWith (c :: cs) (splitnF (c :: cs) (s.length + 1) (max n 1) s) = s
      rw [hk]
      exact join_splitnF _ _ k s
  cases m with
  | none =>
    rw [split_none_eq_some]
    exact hsome _
  | some n => exact hsome n

/-- **join ∘ rsplit = id**, right form, unlimited and limited -/
theorem join_rsplit (s sep : Str) (m : Option Nat) : joinWith sep (rsplit s sep m) = s := by
  unfold rsplit
  have h := joinWith_reverse sep.reverse (split s.reverse sep.reverse m)
  rw [List.reverse_reverse, join_split, List.reverse_reverse] at h
  exact h

/-- a limit of `n` gives at most `n` pieces (and never none: a limit of 0 is read as 1) -/
theorem split_limit (s sep : Str) (n : Nat) :
    (split s sep (some n)).length ≤ max n 1 ∧ split s sep (some n) ≠ [] := by
  obtain ⟨k, hk⟩ : ∃ k, max n 1 = k + 1 := ⟨max n 1 - 1, by omega⟩
  cases sep with
  | nil =>
    show (splitnEmpty (max n 1) s).length ≤ max n 1 ∧ splitnEmpty (max n 1) s ≠ []
    exact ⟨splitnEmpty_length_le _ _, hk ▸ splitnEmpty_ne_nil k s⟩
  | cons c cs =>
    show (splitnF (c :: cs) (s.length + 1) (max n 1) s).length ≤ max n 1 ∧ splitnF (c :: cs) (s.length + 1) (max n 1) s ≠ []
    exact ⟨splitnF_length_le _ _ _ _, hk ▸ splitnF_ne_nil _ _ k s⟩

theorem rsplit_limit (s sep : Str) (n : Nat) :
    (rsplit s sep (some n)).length ≤ max n 1 ∧ rsplit s sep (some n) ≠ [] := by
  have h := split_limit s.reverse sep.reverse n
  unfold rsplit
  refine ⟨by simpa using h.1, ?_⟩
  intro hh; apply h.2
  simpa using hh

/-- with a non-empty separator and no limit, no piece contains the separator -/
theorem split_pieces_sep_free (s sep : Str) (hsep : sep ≠ []) :
    ∀ p ∈ split s sep none, find p sep = none := by
  cases sep with
  | nil => exact absurd rfl hsep
  | cons c cs => exact splitF_pieces_sep_free (c :: cs) hsep _ s (Nat.lt_succ_self _)

/-- **partition**: the three parts concatenate to the original -/
theorem partition_concat (s sep : Str) :
    (partition s sep).1 ++ (partition s sep).2.1 ++ (partition s sep).2.2 = s := by
  unfold partition
  cases h : find s sep with
  | none => simp
  | some i => simpa [List.drop_drop] using (find_some_decomp s sep i h).symm

theorem rpartition_concat (s sep : Str) :
    (rpartition s sep).1 ++ (rpartition s sep).2.1 ++ (rpartition s sep).2.2 = s := by
  unfold rpartition
  cases h : rfind s sep with
  | none => simp
  | some i => simpa [List.drop_drop] using (occurrence_decomp s sep i ((rfind_eq_some_iff sep s i).1 h).2.1).symm

/-- `partition` cuts around the FIRST occurrence; without an occurrence the text comes back whole -/
theorem partition_first (s sep : Str) :
    (∃ i, partition s sep = (s.take i, sep, s.drop (i + sep.length)) ∧ sep.isPrefixOf (s.drop i) = true ∧
        ∀ j, j < i → sep.isPrefixOf (s.drop j) = false) ∨
    (partition s sep = (s, [], []) ∧ ∀ j, sep.isPrefixOf (s.drop j) = false) := by
  unfold partition
  cases h : find s sep with
  | none => exact .inr ⟨rfl, (find_eq_none_iff sep s).1 h⟩
  | some i => exact .inl ⟨i, by simp [List.drop_drop], (find_eq_some_iff sep s i).1 h⟩

/-- `rpartition` cuts around the LAST occurrence -/
theorem rpartition_last (s sep : Str) :
    (∃ i, rpartition s sep = (s.take i, sep, s.drop (i + sep.length)) ∧ sep.isPrefixOf (s.drop i) = true ∧
        ∀ j, i < j → j ≤ s.length → sep.isPrefixOf (s.drop j) = false) ∨
    (rpartition s sep = (s, [], []) ∧ ∀ j, sep.isPrefixOf (s.drop j) = false) := by
  unfold rpartition
  cases h : rfind s sep with
  | none => exact .inr ⟨rfl, (rfind_eq_none_iff sep s).1 h⟩
  | some i => exact .inl ⟨i, by simp [List.drop_drop], ((rfind_eq_some_iff sep s i).1 h).2⟩

/-- `splitlines` with `keep_ends`: the lines concatenate to the original -/
theorem splitlines_keep_concat (s : Str) : (splitlines s true).flatten = s :=
  splitlinesAux_keep_flatten s []

/-- `splitlines` without `keep_ends`: no line contains a line break -/
theorem splitlines_lines_clean (s : Str) : ∀ l ∈ splitlines s false, ∀ c ∈ l, c ≠ '\n' ∧ c ≠ '\r' :=
  splitlinesAux_clean s [] nofun

/-- `count` = number of separators between the pieces of `split` (non-overlapping, left to right) -/
theorem count_eq_pieces (s pat : Str) : count s pat + 1 = (split s pat none).length := by
  cases pat with
  | nil => simp [count, split, splitEmpty]
  | cons c cs => exact (splitF_length (c :: cs) _ s).symm

/-! ## replace -/

/-- **replace with a count**: at most `k` occurrences, left to right = `splitn(k + 1)` joined by `new` -/
theorem replace_count (s old new : Str) (k : Nat) :
    replace s old new (some k) = joinWith new (split s old (some (k + 1))) := by
  rw [replace, split, Nat.max_eq_left (Nat.succ_pos k)]
  cases old with
  | nil => exact replaceLoop_empty_some new k s (s.length + 1) [] 0 k (Nat.lt_succ_self _) (Nat.zero_add k)
  | cons c cs =>
    exact replaceLoop_some (c :: cs) new (List.cons_ne_nil c cs) k (s.length + 1) [] s 0 k (Nat.zero_add k)

/-- **replace = join new ∘ split old** (no limit; every `old`, the empty one included): no limit on either side
is a limit that is not reached -/
theorem replace_eq_join_split (s old new : Str) : replace s old new none = joinWith new (split s old none) := by
  rw [split_none_eq_some, ← replace_count]
  exact replaceLoop_none_eq_some old new (s.length + 1) (s.length + 1) [] s 0 (Nat.le_of_eq (Nat.zero_add _))

/-! ## termination: `length + 1` units of fuel are never exhausted — any larger fuel gives the same result -/

/-- without `fixes/C17-replace-rescan.diff` the Rust loop searches the whole text again after every replacement and no
such bound exists: `"a".replace("a", "aa")` never returns -/
theorem replace_fuel (s old new : Str) (cnt : Option Nat) (f : Nat) (hf : s.length < f) :
    replaceLoop old new cnt f [] s 0 = replace s old new cnt :=
  replaceLoop_fuel old new cnt f (s.length + 1) [] s 0 hf (by omega)

theorem split_fuel (s sep : Str) (hsep : sep ≠ []) (f : Nat) (hf : s.length < f) :
    splitF sep f s = split s sep none := by
  cases sep with
  | nil => exact absurd rfl hsep
  | cons c cs => exact splitF_fuel (c :: cs) hsep f (s.length + 1) s hf (Nat.lt_succ_self _)

theorem count_fuel (s pat : Str) (hp : pat ≠ []) (f : Nat) (hf : s.length < f) : countF pat f s = count s pat := by
  cases pat with
  | nil => exact absurd rfl hp
  | cons c cs => exact countF_fuel (c :: cs) hp f (s.length + 1) s hf (Nat.lt_succ_self _)

/-! ## strip and pad -/

/-- **strip**: what is removed is a prefix and a suffix made of characters of the set; what is left neither
starts nor ends with one -/
theorem strip_spec (s cs : Str) :
    ∃ pre post, s = pre ++ strip s cs ++ post ∧ (∀ c ∈ pre, cs.contains c = true) ∧ (∀ c ∈ post, cs.contains c = true) ∧
      (∀ h, (strip s cs).head? = some h → cs.contains h = false) ∧
      (∀ l, (strip s cs).getLast? = some l → cs.contains l = false) := by
  obtain ⟨pre, hpre, hpin, hhead⟩ := lstrip_decomp s cs
  obtain ⟨post, hpost, hpoin, hlast⟩ := rstrip_decomp (lstrip s cs) cs
  refine ⟨pre, post, ?_, hpin, hpoin, ?_, hlast⟩
  · unfold strip; rw [List.append_assoc, ← hpost]; exact hpre
  · intro h hh
    unfold strip at hh
    cases hl : lstrip s cs with
    | nil =>
      rw [hl] at hh
      cases hh
    | cons x xs =>
      have hx := hhead x (hl ▸ rfl)
      rw [rstrip_head _ _ x (hl ▸ rfl) hx] at hh
      cases hh
      exact hx

theorem lstrip_spec (s cs : Str) :
    ∃ pre, s = pre ++ lstrip s cs ∧ (∀ c ∈ pre, cs.contains c = true) ∧
      (∀ h, (lstrip s cs).head? = some h → cs.contains h = false) := lstrip_decomp s cs

theorem rstrip_spec (s cs : Str) :
    ∃ post, s = rstrip s cs ++ post ∧ (∀ c ∈ post, cs.contains c = true) ∧
      (∀ l, (rstrip s cs).getLast? = some l → cs.contains l = false) := rstrip_decomp s cs

/-- **center**: the result has exactly the requested width; a shorter text sits between ⌈d/2⌉ fill characters on the
left and ⌊d/2⌋ on the right, a longer one is cut to the width -/
theorem center_spec (s : Str) (w : Nat) (c : Char) :
    (center s w c).length = w ∧
    (s.length ≤ w → ∃ l r, center s w c = List.replicate l c ++ s ++ List.replicate r c ∧
        l + r = w - s.length ∧ (l = r ∨ l = r + 1)) ∧
    (w ≤ s.length → center s w c = s.take w) := by
  unfold center
  by_cases hw : w ≤ s.length
  · rw [if_pos hw]
    refine ⟨(List.length_take ..).trans (Nat.min_eq_left hw), fun h => ⟨0, 0, ?_, by omega, .inl rfl⟩, fun _ => rfl⟩
    rw [Nat.le_antisymm hw h, List.take_length, List.replicate_zero, List.nil_append, List.append_nil]
  · rw [if_neg hw]
    -- the two halves of the difference, in the one place where division is looked at
    have hd : (w - s.length + 1) / 2 + (w - s.length) / 2 = w - s.length ∧
        ((w - s.length + 1) / 2 = (w - s.length) / 2 ∨ (w - s.length + 1) / 2 = (w - s.length) / 2 + 1) := by omega
    refine ⟨?_, fun _ => ⟨_, _, rfl, hd⟩, fun h => absurd h hw⟩
    rw [List.length_append, List.length_append, List.length_replicate, List.length_replicate, Nat.add_right_comm, hd.1,
      Nat.sub_add_cancel (Nat.le_of_not_le hw)]

theorem ljust_spec (s : Str) (w : Nat) (c : Char) :
    (ljust s w c).length = w ∧ (s.length ≤ w → ljust s w c = s ++ List.replicate (w - s.length) c) ∧
    (w ≤ s.length → ljust s w c = s.take w) := by
  unfold ljust
  refine ⟨?_, fun h => ?_, fun h => if_pos h⟩
  · by_cases hw : w ≤ s.length
    · rw [if_pos hw, List.length_take]
      exact Nat.min_eq_left hw
    · rw [if_neg hw, List.length_append, List.length_replicate]
      omega
  · by_cases hw : w ≤ s.length
    · rw [if_pos hw, Nat.le_antisymm hw h, List.take_length, Nat.sub_self, List.replicate_zero, List.append_nil]
    · exact if_neg hw

theorem rjust_spec (s : Str) (w : Nat) (c : Char) :
    (rjust s w c).length = w ∧ (s.length ≤ w → rjust s w c = List.replicate (w - s.length) c ++ s) ∧
    (w ≤ s.length → rjust s w c = s.take w) := by
  unfold rjust
  refine ⟨?_, fun h => ?_, fun h => if_pos h⟩
  · by_cases hw : w ≤ s.length
    · rw [if_pos hw, List.length_take]
      exact Nat.min_eq_left hw
    · rw [if_neg hw, List.length_append, List.length_replicate]
      omega
  · by_cases hw : w ≤ s.length
    · rw [if_pos hw, Nat.le_antisymm hw h, List.take_length, Nat.sub_self, List.replicate_zero, List.nil_append]
    · exact if_neg hw

/-! ## the six comparisons = lexicographic order with trailing spaces ignored -/

/-- `rs` (the `_rstrip(" ")` every comparison starts with) removes exactly the trailing spaces -/
theorem rs_spec (s : Str) :
    ∃ n, s = rs s ++ List.replicate n ' ' ∧ ∀ l, (rs s).getLast? = some l → l ≠ ' ' := by
  obtain ⟨t, ht, hin, hlast⟩ := rstrip_decomp s [' ']
  refine ⟨t.length, ?_, ?_⟩
  · have : t = List.replicate t.length ' ' := by
      apply List.eq_replicate_iff.2
      exact ⟨rfl, fun c hc => by simpa using hin c hc⟩
    rw [← this]; exact ht
  · intro l hl h; subst h
    have := hlast ' ' hl
    simp at this

/-- `<` below is the lexicographic order of `List Char` (core `List.Lex` over the code points) -/
theorem cmp_lex (a b : Str) :
    (less a b = true ↔ rs a < rs b) ∧ (greater a b = true ↔ rs b < rs a) ∧
    (lessEqual a b = true ↔ ¬ rs b < rs a) ∧ (greaterEqual a b = true ↔ ¬ rs a < rs b) ∧
    (equal a b = true ↔ rs a = rs b) ∧ (notEqual a b = true ↔ rs a ≠ rs b) := by
  obtain ⟨hlt, -, hgt⟩ := cmpStr_spec (rs a) (rs b)
  exact ⟨beq_iff_eq.trans hlt, beq_iff_eq.trans hgt, bne_iff_ne.trans (not_congr hgt),
    bne_iff_ne.trans (not_congr hlt), beq_iff_eq, by rw [notEqual, equal, Bool.not_eq_true', beq_eq_false_iff_ne]⟩

/-- the order is total: exactly one of `<`, `==`, `>` holds -/
theorem cmp_trichotomy (a b : Str) :
    (less a b = true ∧ equal a b = false ∧ greater a b = false) ∨
    (less a b = false ∧ equal a b = true ∧ greater a b = false) ∨
    (less a b = false ∧ equal a b = false ∧ greater a b = true) := by
  -- `equal` compares the texts themselves: by `cmpStr_spec` that is the answer `.eq` of `cmpStr`
  have heq : equal a b = (cmpStr (rs a) (rs b) == .eq) :=
    Bool.eq_iff_iff.2 (beq_iff_eq.trans ((cmpStr_spec (rs a) (rs b)).2.1.symm.trans beq_iff_eq.symm))
  rw [heq, less, greater]
  cases cmpStr (rs a) (rs b)
  · exact .inl ⟨rfl, rfl, rfl⟩
  · exact .inr (.inl ⟨rfl, rfl, rfl⟩)
  · exact .inr (.inr ⟨rfl, rfl, rfl⟩)

/-! ## `multiply` and `_join` -/

theorem multiply_length (s : Str) (n : Nat) : (multiply s n).length = n * s.length := by
  unfold multiply
  induction n with
  | zero => simp
  | succ n ih => rw [List.replicate_succ, List.flatten_cons, List.length_append, ih, Nat.succ_mul]; omega

/-- `_join` puts the separator between the characters -/
theorem joinChars_eq (s sep : Str) : joinChars s sep = joinWith sep (s.map (fun c => [c])) := by
  cases s with
  | nil => rfl
  | cons c cs =>
    unfold joinChars
    rw [List.map_cons, joinWith_singletons, List.foldl_cons]
    simpa using joinChars_foldl sep cs [c] (by simp)

/-! ## array lifting: position `p` of the result holds the per-string function of the operands at `p`

Parametric in the per-string function and in the broadcasting primitives `B`. -/

variable {α β γ δ : Type}

theorem lift1_at (f : α → β) (a : Arr α) (hwf : a.WF) :
    ∃ r, lift1 f a = .ok r ∧ r.shape = a.shape ∧ r.WF ∧
      ∀ p (h : p < a.elems.length), r.elems[p]? = some (f a.elems[p]) := by
  have hlen : (a.elems.map f).length = a.shape.prod := (List.length_map f).trans hwf
  refine ⟨⟨a.elems.map f, a.shape⟩, Arr.new_of_prod hlen.symm, rfl, hlen, fun p h => ?_⟩
  rw [List.getElem?_map, List.getElem?_eq_getElem h]
  rfl

/-- two operands through `broadcast`: whatever pairing `B.pair` produces, the result holds `f` of each pair,
in the same shape -/
theorem lift2_at (B : Bcast) (f : α → β → γ) (a : Arr α) (b : Arr β) (t : Arr (α × β))
    (ht : B.pair a b = .ok t) (hwf : t.WF) :
    ∃ r, lift2 B f a b = .ok r ∧ r.shape = t.shape ∧ r.WF ∧
      ∀ p (h : p < t.elems.length), r.elems[p]? = some (f t.elems[p].1 t.elems[p].2) := by
  rw [lift2, ht]
  exact lift1_at (fun p => f p.1 p.2) t hwf

/-- a refused broadcast is passed on unchanged -/
theorem lift2_err (B : Bcast) (f : α → β → γ) (a : Arr α) (b : Arr β) (e : Err) (h : B.pair a b = .err e) :
    lift2 B f a b = .err e := by
  unfold lift2; rw [h]; rfl

/-- string operand + heterogeneous operand through `broadcast_h2` -/
theorem lift2h_at (B : Bcast) (z : α) (f : α → β → γ) (a : Arr α) (b : Arr β) (a' : Arr α) (b' : Arr β)
    (hh : h2 B z a b = .ok (a', b')) (hwf : a'.WF) (hlen : b'.elems.length = a'.elems.length) :
    ∃ r, lift2h B z f a b = .ok r ∧ r.shape = a'.shape ∧ r.WF ∧
      ∀ p (h : p < a'.elems.length), r.elems[p]? = some (f a'.elems[p] (b'.elems[p]'(hlen ▸ h))) := by
  have hl : (List.zipWith f a'.elems b'.elems).length = a'.shape.prod := by
    rw [List.length_zipWith, hlen, Nat.min_self]
    exact hwf
  refine ⟨⟨List.zipWith f a'.elems b'.elems, a'.shape⟩, ?_, rfl, hl, fun p h => ?_⟩
  · rw [lift2h, hh]
    exact Arr.new_of_prod hl.symm
  · rw [List.getElem?_zipWith, List.getElem?_eq_getElem h, List.getElem?_eq_getElem (hlen ▸ h)]

/-- string operand + two heterogeneous operands through `broadcast_h3` (`center`, `ljust`, `rjust`): the result
has the BROADCAST shape (without `fixes/C17-pad-result-shape.diff` the code rebuilds with the receiver's shape) -/
theorem lift3h_at (B : Bcast) (z : α) (f : α → β → γ → δ) (a : Arr α) (b : Arr β) (c : Arr γ)
    (a' : Arr α) (b' : Arr β) (c' : Arr γ) (hh : h3 B z a b c = .ok (a', b', c')) (hwf : a'.WF)
    (hb : b'.elems.length = a'.elems.length) (hc : c'.elems.length = a'.elems.length) :
    ∃ r, lift3h B z f a b c = .ok r ∧ r.shape = a'.shape ∧ r.WF ∧
      ∀ p (h : p < a'.elems.length),
        r.elems[p]? = some (f a'.elems[p] (b'.elems[p]'(hb ▸ h)) (c'.elems[p]'(hc ▸ h))) := by
  have hl := (zipWith3_length f a'.elems b'.elems c'.elems hb hc).trans hwf
  refine ⟨⟨zipWith3 f a'.elems b'.elems c'.elems, a'.shape⟩, ?_, rfl, hl, zipWith3_getElem? f _ _ _ hb hc⟩
  rw [lift3h, hh]
  exact Arr.new_of_prod hl.symm

/-- three string operands through `broadcast_arrays` (`replace`) -/
theorem lift3_at (B : Bcast) (f : α → α → α → β) (a b c a' b' c' : Arr α)
    (hh : B.arrays [a, b, c] = .ok [a', b', c']) (hwf : a'.WF)
    (hb : b'.elems.length = a'.elems.length) (hc : c'.elems.length = a'.elems.length) :
    ∃ r, lift3 B f a b c = .ok r ∧ r.shape = a'.shape ∧ r.WF ∧
      ∀ p (h : p < a'.elems.length),
        r.elems[p]? = some (f a'.elems[p] (b'.elems[p]'(hb ▸ h)) (c'.elems[p]'(hc ▸ h))) :=
  lift3_ok B f a b c a' b' c' hh hwf hb hc

/-- `split` / `rsplit`: pair with the separator; the limit (when given) is stretched to the pair shape -/
theorem liftSplit_at (B : Bcast) (f : α → α → Option Nat → β) (a sep : Arr α) (t : Arr (α × α))
    (ht : B.pair a sep = .ok t) (hwf : t.WF) :
    (∃ r, liftSplit B f a sep none = .ok r ∧ r.shape = t.shape ∧ r.WF ∧
      ∀ p (h : p < t.elems.length), r.elems[p]? = some (f t.elems[p].1 t.elems[p].2 none)) ∧
    (∀ (m m' : Arr Nat), B.to m t.shape = .ok m' → m'.elems.length = t.elems.length →
      ∃ r, liftSplit B f a sep (some m) = .ok r ∧ r.shape = t.shape ∧ r.WF ∧
        ∀ p (h : p < t.elems.length), r.elems[p]? = some (f t.elems[p].1 t.elems[p].2 m'.elems[p]?)) :=
  ⟨liftSplit_none_ok B f a sep t ht hwf, fun m m' hm hl => liftSplit_some_ok B f a sep t ht hwf m m' hm hl⟩

/-- with the model of `broadcast.rs` plugged in and operands of one shape, position `p` pairs `a[p]` with `b[p]` -/
theorem lift2_same_shape (f : α → β → γ) (a : Arr α) (b : Arr β) (ha : a.WF) (hb : b.WF)
    (hs : a.shape = b.shape) (hpos : ∀ d ∈ a.shape, d ≠ 0) :
    lift2 Bcast.std f a b = .ok ⟨List.zipWith f a.elems b.elems, a.shape⟩ :=
  lift2_std_same_shape f a b ha hb hs hpos

/-! ## the ASCII tables of the case maps and of the `is_*` classes -/

/-- the model's ASCII tables are the ones core Lean's `Char` defines independently
(`char::is_whitespace` additionally has VT and FF) -/
theorem tables_eq_core (c : Char) :
    isUpperC c = c.isUpper ∧ isLowerC c = c.isLower ∧ isAlphaC c = c.isAlpha ∧ isDigitC c = c.isDigit ∧
    isAlnumC c = c.isAlphanum ∧ toLowerC c = c.toLower ∧ toUpperC c = c.toUpper ∧
    isSpaceC c = (c.isWhitespace || c == Char.ofNat 11 || c == Char.ofNat 12) := by
  refine ⟨isUpperC_eq_core c, isLowerC_eq_core c, ?_, isDigitC_eq_core c, ?_, toLowerC_eq_core c, toUpperC_eq_core c,
    isSpaceC_eq_core c⟩
  · simp only [isAlphaC, Char.isAlpha, isUpperC_eq_core, isLowerC_eq_core]
  · simp only [isAlnumC, isAlphaC, Char.isAlphanum, Char.isAlpha, isUpperC_eq_core, isLowerC_eq_core, isDigitC_eq_core]

theorem case_maps_eq_core (s : Str) : lower s = s.map Char.toLower ∧ upper s = s.map Char.toUpper := by
  constructor
  · unfold lower; congr 1; funext c; exact toLowerC_eq_core c
  · unfold upper; congr 1; funext c; exact toUpperC_eq_core c

theorem case_length (s : Str) :
    (lower s).length = s.length ∧ (upper s).length = s.length ∧ (swapcase s).length = s.length ∧
    (capitalize s).length = s.length := by
  refine ⟨by simp [lower], by simp [upper], by simp [swapcase], by cases s <;> simp [capitalize]⟩

/-- the tables in numbers: `lower` adds 32 to the code points 65..90, `upper` subtracts 32 from 97..122, `swapcase`
does both, every other character (non-ASCII included) is left alone — and `Char.ofNat` never leaves the valid range -/
theorem case_codepoints (s : Str) (i : Nat) (c : Char) (h : s[i]? = some c) :
    (∃ d, (lower s)[i]? = some d ∧ d.toNat = if 65 ≤ c.toNat ∧ c.toNat ≤ 90 then c.toNat + 32 else c.toNat) ∧
    (∃ d, (upper s)[i]? = some d ∧ d.toNat = if 97 ≤ c.toNat ∧ c.toNat ≤ 122 then c.toNat - 32 else c.toNat) ∧
    (∃ d, (swapcase s)[i]? = some d ∧ d.toNat = if 97 ≤ c.toNat ∧ c.toNat ≤ 122 then c.toNat - 32
        else if 65 ≤ c.toNat ∧ c.toNat ≤ 90 then c.toNat + 32 else c.toNat) := by
  refine ⟨⟨toLowerC c, by simp [lower, h], toNat_toLowerC c⟩, ⟨toUpperC c, by simp [upper, h], toNat_toUpperC c⟩,
    ⟨swapC c, by simp [swapcase_eq_map, h], toNat_swapC c⟩⟩

/-- the algebra of the case maps (every string, non-ASCII characters included: the model leaves them alone) -/
theorem case_algebra (s : Str) :
    lower (lower s) = lower s ∧ upper (upper s) = upper s ∧ upper (lower s) = upper s ∧ lower (upper s) = lower s ∧
    swapcase (swapcase s) = s ∧ lower (swapcase s) = lower s ∧ upper (swapcase s) = upper s ∧
    swapcase (lower s) = upper s ∧ swapcase (upper s) = lower s :=
  ⟨map_map_of toLowerC_idem s, map_map_of toUpperC_idem s, map_map_of toUpperC_toLowerC s,
    map_map_of toLowerC_toUpperC s, (map_map_of (h := id) swapC_swapC s).trans (List.map_id s),
    map_map_of toLowerC_swapC s, map_map_of toUpperC_swapC s, map_map_of swapC_toLowerC s,
    map_map_of swapC_toUpperC s⟩

/-- `lower` leaves a text unchanged exactly when it has no upper-case letter; its result never has one -/
theorem lower_fixed_iff (s : Str) :
    (lower s = s ↔ ∀ c ∈ s, isUpperC c = false) ∧ (∀ c ∈ lower s, isUpperC c = false) :=
  ⟨lower_eq_self_iff s, List.forall_mem_map.2 fun d _ => isUpperC_toLowerC d⟩

theorem upper_fixed_iff (s : Str) :
    (upper s = s ↔ ∀ c ∈ s, isLowerC c = false) ∧ (∀ c ∈ upper s, isLowerC c = false) :=
  ⟨upper_eq_self_iff s, List.forall_mem_map.2 fun d _ => isLowerC_toUpperC d⟩

/-- comparing without regard to case: through `lower` or through `upper` is the same relation -/
theorem caseless_eq (s t : Str) : lower s = lower t ↔ upper s = upper t := by
  constructor
  · intro h; have := congrArg upper h
    rwa [(case_algebra s).2.2.1, (case_algebra t).2.2.1] at this
  · intro h; have := congrArg lower h
    rwa [(case_algebra s).2.2.2.1, (case_algebra t).2.2.2.1] at this

/-- **is_lower**: there is a lower-case letter and no upper-case letter (characters without case are ignored) -/
theorem isLower_iff (s : Str) :
    isLower s = true ↔ (∃ c ∈ s, isLowerC c = true) ∧ ∀ c ∈ s, isUpperC c = false := by
  rw [isLower_eq]; simp

/-- **is_upper**: there is an upper-case letter and no lower-case letter -/
theorem isUpper_iff (s : Str) :
    isUpper s = true ↔ (∃ c ∈ s, isUpperC c = true) ∧ ∀ c ∈ s, isLowerC c = false := by
  rw [isUpper_eq]; simp

/-- … equivalently: the text has a letter and is a fixed point of `lower` / `upper` -/
theorem isLower_iff_fixed (s : Str) :
    (isLower s = true ↔ lower s = s ∧ ∃ c ∈ s, isAlphaC c = true) ∧
    (isUpper s = true ↔ upper s = s ∧ ∃ c ∈ s, isAlphaC c = true) := by
  rw [isLower_iff, isUpper_iff, lower_eq_self_iff, upper_eq_self_iff]
  exact ⟨cased_iff_exists_union (fun c => (isAlphaC_iff c).trans Or.comm) s, cased_iff_exists_union isAlphaC_iff s⟩

/-- the case maps and the case tests: `lower s` is lower-case as soon as `s` has a letter, never upper-case;
`swapcase` exchanges the two tests; no text is both -/
theorem isLower_case_maps (s : Str) :
    isLower (lower s) = s.any isAlphaC ∧ isUpper (upper s) = s.any isAlphaC ∧
    isUpper (lower s) = false ∧ isLower (upper s) = false ∧
    isLower (swapcase s) = isUpper s ∧ isUpper (swapcase s) = isLower s ∧
    (isLower s = true → isUpper s = false) := by
  have hall : ∀ l : Str, l.all (fun _ => true) = true := fun l => List.all_eq_true.2 fun _ _ => rfl
  have hany : ∀ l : Str, l.any (fun _ => false) = false := fun l => List.any_eq_false.2 fun _ _ => Bool.false_ne_true
  refine ⟨?_, ?_, ?_, ?_, ?_, ?_, ?_⟩
  · rw [lower, isLower_map]
    simp only [isLowerC_toLowerC, isUpperC_toLowerC, Bool.not_false]
    rw [hall, Bool.and_true]
  · rw [upper, isUpper_map]
    simp only [isUpperC_toUpperC, isLowerC_toUpperC, Bool.not_false]
    rw [hall, Bool.and_true]
  · rw [lower, isUpper_map]
    simp only [isUpperC_toLowerC]
    rw [hany, Bool.false_and]
  · rw [upper, isLower_map]
    simp only [isLowerC_toUpperC]
    rw [hany, Bool.false_and]
  · rw [swapcase_eq_map, isLower_map, isUpper_eq]
    simp only [isLowerC_swapC, isUpperC_swapC]
  · rw [swapcase_eq_map, isUpper_map, isLower_eq]
    simp only [isLowerC_swapC, isUpperC_swapC]
  · intro h
    obtain ⟨⟨c, hc, hl⟩, _⟩ := (isLower_iff s).1 h
    rw [← Bool.not_eq_true, isUpper_iff]
    exact fun hu => absurd hl (Bool.eq_false_iff.1 (hu.2 c hc))

/-- **the class tests** in terms of core Lean's character classes: non-empty and every character in the class;
`is_digit` demands exactly one character; `is_numeric` = `is_decimal` on ASCII -/
theorem class_spec (s : Str) :
    (isAlpha s = true ↔ s ≠ [] ∧ ∀ c ∈ s, c.isAlpha = true) ∧
    (isAlnum s = true ↔ s ≠ [] ∧ ∀ c ∈ s, c.isAlphanum = true) ∧
    (isDecimal s = true ↔ s ≠ [] ∧ ∀ c ∈ s, c.isDigit = true) ∧
    (isNumeric s = isDecimal s) ∧
    (isDigit s = true ↔ ∃ c, s = [c] ∧ c.isDigit = true) ∧
    (isSpace s = true ↔ s ≠ [] ∧ ∀ c ∈ s, (9 ≤ c.toNat ∧ c.toNat ≤ 13) ∨ c.toNat = 32) := by
  have hA : isAlphaC = Char.isAlpha := funext fun c => (tables_eq_core c).2.2.1
  have hN : isAlnumC = Char.isAlphanum := funext fun c => (tables_eq_core c).2.2.2.2.1
  have hD : isDigitC = Char.isDigit := funext fun c => (tables_eq_core c).2.2.2.1
  refine ⟨hA ▸ class_iff isAlphaC s, hN ▸ class_iff isAlnumC s, hD ▸ class_iff isDigitC s, rfl, ?_, ?_⟩
  · unfold isDigit
    rw [hD]
    constructor
    · intro h
      simp only [Bool.and_eq_true, beq_iff_eq, List.all_eq_true] at h
      obtain ⟨c, rfl⟩ := List.length_eq_one_iff.1 h.1
      exact ⟨c, rfl, h.2 c List.mem_cons_self⟩
    · rintro ⟨c, rfl, hc⟩
      simp [hc]
  · simp only [← isSpaceC_iff]
    exact class_iff isSpaceC s

/-- how the tests relate: digit ⊆ decimal ⊆ alnum ⊇ alpha; alnum = every character a letter or a digit;
letters, digits and white space exclude one another -/
theorem class_lattice (s : Str) :
    (isDigit s = true → isDecimal s = true) ∧ (isDecimal s = true → isAlnum s = true) ∧
    (isAlpha s = true → isAlnum s = true) ∧
    (isAlnum s = true ↔ s ≠ [] ∧ ∀ c ∈ s, isAlphaC c = true ∨ isDigitC c = true) ∧
    (isAlpha s = true → isDecimal s = false ∧ isSpace s = false) ∧
    (isDecimal s = true → isAlpha s = false ∧ isSpace s = false) ∧
    (isSpace s = true → isAlnum s = false) := by
  cases s with
  | nil => simp [isDigit, isDecimal, isAlnum, isAlpha, isSpace]
  | cons x xs =>
    have hx := class_disjoint x
    simp only [isDigit, isDecimal, isAlnum, isAlpha, isSpace, List.isEmpty_cons, Bool.not_false, Bool.true_and,
      List.all_cons, Bool.and_eq_true, List.all_eq_true, ne_eq, reduceCtorEq, not_false_eq_true, true_and,
      List.mem_cons, forall_eq_or_imp, beq_iff_eq, Bool.and_eq_false_iff]
    refine ⟨?_, ?_, ?_, ?_, ?_, ?_, ?_⟩
    · rintro ⟨_, h1, h2⟩; exact ⟨h1, h2⟩
    · rintro ⟨h1, h2⟩; exact ⟨by simp [isAlnumC, h1], fun c hc => by simp [isAlnumC, h2 c hc]⟩
    · rintro ⟨h1, h2⟩; exact ⟨by simp [isAlnumC, h1], fun c hc => by simp [isAlnumC, h2 c hc]⟩
    · simp [isAlnumC]
    · rintro ⟨h1, _⟩
      rcases (isAlphaC_iff x).1 h1 with h | h
      · exact ⟨.inl (hx.1 h).2.1, .inl (hx.1 h).2.2⟩
      · exact ⟨.inl (hx.2.1 h).2.1, .inl (hx.2.1 h).2.2⟩
    · rintro ⟨h1, _⟩
      exact ⟨.inl (hx.2.2.1 h1).1, .inl (hx.2.2.1 h1).2⟩
    · rintro ⟨h1, _⟩
      exact .inl (hx.2.2.2 h1)

/-- the class tests do not see the case maps -/
theorem class_case_invariant (s : Str) :
    (isAlpha (lower s) = isAlpha s ∧ isAlpha (upper s) = isAlpha s ∧ isAlpha (swapcase s) = isAlpha s) ∧
    (isAlnum (lower s) = isAlnum s ∧ isAlnum (upper s) = isAlnum s ∧ isAlnum (swapcase s) = isAlnum s) ∧
    (isDecimal (lower s) = isDecimal s ∧ isDecimal (upper s) = isDecimal s ∧ isDecimal (swapcase s) = isDecimal s) ∧
    (isSpace (lower s) = isSpace s ∧ isSpace (upper s) = isSpace s ∧ isSpace (swapcase s) = isSpace s) ∧
    (isDigit (lower s) = isDigit s ∧ isDigit (upper s) = isDigit s ∧ isDigit (swapcase s) = isDigit s) :=
  ⟨⟨class_map isAlphaC_toLowerC s, class_map isAlphaC_toUpperC s, class_map isAlphaC_swapC s⟩,
    ⟨class_map isAlnumC_toLowerC s, class_map isAlnumC_toUpperC s, class_map isAlnumC_swapC s⟩,
    ⟨class_map isDigitC_toLowerC s, class_map isDigitC_toUpperC s, class_map isDigitC_swapC s⟩,
    ⟨class_map isSpaceC_toLowerC s, class_map isSpaceC_toUpperC s, class_map isSpaceC_swapC s⟩,
    ⟨isDigit_map isDigitC_toLowerC s, isDigit_map isDigitC_toUpperC s, isDigit_map isDigitC_swapC s⟩⟩

/-- on a text of letters only, `is_lower` / `is_upper` say exactly that `lower` / `upper` change nothing -/
theorem isAlpha_cased (s : Str) (h : isAlpha s = true) :
    (isLower s = true ↔ lower s = s) ∧ (isUpper s = true ↔ upper s = s) := by
  obtain ⟨hne, hall⟩ := (class_iff isAlphaC s).1 h
  have hex : ∃ c ∈ s, isAlphaC c = true := by
    obtain ⟨x, xs, rfl⟩ := List.exists_cons_of_ne_nil hne
    exact ⟨x, List.mem_cons_self, hall x List.mem_cons_self⟩
  rw [(isLower_iff_fixed s).1, (isLower_iff_fixed s).2]
  exact ⟨⟨fun h => h.1, fun h => ⟨h, hex⟩⟩, ⟨fun h => h.1, fun h => ⟨h, hex⟩⟩⟩

/-- a concatenation is in a class exactly when it is non-empty and both parts are in it or empty -/
theorem class_append (s t : Str) :
    (isAlpha (s ++ t) = true ↔ (s = [] ∨ isAlpha s = true) ∧ (t = [] ∨ isAlpha t = true) ∧ (s ≠ [] ∨ t ≠ [])) ∧
    (isAlnum (s ++ t) = true ↔ (s = [] ∨ isAlnum s = true) ∧ (t = [] ∨ isAlnum t = true) ∧ (s ≠ [] ∨ t ≠ [])) ∧
    (isDecimal (s ++ t) = true ↔ (s = [] ∨ isDecimal s = true) ∧ (t = [] ∨ isDecimal t = true) ∧ (s ≠ [] ∨ t ≠ [])) ∧
    (isSpace (s ++ t) = true ↔ (s = [] ∨ isSpace s = true) ∧ (t = [] ∨ isSpace t = true) ∧ (s ≠ [] ∨ t ≠ [])) :=
  ⟨class_append_iff isAlphaC s t, class_append_iff isAlnumC s t, class_append_iff isDigitC s t,
    class_append_iff isSpaceC s t⟩

/-! ### capitalize -/

/-- `_capitalize` is total (without `fixes/C17-capitalize-empty.diff` the code indexes `chars[0]` of an empty vector);
only the first character changes -/
theorem capitalize_total : capitalize [] = [] ∧ ∀ c cs, capitalize (c :: cs) = toUpperC c :: cs := ⟨rfl, fun _ _ => rfl⟩

/-- `_capitalize` = `upper` of the first character followed by the rest UNCHANGED (not lower-cased: the crate
differs from Python's `capitalize` here) -/
theorem capitalize_spec (s : Str) : capitalize s = upper (s.take 1) ++ s.drop 1 := by
  cases s <;> simp [capitalize, upper]

theorem capitalize_algebra (s t : Str) :
    capitalize (capitalize s) = capitalize s ∧ upper (capitalize s) = upper s ∧ lower (capitalize s) = lower s ∧
    (s ≠ [] → capitalize (s ++ t) = capitalize s ++ t) ∧
    (capitalize s = s ↔ ∀ h, s.head? = some h → isLowerC h = false) := by
  cases s with
  | nil => simp [capitalize, upper, lower]
  | cons x xs =>
    simp only [capitalize, upper, lower, List.map_cons, toUpperC_idem, toLowerC_toUpperC, List.cons_append, ne_eq,
      reduceCtorEq, not_false_eq_true, forall_const, List.head?_cons, Option.some.injEq, forall_eq', true_and,
      List.cons.injEq, and_true]
    exact toUpperC_eq_self_iff x

/-! ### translate -/

/-- **translate**, character by character: the length is kept, and position `i` holds the value of the FIRST table
row whose key is the character at `i`, or that character itself when no row has it as key -/
theorem translate_spec (t : List (Char × Char)) (s : Str) :
    (translate t s).length = s.length ∧
    ∀ (i : Nat) (c : Char), s[i]? = some c →
      (∃ k, ∃ hk : k < t.length, t[k].1 = c ∧ (∀ j (hj : j < k), (t[j]'(by omega)).1 ≠ c) ∧
          (translate t s)[i]? = some t[k].2) ∨
      ((∀ r ∈ t, r.1 ≠ c) ∧ (translate t s)[i]? = some c) := by
  refine ⟨by simp [translate_eq_map], ?_⟩
  intro i c hi
  have hget : (translate t s)[i]? = some (trC t c) := by simp [translate_eq_map, hi]
  rcases trC_cases t c with ⟨k, hk, hkey, hfirst, hv⟩ | ⟨hno, hv⟩
  · exact .inl ⟨k, hk, hkey, hfirst, by rw [hget, hv]⟩
  · exact .inr ⟨hno, by rw [hget, hv]⟩

/-- one more row in front: it takes the characters equal to its key, all others go through the rest of the table -/
theorem translate_cons (k v : Char) (t : List (Char × Char)) (s : Str) :
    translate ((k, v) :: t) s = List.zipWith (fun c d => if c = k then v else d) s (translate t s) := by
  simp only [translate_eq_map]
  induction s with
  | nil => rfl
  | cons x xs ih => simp only [List.map_cons, List.zipWith_cons_cons, ih, trC_cons]

theorem translate_algebra (t t2 : List (Char × Char)) (s u : Str) :
    translate [] s = s ∧ translate t (s ++ u) = translate t s ++ translate t u ∧
    ((∀ c ∈ s, ∀ r ∈ t, r.1 ≠ c) → translate t s = s) ∧
    ((∀ c ∈ s, ∃ r ∈ t, r.1 = c) → translate (t ++ t2) s = translate t s) ∧
    ((∀ c ∈ s, ∀ r ∈ t, r.1 ≠ c) → translate (t ++ t2) s = translate t2 s) := by
  simp only [translate_eq_map]
  refine ⟨?_, by simp, ?_, ?_, ?_⟩
  · rw [map_eq_self_iff]; intro c _; rfl
  · intro h; rw [map_eq_self_iff]; intro c hc; exact trC_of_not_key t c (h c hc)
  · intro h; apply List.map_congr_left; intro c hc
    rw [trC_append, if_pos]
    obtain ⟨r, hr, hk⟩ := h c hc
    exact List.any_eq_true.2 ⟨r, hr, by simp [hk]⟩
  · intro h; apply List.map_congr_left; intro c hc
    rw [trC_append, if_neg]
    intro hany
    obtain ⟨r, hr, hk⟩ := List.any_eq_true.1 hany
    exact h c hc r hr (by simpa using hk)

/-- `lower` and `upper` ARE translations: by the 26-row tables `A..Z ↦ a..z` and `a..z ↦ A..Z` -/
theorem case_maps_eq_translate (s : Str) :
    lower s = translate ((List.range 26).map (fun i => (Char.ofNat (65 + i), Char.ofNat (97 + i)))) s ∧
    upper s = translate ((List.range 26).map (fun i => (Char.ofNat (97 + i), Char.ofNat (65 + i)))) s := by
  simp only [translate_eq_map, lower, upper]
  exact ⟨List.map_congr_left fun c _ => (trC_lowerTable c).symm, List.map_congr_left fun c _ => (trC_upperTable c).symm⟩

/-! ### zfill -/

/-- **zfill** in closed form: zeros go between a leading `-` and the rest, otherwise in front; never cut -/
theorem zfill_spec (w : Nat) (s : Str) :
    (∀ b, s = '-' :: b → zfill1 w s = '-' :: (List.replicate (w - 1 - b.length) '0' ++ b)) ∧
    (s.head? ≠ some '-' → zfill1 w s = List.replicate (w - s.length) '0' ++ s) ∧
    (w ≤ s.length → zfill1 w s = s) := by
  refine ⟨fun b hb => hb ▸ zfill1_neg w b, zfill1_nonneg w s, fun hw => ?_⟩
  by_cases h : s.head? = some '-'
  · obtain ⟨b, rfl⟩ := List.head?_eq_some_iff.1 h
    rw [zfill1_neg, Nat.sub_eq_zero_of_le (by rw [List.length_cons] at hw; omega)]
    rfl
  · rw [zfill1_nonneg w s h, Nat.sub_eq_zero_of_le hw]
    rfl

/-- `zfill`: the result is as wide as asked, never shorter than the text (also for width 0 on a negative number,
where the code without `fixes/C17-zfill-underflow.diff` underflows) -/
theorem zfill_length (w : Nat) (s : Str) : (zfill1 w s).length = max w s.length := by
  by_cases h : s.head? = some '-'
  · obtain ⟨b, rfl⟩ := List.head?_eq_some_iff.1 h
    rw [zfill1_neg, List.length_cons, List.length_cons, List.length_append, List.length_replicate]
    omega
  · rw [zfill1_nonneg w s h, List.length_append, List.length_replicate]
    omega

/-- filling twice = filling once to the larger width (so `zfill` is idempotent) -/
theorem zfill_zfill (w1 w2 : Nat) (s : Str) : zfill1 w2 (zfill1 w1 s) = zfill1 (max w1 w2) s := by
  by_cases h : s.head? = some '-'
  · obtain ⟨b, rfl⟩ := List.head?_eq_some_iff.1 h
    rw [zfill1_neg, zfill1_neg, zfill1_neg, replicate_pad_pad, Nat.sub_max_sub_right]
  · have h2 : (List.replicate (w1 - s.length) '0' ++ s).head? ≠ some '-' := by
      cases hn : w1 - s.length with
      | zero => exact h
      | succ n => exact fun e => nomatch e
    rw [zfill1_nonneg w1 s h, zfill1_nonneg (max w1 w2) s h, zfill1_nonneg _ _ h2, replicate_pad_pad]

/-- for a text without a leading `-` that is not longer than the width, `zfill` is `rjust` with fill `'0'`;
after a `-`, it is `rjust` of the rest to one less -/
theorem zfill_rjust (w : Nat) (s : Str) :
    (s.head? ≠ some '-' → s.length ≤ w → zfill1 w s = rjust s w '0') ∧
    (∀ b, s = '-' :: b → b.length ≤ w - 1 → zfill1 w s = '-' :: rjust b (w - 1) '0') := by
  constructor
  · intro h hl
    rw [zfill1_nonneg w s h, (rjust_spec s w '0').2.1 hl]
  · rintro b rfl hl
    rw [zfill1_neg, (rjust_spec b (w - 1) '0').2.1 hl]

/-- `zfill` does not change the number the digits denote (`digitsVal`: base-10 value of a digit text) -/
theorem zfill_value (w : Nat) (s : Str) :
    (s.head? ≠ some '-' → digitsVal (zfill1 w s) = digitsVal s) ∧
    (∀ b, s = '-' :: b → ∃ z, zfill1 w s = '-' :: z ∧ digitsVal z = digitsVal b ∧ z.all isDigitC = b.all isDigitC) ∧
    (isDecimal s = true → isDecimal (zfill1 w s) = true) := by
  refine ⟨?_, ?_, ?_⟩
  · intro h; rw [zfill1_nonneg w s h, digitsVal_zeros]
  · rintro b rfl
    exact ⟨_, zfill1_neg w b, digitsVal_zeros _ _, all_digit_append_zeros _ _⟩
  · intro hd
    obtain ⟨hne, hall⟩ := (class_iff isDigitC s).1 hd
    obtain ⟨c, cs, rfl⟩ := List.exists_cons_of_ne_nil hne
    have hh : (c :: cs).head? ≠ some '-' :=
      fun e => digit_not_sign (hall c List.mem_cons_self) (.inl (Option.some.inj e))
    rw [zfill1_nonneg w _ hh, isDecimal, all_digit_append_zeros, List.all_eq_true.2 hall, Bool.and_true,
      List.isEmpty_eq_false_iff.2 (List.append_ne_nil_of_right_ne_nil _ hne)]
    rfl

/-- the refusal test of `zfill` lets every (signed) run of decimal digits through, and refuses the empty text -/
theorem zfill_accepts_integers (s : Str) (h : isDecimal s = true) :
    isF64Literal s = true ∧ isF64Literal ('-' :: s) = true ∧ isF64Literal ('+' :: s) = true ∧
    isF64Literal [] = false := by
  obtain ⟨hne, hall⟩ := (class_iff isDigitC s).1 h
  have hall := List.all_eq_true.2 hall
  exact ⟨isF64Literal_digits s hne hall, isF64Literal_signed_digits '-' (.inl rfl) s hne hall,
    isF64Literal_signed_digits '+' (.inr rfl) s hne hall, by decide⟩

/-- **the refusal test of `zfill`** (`parse::<f64>().is_err()`) accepts exactly the texts of the grammar
`[+|-] ( digits [. digits] | . digits ) [ (e|E) [+|-] digits⁺ ]  |  [+|-] (inf | infinity | nan)` in any letter case
(`a`, `b`, `d` are runs of decimal digits, `m` the mantissa, `e` the exponent part) -/
theorem zfill_literal_grammar (s : Str) :
    isF64Literal s = true ↔
      ∃ sg body, s = sg ++ body ∧ (sg = [] ∨ sg = ['-'] ∨ sg = ['+']) ∧
        ((∃ m e, body = m ++ e ∧
            (∃ a b, (∀ c ∈ a, isDigitC c = true) ∧ (∀ c ∈ b, isDigitC c = true) ∧
              ((m = a ∧ a ≠ []) ∨ (m = a ++ '.' :: b ∧ (a ≠ [] ∨ b ≠ [])))) ∧
            (e = [] ∨ ∃ c sg' d, (c = 'e' ∨ c = 'E') ∧ (sg' = [] ∨ sg' = ['-'] ∨ sg' = ['+']) ∧ d ≠ [] ∧
              (∀ x ∈ d, isDigitC x = true) ∧ e = c :: (sg' ++ d))) ∨
         (lower body = ['i', 'n', 'f'] ∨ lower body = ['i', 'n', 'f', 'i', 'n', 'i', 't', 'y'] ∨
          lower body = ['n', 'a', 'n'])) := by
  show isF64Literal s = true ↔ F64Text s
  exact isF64Literal_iff_grammar s

/-- hence the array operation, on an array of (signed) digit runs, is never refused and fills every position -/
theorem zfillA_integers (a : SArr) (w : Nat) (hwf : a.WF)
    (hd : ∀ s ∈ a.elems, isDecimal s = true ∨ ∃ b, s = '-' :: b ∧ isDecimal b = true) :
    ∃ r, zfillA a w = .ok r ∧ r.shape = a.shape ∧
      ∀ p (h : p < a.elems.length), r.elems[p]? = some (zfill1 w a.elems[p]) := by
  have hno : a.elems.any (fun s => !isF64Literal s) = false := by
    rw [List.any_eq_false]
    intro s hs
    rcases hd s hs with h | ⟨b, rfl, h⟩
    · simp [(zfill_accepts_integers s h).1]
    · simp [(zfill_accepts_integers b h).2.1]
  obtain ⟨r, hr, hshape, _, hat⟩ := lift1_at (zfill1 w) a hwf
  exact ⟨r, by unfold zfillA; rw [hno]; simpa using hr, hshape, hat⟩

/-! ## non-vacuity -/

example : split ['a', '-', 'b', '-', '-', 'c'] ['-'] none = [['a'], ['b'], [], ['c']] := by decide +kernel
example : split ['a', '-', 'b', '-', 'c'] ['-'] (some 2) = [['a'], ['b', '-', 'c']] := by decide +kernel
example : split ['a', '-', 'b'] ['-'] (some 0) = [['a', '-', 'b']] := by decide +kernel
example : split ['a', 'b'] [] none = [[], ['a'], ['b'], []] := by decide +kernel
example : rsplit ['a', 'b', '-', 'c', 'd', '-', 'e', 'f'] ['-'] (some 2) = [['a', 'b', '-', 'c', 'd'], ['e', 'f']] := by decide +kernel
example : rsplit ['a', '<', '>', 'b', '<', '>', 'c'] ['<', '>'] none = [['a'], ['b'], ['c']] := by decide +kernel
example : rsplit ['a', 'a', 'a'] ['a', 'a'] none = [['a'], []] := by decide +kernel
example : split ['a', 'a', 'a'] ['a', 'a'] none = [[], ['a']] := by decide +kernel
example : replace ['a'] ['a'] ['a', 'a'] none = ['a', 'a'] := by decide +kernel
example : replace ['a', 'a', 'b'] ['a', 'b'] ['b'] none = ['a', 'b'] := by decide +kernel
example : replace ['a', 'b'] [] ['-'] none = ['-', 'a', '-', 'b', '-'] := by decide +kernel
example : replace ['a', 'b', 'a', 'b'] ['a'] ['b', 'a'] (some 1) = ['b', 'a', 'b', 'a', 'b'] := by decide +kernel
example : partition ['a', '-', 'b', '-', 'c'] ['-'] = (['a'], ['-'], ['b', '-', 'c']) := by decide +kernel
example : rpartition ['a', '-', 'b', '-', 'c'] ['-'] = (['a', '-', 'b'], ['-'], ['c']) := by decide +kernel
example : strip [' ', 'a', ' ', 'b', ' '] [' '] = ['a', ' ', 'b'] := by decide +kernel
example : center ['a', 'b'] 5 '*' = ['*', '*', 'a', 'b', '*'] := by decide +kernel
example : less ['a', ' ', ' '] ['a', 'b'] = true ∧ equal ['a', ' '] ['a'] = true ∧ greater ['b'] ['a', 'b'] = true := by decide +kernel
example : count ['a', 'a', 'a'] ['a', 'a'] = 1 ∧ count ['a', 'b'] [] = 3 := by decide +kernel
example : splitlines ['a', '\n', 'b', '\r', '\n', 'c', '\r'] true = [['a', '\n'], ['b', '\r', '\n'], ['c', '\r']] := by decide +kernel
example : lift2 Bcast.std append ⟨[['a'], ['b']], [2]⟩ ⟨[['c'], ['d']], [2]⟩ = .ok ⟨[['a', 'c'], ['b', 'd']], [2]⟩ := by decide +kernel
example : lower ['A', 'b', '-', 'Z'] = ['a', 'b', '-', 'z'] ∧ upper ['a', 'B', '1', 'z'] = ['A', 'B', '1', 'Z'] ∧
    swapcase ['a', 'B', '1'] = ['A', 'b', '1'] ∧ capitalize ['a', 'B', 'c'] = ['A', 'B', 'c'] := by decide +kernel
example : isLower ['a', '1', ' '] = true ∧ isLower ['a', 'B'] = false ∧ isLower ['1'] = false ∧
    isUpper ['A', '-'] = true ∧ isUpper [] = false := by decide +kernel
example : isAlpha ['a', 'B'] = true ∧ isAlpha [] = false ∧ isAlpha ['a', '1'] = false ∧ isAlnum ['a', '1'] = true ∧
    isDigit ['1', '2'] = false ∧ isDigit ['7'] = true ∧ isDecimal ['1', '2'] = true ∧
    isSpace [' ', '\t', '\n'] = true ∧ isSpace [' ', 'a'] = false := by decide +kernel
example : translate [('a', 'x'), ('a', 'y'), ('b', 'a')] ['a', 'b', 'c'] = ['x', 'a', 'c'] := by decide +kernel
example : zfill1 5 ['-', '4', '2'] = ['-', '0', '0', '4', '2'] ∧ zfill1 5 ['4', '2'] = ['0', '0', '0', '4', '2'] ∧
    zfill1 0 ['-', '1'] = ['-', '1'] ∧ zfill1 4 ['+', '5'] = ['0', '0', '+', '5'] := by decide +kernel
example : digitsVal ['0', '4', '2'] = 42 := by decide +kernel
example : isF64Literal ['1', '.', '5', 'e', '3'] = true ∧ isF64Literal ['a'] = false ∧
    isF64Literal ['-', '7'] = true ∧ isF64Literal ['.', '5'] = true ∧ isF64Literal ['.'] = false ∧
    isF64Literal ['1', 'e'] = false ∧ isF64Literal ['+', 'N', 'a', 'N'] = true ∧ isF64Literal ['-', '-', '1'] = false ∧
    isF64Literal ['1', '.', 'E', '-', '2'] = true := by decide +kernel
example : zfillA ⟨[['7'], ['-', '7']], [2]⟩ 3 = .ok ⟨[['0', '0', '7'], ['-', '0', '7']], [2]⟩ := by decide +kernel

end ArrModel.C17
