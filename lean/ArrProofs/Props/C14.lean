import ArrProofs.Lemmas.C14
import ArrProofs.Lemmas.C14Ext
import ArrProofs.Lemmas.C14Dot
/-!
# C14 — vector and matrix products equal their defining sums when operands conform

Property theorems only (helpers: `ArrProofs/Lemmas/C14.lean`, `C14Ext.lean`, `C14Dot.lean`).  Model under test:
`ArrModel/C14.lean` (`matmul`, `dot`, `vdot`, `inner`, `outer` with their rank dispatch and helpers, as repaired by
`/verif/fixes/C14-*.diff`).  Entries are integers; `a.ent c` reads the entry at coordinates `c`
(`Arr.get?` with default `0`; `ent_defined` shows the read is defined on every in-range coordinate of a
well-formed array).  Sums are `Finset` sums over the shared index.  Unless a hypothesis says otherwise the
statements hold for every length including zero; `0 < …` hypotheses appear exactly where the Rust goes
through `split_axis` / `split`, or through `zip` / `broadcast`, which REFUSE an empty operand (the model mirrors that
refusal; section E2 at the end states what happens on zero-length operands) — the property is about lengths 1...
The sections E1–E3 at the end cover what lies outside the statement: `matmul` of a vector with a stack, zero-length
operands, `dot` with an operand of rank ≥ 3.

Open finding (see `/verif/fixes/C14-dot-2d-rectangular-refused.md`): `dot` of two matrices refuses a conforming product
whose result is not square, and the crate's own test `test_linalg_dot::case_15` requires that refusal.  `DotMatMat` is the
full statement, `dot_22_partial` proves it outside that region, `dot_22_open_witness` refutes it at the witness.
-/
namespace ArrModel.C14
open ArrModel Finset

/-- the specification read is a real read: on a well-formed array every in-range coordinate has an entry -/
theorem ent_defined (a : A) (hwf : a.WF) (c : List Nat) (h : inRange a.shape c = true) :
    a.get? c = some (a.ent c) := get?_eq_some_ent a hwf c h

/-! ## matmul -/

/-- **matrix · matrix**: `[n,m] · [m,p]` is accepted, has shape `[n,p]`, is well-formed, and
entry `(i,j)` is `Σ_k A[i,k]·B[k,j]`. -/
theorem matmul_22 (a b : A) (n m p : Nat) (ha : a.WF) (hb : b.WF)
    (hsa : a.shape = [n, m]) (hsb : b.shape = [m, p]) :
    ∃ r, matmul a b = .ok r ∧ r.shape = [n, p] ∧ r.WF ∧
      ∀ i j, i < n → j < p → r.get? [i, j] = some (∑ k ∈ range m, a.ent [i, k] * b.ent [k, j]) := by
  refine ⟨mm22 a b n m p, ?_, rfl, mm22_wf a b n m p, fun i j hi hj => ?_⟩
  · rw [matmul_of_22 (ndim_of_shape hsa) (ndim_of_shape hsb)]
    exact matmul22_eq a b n m p ha hb hsa hsb
  · rw [mm22, get?_flatMap_range _ hi hj, cellSpec_eq_ent a b n m p i j hsa hsb]

/-- **vector · matrix**: `[k] · [k,p]` has shape `[p]` and entry `j` is `Σ_i a[i]·B[i,j]`. -/
theorem matmul_vec_mat (a b : A) (k p : Nat) (ha : a.WF) (hb : b.WF)
    (hsa : a.shape = [k]) (hsb : b.shape = [k, p]) :
    ∃ r, matmul a b = .ok r ∧ r.shape = [p] ∧ r.WF ∧
      ∀ j, j < p → r.get? [j] = some (∑ i ∈ range k, a.ent [i] * b.ent [i, j]) := by
  refine ⟨vm12 a b k p, ?_, flat_map_range_shape p _, Arr.flat_wf _, fun j hj => vm12_get a b k p j hj hsa hsb⟩
  rw [matmul_vec_nd hsa (ndim_of_shape hsb).ge (by rw [ndim_of_shape hsb, hsb]; rfl), if_pos rfl]
  exact matmul1dNd_vecmat _ a b k p ha hb hsa hsb

/-- **matrix · vector**: `[n,k] · [k]` has shape `[n]` and entry `i` is `Σ_q A[i,q]·b[q]`. -/
theorem matmul_mat_vec (a b : A) (n k : Nat) (ha : a.WF) (hb : b.WF) (hn : 0 < n) (hk : 0 < k)
    (hsa : a.shape = [n, k]) (hsb : b.shape = [k]) :
    ∃ r, matmul a b = .ok r ∧ r.shape = [n] ∧ r.WF ∧
      ∀ i, i < n → r.get? [i] = some (∑ q ∈ range k, a.ent [i, q] * b.ent [q]) := by
  refine ⟨mv21 a b n k, ?_, flat_map_range_shape n _, Arr.flat_wf _, fun i hi => mv21_get a b n k i hi hsa hsb⟩
  rw [matmul_nd_vec hsb (ndim_of_shape hsa).ge (by rw [ndim_of_shape hsa, hsa]; rfl), if_pos rfl]
  exact matmul1dNd_matvec _ a b n k ha hb hn hk hsa hsb

/-- **vector · vector** under `matmul` is the flattened dot product, a one-element array. -/
theorem matmul_vec_vec (a b : A) (k : Nat) (ha : a.WF) (hb : b.WF) (hsa : a.shape = [k]) (hsb : b.shape = [k])
    (hk : 0 < k) :
    matmul a b = .ok ⟨[∑ i ∈ range k, a.ent [i] * b.ent [i]], [1]⟩ := by
  rw [matmul_of_vecs (ndim_of_shape hsa) (ndim_of_shape hsb),
    vdot_of_length (wf_len1 ha hsa) (wf_len1 hb hsb) (Nat.pos_iff_ne_zero.1 hk), sumProd_vecs ha hb hsa hsb]

/-- **equally shaped stacks**: `[s,n,m] · [s,m,p]` has shape `[s,n,p]` and
entry `(t,i,j)` is `Σ_k A[t,i,k]·B[t,k,j]`. -/
theorem matmul_stack (a b : A) (s n m p : Nat) (ha : a.WF) (hb : b.WF)
    (hs : 0 < s) (hn : 0 < n) (hm : 0 < m) (hp : 0 < p)
    (hsa : a.shape = [s, n, m]) (hsb : b.shape = [s, m, p]) :
    ∃ r, matmul a b = .ok r ∧ r.shape = [s, n, p] ∧ r.WF ∧
      ∀ t i j, t < s → i < n → j < p →
        r.get? [t, i, j] = some (∑ k ∈ range m, a.ent [t, i, k] * b.ent [t, k, j]) := by
  refine ⟨ms33 a b s n m p, ?_, rfl, ms33_wf a b s n m p, fun t i j ht hi hj => ms33_get a b s n m p t i j ht hi hj hsa hsb⟩
  rw [matmul_of_stacks hsa hsb]
  exact matmulNd_stack a b s n m p ha hb hs hn hm hp hsa hsb

/-- **stacks, slice form**: the `t`-th matrix of the result is `matmul` of the `t`-th matrices of the operands. -/
theorem matmul_stack_slices (a b : A) (s n m p : Nat) (ha : a.WF) (hb : b.WF)
    (hs : 0 < s) (hn : 0 < n) (hm : 0 < m) (hp : 0 < p)
    (hsa : a.shape = [s, n, m]) (hsb : b.shape = [s, m, p]) :
    ∃ r, matmul a b = .ok r ∧ ∀ t, t < s →
      matmul ⟨slab a (n * m) t, [n, m]⟩ ⟨slab b (m * p) t, [m, p]⟩ = .ok ⟨slab r (n * p) t, [n, p]⟩ := by
  refine ⟨ms33 a b s n m p, ?_, fun t ht => ?_⟩
  · rw [matmul_of_stacks hsa hsb]
    exact matmulNd_stack a b s n m p ha hb hs hn hm hp hsa hsb
  · rw [matmul_of_22 rfl rfl, slab_eq_piece, slab_eq_piece, slab_eq_piece,
      matmul22_eq _ _ n m p (piece_wf ha hsa ht) (piece_wf hb hsb ht) rfl rfl, piece_ms33 a b s n m p t ht]
    rfl

/-! ### matmul: operands whose contracted lengths differ are refused, arm by arm -/

theorem matmul_refuses_22 (a b : A) (n m m' p : Nat) (hsa : a.shape = [n, m]) (hsb : b.shape = [m', p])
    (h : m ≠ m') : matmul a b = .err .ParameterError := by
  rw [matmul_of_22 (ndim_of_shape hsa) (ndim_of_shape hsb), matmul22_of_shapes hsa hsb, if_neg h]

/-- vector · N-D (N ≥ 2): the vector length is compared with the second-to-last axis -/
theorem matmul_refuses_vec_nd (a b : A) (k k' : Nat) (hsa : a.shape = [k]) (hb : 2 ≤ b.ndim)
    (hk' : b.shape[b.ndim - 2]? = some k') (h : k ≠ k') : matmul a b = .err .ParameterError := by
  rw [matmul_vec_nd hsa hb hk', if_neg h]

/-- N-D · vector (N ≥ 2): the last axis is compared with the vector length -/
theorem matmul_refuses_nd_vec (a b : A) (k k' : Nat) (hsb : b.shape = [k']) (ha : 2 ≤ a.ndim)
    (hk : a.shape[a.ndim - 1]? = some k) (h : k ≠ k') : matmul a b = .err .ParameterError := by
  rw [matmul_nd_vec hsb ha hk, if_neg h]

theorem matmul_refuses_vec_vec (a b : A) (k k' : Nat) (ha : a.WF) (hb : b.WF) (hsa : a.shape = [k])
    (hsb : b.shape = [k']) (h : k ≠ k') : matmul a b = .err .MustBeEqual := by
  rw [matmul_of_vecs (ndim_of_shape hsa) (ndim_of_shape hsb),
    vdot_of_length_ne (by rw [wf_len1 ha hsa, wf_len1 hb hsb]; exact h)]

/-- stacks whose matrices do not conform are refused -/
theorem matmul_refuses_stack (a b : A) (s n m m' p : Nat) (ha : a.WF) (hb : b.WF)
    (hs : 0 < s) (hn : 0 < n) (hm : 0 < m) (hm' : 0 < m') (hp : 0 < p)
    (hsa : a.shape = [s, n, m]) (hsb : b.shape = [s, m', p]) (h : m ≠ m') :
    matmul a b = .err .ParameterError := by
  rw [matmul_of_stacks hsa hsb, matmulNd_of_stacks a b s n m m' p ha hb hs hn hm hm' hp hsa hsb,
    collectRes_all_err _ _ .ParameterError (by rw [Ne, List.range_eq_nil]; omega)
      fun t _ => by rw [matmul22_of_shapes rfl rfl, if_neg h]]
  rfl

/-! ## dot (operands up to rank two) -/

/-- **scalar · array**: a one-element left operand scales the other operand (shape: the broadcast shape) -/
theorem dot_scalar_left (a b : A) (ha : a.WF) (h1 : a.len = 1) (hb0 : b.len ≠ 0) :
    ∃ x, a.elems = [x] ∧
      dot a b = some (.ok ⟨b.elems.map (fun y => x * y), List.replicate (a.ndim - b.ndim) 1 ++ b.shape⟩) := by
  obtain ⟨x, hx⟩ := List.length_eq_one_iff.1 h1
  refine ⟨x, hx, ?_⟩
  rw [dot_of_scalar (Or.inl h1), multiplyScalar_left hx (fun h => hb0 (congrArg List.length h)), shape_of_len_one ha h1,
    bshape_ones_left']
  rfl

theorem dot_scalar_right (a b : A) (hb : b.WF) (h1 : b.len = 1) (ha0 : a.len ≠ 0) :
    ∃ y, b.elems = [y] ∧
      dot a b = some (.ok ⟨a.elems.map (fun x => x * y), List.replicate (b.ndim - a.ndim) 1 ++ a.shape⟩) := by
  obtain ⟨y, hy⟩ := List.length_eq_one_iff.1 h1
  refine ⟨y, hy, ?_⟩
  rw [dot_of_scalar (Or.inr h1), multiplyScalar_right hy (fun h => ha0 (congrArg List.length h)), shape_of_len_one hb h1,
    bshape_ones_right']
  rfl

/-- **vector · vector**: the sum of the products, a one-element array -/
theorem dot_11 (a b : A) (k : Nat) (ha : a.WF) (hb : b.WF) (hsa : a.shape = [k]) (hsb : b.shape = [k]) (hk : k ≠ 1)
    (hk0' : k ≠ 0) :
    dot a b = some (.ok ⟨[∑ i ∈ range k, a.ent [i] * b.ent [i]], [1]⟩) := by
  rw [dot_of_vecs ((wf_len1 ha hsa).trans_ne hk) ((wf_len1 hb hsb).trans_ne hk) (ndim_of_shape hsa) (ndim_of_shape hsb),
    vdot_of_length (wf_len1 ha hsa) (wf_len1 hb hsb) hk0', sumProd_vecs ha hb hsa hsb]

/-- **matrix · vector** under `dot` -/
theorem dot_21 (a b : A) (n k : Nat) (ha : a.WF) (hb : b.WF) (hsa : a.shape = [n, k]) (hsb : b.shape = [k])
    (h1 : a.len ≠ 1) (h2 : b.len ≠ 1) (hk : 0 < k) :
    ∃ r, dot a b = some (.ok r) ∧ r.shape = [n] ∧ r.WF ∧
      ∀ i, i < n → r.get? [i] = some (∑ q ∈ range k, a.ent [i, q] * b.ent [q]) := by
  refine ⟨Arr.flat ((List.range n).map (fun i => sumProd (piece a.elems k i) b.elems)), ?_, flat_map_range_shape n _,
    Arr.flat_wf _, fun i hi => ?_⟩
  · rw [dot_of_1d h1 h2 (Or.inr ⟨ndim_of_shape hsa, ndim_of_shape hsb⟩), dot1d_matvec_eq hsa hsb,
      dotIterate_flats_vec _ b n k (fun _ hi => length_piece (wf_len2 ha hsa).ge hi) (wf_len1 hb hsb) hk]
  · rw [rows_vec_get _ b (wf_len2 ha hsa).ge (wf_len1 hb hsb) hi]
    exact congrArg some (Finset.sum_congr rfl fun q _ => by rw [ent_mat hsa, ent_vec hsb])

/-- **vector · matrix** under `dot` -/
theorem dot_12 (a b : A) (k p : Nat) (ha : a.WF) (hsa : a.shape = [k]) (hsb : b.shape = [k, p])
    (h1 : a.len ≠ 1) (h2 : b.len ≠ 1) (hk : 0 < k) :
    ∃ r, dot a b = some (.ok r) ∧ r.shape = [p] ∧ r.WF ∧
      ∀ j, j < p → r.get? [j] = some (∑ i ∈ range k, a.ent [i] * b.ent [i, j]) := by
  refine ⟨Arr.flat ((List.range p).map (fun j => sumProd a.elems (col b k p j))), ?_, flat_map_range_shape p _,
    Arr.flat_wf _, fun j hj => ?_⟩
  · rw [dot_of_1d h1 h2 (Or.inl ⟨ndim_of_shape hsa, ndim_of_shape hsb⟩), dot1d_vecmat_eq hsa hsb,
      dotIterate_vec_flats a _ p k (wf_len1 ha hsa) (fun j _ => length_col b k p j) hk]
  · rw [get?_flat_map_range _ hj, sumProd_eq_sum (wf_len1 ha hsa) (length_col b k p j)]
    exact congrArg some (Finset.sum_congr rfl fun i hi => by
      rw [getD_col b k p j i (Finset.mem_range.1 hi), ent_vec hsa, ent_mat hsb])

/-- the full C14 statement for `dot` on a conforming pair of matrices -/
def DotMatMat (a b : A) (n m p : Nat) : Prop :=
  ∃ r, dot a b = some (.ok r) ∧ r.shape = [n, p] ∧ r.WF ∧
    ∀ i j, i < n → j < p → r.get? [i, j] = some (∑ k ∈ range m, a.ent [i, k] * b.ent [k, j])

/-- **matrix · matrix under `dot`, outside the open finding**: proved when the result is square (`n = p`).
Missing for the full statement: `n ≠ p`, where the extra check of `dot` (required by the crate's tests) refuses the product. -/
theorem dot_22_partial (a b : A) (n m p : Nat) (ha : a.WF) (hb : b.WF)
    (hsa : a.shape = [n, m]) (hsb : b.shape = [m, p]) (h1 : a.len ≠ 1) (h2 : b.len ≠ 1)
    (hsq : n = p) : DotMatMat a b n m p := by
  obtain ⟨r, hr, hrest⟩ := matmul_22 a b n m p ha hb hsa hsb
  refine ⟨r, ?_, hrest⟩
  rw [dot_of_22 h1 h2 (ndim_of_shape hsa) (ndim_of_shape hsb),
    shapesAlign_eq (x := n) (y := p) (by rw [hsa]; rfl) (by rw [hsb]; rfl), if_pos hsq, Res.bind_ok, hr]

/-- the open finding, at its witness (`products_test::test_linalg_dot::case_15`): the conforming product
`2×2 · 2×3` is refused, so the full statement fails there -/
theorem dot_22_open_witness :
    dot ⟨[1, 2, 3, 4], [2, 2]⟩ ⟨[5, 6, 3, 7, 8, 3], [2, 3]⟩ = some (.err .ParameterError) ∧
    ¬ DotMatMat ⟨[1, 2, 3, 4], [2, 2]⟩ ⟨[5, 6, 3, 7, 8, 3], [2, 3]⟩ 2 2 3 := by
  have h : dot ⟨[1, 2, 3, 4], [2, 2]⟩ ⟨[5, 6, 3, 7, 8, 3], [2, 3]⟩ = some (.err .ParameterError) := by decide +kernel
  refine ⟨h, ?_⟩
  rintro ⟨r, hr, _⟩
  rw [h] at hr
  cases hr

/-! ### dot: refusals -/

theorem dot_refuses_11 (a b : A) (k k' : Nat) (ha : a.WF) (hb : b.WF) (hsa : a.shape = [k]) (hsb : b.shape = [k'])
    (hk : k ≠ 1) (hk' : k' ≠ 1) (h : k ≠ k') : dot a b = some (.err .MustBeEqual) := by
  rw [dot_of_vecs ((wf_len1 ha hsa).trans_ne hk) ((wf_len1 hb hsb).trans_ne hk') (ndim_of_shape hsa) (ndim_of_shape hsb),
    vdot_of_length_ne (by rw [wf_len1 ha hsa, wf_len1 hb hsb]; exact h)]

/-- matrices that do not conform are refused by `dot` (whatever the other axes are) -/
theorem dot_refuses_22 (a b : A) (n m m' p : Nat) (hsa : a.shape = [n, m]) (hsb : b.shape = [m', p])
    (h1 : a.len ≠ 1) (h2 : b.len ≠ 1) (h : m ≠ m') : dot a b = some (.err .ParameterError) := by
  rw [dot_of_22 h1 h2 (ndim_of_shape hsa) (ndim_of_shape hsb), matmul_refuses_22 a b n m m' p hsa hsb h,
    shapesAlign_eq (x := n) (y := p) (by rw [hsa]; rfl) (by rw [hsb]; rfl)]
  split <;> rfl

theorem dot_refuses_21 (a b : A) (n k k' : Nat) (ha : a.WF) (hb : b.WF) (hn : 0 < n)
    (hsa : a.shape = [n, k]) (hsb : b.shape = [k'])
    (h1 : a.len ≠ 1) (h2 : b.len ≠ 1) (h : k ≠ k') : ∃ e, dot a b = some (.err e) := by
  rw [dot_of_1d h1 h2 (Or.inr ⟨ndim_of_shape hsa, ndim_of_shape hsb⟩), dot1d_matvec_eq hsa hsb]
  exact ⟨_, congrArg some (dotIterate_refused _ _ k k' h (by rwa [List.length_map, List.length_range]) Nat.one_pos
    (fun x hx => length_of_mem_flats (fun _ hi => length_piece (wf_len2 ha hsa).ge hi) hx)
    (fun y hy => by rw [List.mem_singleton.1 hy, wf_len1 hb hsb]))⟩

theorem dot_refuses_12 (a b : A) (k k' p : Nat) (ha : a.WF) (hp : 0 < p)
    (hsa : a.shape = [k]) (hsb : b.shape = [k', p])
    (h1 : a.len ≠ 1) (h2 : b.len ≠ 1) (h : k ≠ k') : ∃ e, dot a b = some (.err e) := by
  rw [dot_of_1d h1 h2 (Or.inl ⟨ndim_of_shape hsa, ndim_of_shape hsb⟩), dot1d_vecmat_eq hsa hsb]
  exact ⟨_, congrArg some (dotIterate_refused _ _ k k' h Nat.one_pos (by rwa [List.length_map, List.length_range])
    (fun x hx => by rw [List.mem_singleton.1 hx, wf_len1 ha hsa])
    (fun y hy => length_of_mem_flats (fun j _ => length_col b k' p j) hy))⟩

/-! ## inner, outer, vdot -/

/-- **inner, two vectors** -/
theorem inner_11 (a b : A) (k : Nat) (ha : a.WF) (hb : b.WF) (hsa : a.shape = [k]) (hsb : b.shape = [k])
    (hk : 0 < k) :
    inner a b = .ok ⟨[∑ i ∈ range k, a.ent [i] * b.ent [i]], [1]⟩ := by
  rw [inner, if_pos ⟨ndim_of_shape hsa, ndim_of_shape hsb⟩, inner11_of_shapes hsa hsb, if_pos rfl,
    if_neg (by rw [Arr.len, Arr.len, wf_len1 ha hsa, wf_len1 hb hsb]; omega), sumProd_vecs ha hb hsa hsb]

/-- **inner, any ranks** (not both vectors): shapes `sa ++ [k]` and `sb ++ [k]` give shape `sa ++ sb`, and the entry
at `(ca, cb)` is `Σ_q A[ca, q]·B[cb, q]` — the contraction of the two last axes. -/
theorem inner_spec (a b : A) (sa sb : List Nat) (k : Nat) (ha : a.WF) (hb : b.WF)
    (hsa : a.shape = sa ++ [k]) (hsb : b.shape = sb ++ [k]) (hpa : 0 < sa.prod) (hpb : 0 < sb.prod) (hk : 0 < k)
    (hrank : ¬ (sa = [] ∧ sb = [])) :
    ∃ r, inner a b = .ok r ∧ r.shape = sa ++ sb ∧ r.WF ∧
      ∀ ca cb, inRange sa ca = true → inRange sb cb = true →
        r.get? (ca ++ cb) = some (∑ q ∈ range k, a.ent (ca ++ [q]) * b.ent (cb ++ [q])) := by
  refine ⟨inn a b sa sb k, ?_, rfl, inn_wf a b sa sb k, fun ca cb hca hcb => inn_get a b sa sb k ha hb hsa hsb ca cb hca hcb⟩
  rw [inner_nd_of_shapes (fun hnd => hrank ⟨nil_of_ndim_one hsa hnd.1, nil_of_ndim_one hsb hnd.2⟩) hsa hsb, if_pos rfl]
  exact innerNd_eq a b sa sb k ha hb hsa hsb hpa hpb hk

/-- inner refuses operands whose last axes differ (any ranks) -/
theorem inner_refuses (a b : A) (sa sb : List Nat) (k k' : Nat)
    (hsa : a.shape = sa ++ [k]) (hsb : b.shape = sb ++ [k']) (h : k ≠ k') :
    inner a b = .err .ParameterError := by
  by_cases hnd : a.ndim = 1 ∧ b.ndim = 1
  · have h1 := nil_of_ndim_one hsa hnd.1
    have h2 := nil_of_ndim_one hsb hnd.2
    subst h1 h2
    rw [inner, if_pos hnd, inner11_of_shapes hsa hsb, if_neg h]
  · rw [inner_nd_of_shapes hnd hsa hsb, if_neg h]

/-- **outer**: both operands are flattened; shape `[len a, len b]`, entry `(i,j)` is `a_i · b_j` -/
theorem outer_spec (a b : A) :
    ∃ r, outer a b = .ok r ∧ r.shape = [a.len, b.len] ∧ r.WF ∧
      ∀ i j, i < a.len → j < b.len → r.get? [i, j] = some (a.elems.getD i 0 * b.elems.getD j 0) := by
  exact ⟨_, outer_eq a b, rfl, reshape_wf (outer_eq a b), outer_get a b⟩

/-- **vdot** (flattened dot product): operands of equal length, whatever their shapes -/
theorem vdot_spec (a b : A) (h : a.len = b.len) (h0 : 0 < a.len) :
    vdot a b = .ok ⟨[∑ i ∈ range a.len, a.elems.getD i 0 * b.elems.getD i 0], [1]⟩ := by
  rw [vdot_of_length rfl h.symm (Nat.pos_iff_ne_zero.1 h0), sumProd_eq_sum rfl h.symm]; rfl

theorem vdot_refuses (a b : A) (h : a.len ≠ b.len) : vdot a b = .err .MustBeEqual := vdot_of_length_ne h

/-! ## results are well-formed (element count = product of the shape), for every input -/

theorem matmul_wf (a b r : A) (h : matmul a b = .ok r) : r.WF := by
  unfold matmul at h
  by_cases h0 : a.ndim = 1 ∧ b.ndim = 1
  · rw [if_pos h0] at h
    exact vdot_wf h
  rw [if_neg h0] at h
  by_cases h1 : a.ndim = 1 ∨ b.ndim = 1
  · rw [if_pos h1] at h
    obtain ⟨_, _, h⟩ := Res.bind_eq_ok h
    exact matmul1dNd_wf _ _ _ _ h
  rw [if_neg h1] at h
  by_cases h2 : a.ndim = 2 ∧ b.ndim = 2
  · rw [if_pos h2] at h
    exact matmul22_wf h
  · rw [if_neg h2] at h
    exact matmulNd_wf h

theorem inner_wf (a b r : A) (h : inner a b = .ok r) : r.WF := by
  unfold inner at h
  split at h
  · exact inner11_wf h
  · obtain ⟨_, _, h⟩ := Res.bind_eq_ok h
    exact innerNd_wf h

theorem dot_wf (a b r : A) (ha : a.WF) (hb : b.WF) (h : dot a b = some (.ok r)) : r.WF := by
  unfold dot at h
  by_cases h0 : a.len = 1 ∨ b.len = 1
  · rw [if_pos h0] at h
    exact multiplyScalar_wf a b r ha hb (Option.some.inj h)
  rw [if_neg h0] at h
  by_cases h1 : a.ndim = 1 ∧ b.ndim = 1
  · rw [if_pos h1] at h
    exact vdot_wf (Option.some.inj h)
  rw [if_neg h1] at h
  by_cases h2 : a.ndim = 2 ∧ b.ndim = 2
  · rw [if_pos h2] at h
    obtain ⟨_, _, h⟩ := Res.bind_eq_ok (Option.some.inj h)
    exact matmul_wf a b r h
  rw [if_neg h2] at h
  by_cases h3 : a.ndim = 1 ∨ b.ndim = 1
  · rw [if_pos h3] at h
    by_cases h4 : a.ndim ≤ 2 ∧ b.ndim ≤ 2
    · rw [if_pos h4] at h
      exact dot1d_wf (Option.some.inj h)
    · rw [if_neg h4] at h
      cases h
  · rw [if_neg h3] at h
    cases h

theorem outer_wf (a b r : A) (h : outer a b = .ok r) : r.WF := reshape_wf h

/-! ### non-vacuity: concrete instances (also the suite's own rows) -/
example : matmul ⟨[1, 2, 3, 4, 5, 6], [2, 3]⟩ ⟨[1, 2, 3, 4, 5, 6], [3, 2]⟩ = .ok ⟨[22, 28, 49, 64], [2, 2]⟩ := by decide +kernel
example : matmul ⟨[1, 2, 3, 4, 5, 6, 7, 8, 9], [3, 3]⟩ ⟨[1, 2, 3, 4, 5, 6], [3, 2]⟩
    = .ok ⟨[22, 28, 49, 64, 76, 100], [3, 2]⟩ := by decide +kernel
example : matmul ⟨[1, 2], [2]⟩ ⟨[0, 1, 2, 3, 4, 5], [2, 3]⟩ = .ok ⟨[6, 9, 12], [3]⟩ := by decide +kernel
example : matmul ⟨[1, 2, 3, 4, 5, 6], [2, 3]⟩ ⟨[1, 2, 3, 4, 5, 6, 7, 8], [4, 2]⟩ = .err .ParameterError := by decide +kernel
example : matmul ⟨[0, 1, 2, 3, 4, 5, 6, 7], [2, 2, 2]⟩ ⟨[0, 1, 2, 3, 4, 5, 6, 7], [2, 2, 2]⟩
    = .ok ⟨[2, 3, 6, 11, 46, 55, 66, 79], [2, 2, 2]⟩ := by decide +kernel
example : inner ⟨[6, 5, 4, 3, 2, 1], [2, 3]⟩ ⟨[1, 2, 3], [3]⟩ = .ok ⟨[28, 10], [2]⟩ := by decide +kernel
example : (⟨[1, 2, 3, 4, 5, 6], [2, 3]⟩ : A).WF ∧ inRange [2] [1] = true ∧ (0 < [2].prod) := by decide +kernel
example : dot ⟨[1, 2, 3, 4], [2, 2]⟩ ⟨[5, 6, 7, 8], [2, 2]⟩ = some (.ok ⟨[19, 22, 43, 50], [2, 2]⟩) := by decide +kernel
example : dot ⟨[2], [1]⟩ ⟨[1, 2, 3, 4], [2, 2]⟩ = some (.ok ⟨[2, 4, 6, 8], [2, 2]⟩) := by decide +kernel
-- a stack whose matrices are not square and whose products are not square: [2,2,3] · [2,3,1]
example : matmul ⟨[1, 2, 3, 4, 5, 6, 7, 8, 9, 10, 11, 12], [2, 2, 3]⟩ ⟨[1, 0, 1, 0, 1, 0], [2, 3, 1]⟩
    = .ok ⟨[4, 10, 8, 11], [2, 2, 1]⟩ := by decide +kernel
-- refusals: vector · matrix, matrix · vector, stacks, dot of a matrix and a vector, inner
example : matmul ⟨[1, 2, 3], [3]⟩ ⟨[0, 1, 2, 3, 4, 5], [2, 3]⟩ = .err .ParameterError := by decide +kernel
example : matmul ⟨[0, 1, 2, 3, 4, 5], [2, 3]⟩ ⟨[1, 2], [2]⟩ = .err .ParameterError := by decide +kernel
example : matmul ⟨[1, 2, 3, 4, 5, 6, 7, 8], [2, 2, 2]⟩ ⟨[1, 2, 3, 4, 5, 6], [2, 3, 1]⟩ = .err .ParameterError := by decide +kernel
example : dot ⟨[0, 1, 2, 3, 4, 5], [2, 3]⟩ ⟨[1, 2], [2]⟩ = some (.err .MustBeEqual) := by decide +kernel
example : inner ⟨[0, 1, 2, 3, 4, 5], [2, 3]⟩ ⟨[1, 2, 3, 4], [2, 2]⟩ = .err .ParameterError := by decide +kernel
example : (⟨[0, 1, 2, 3, 4, 5], [2, 3]⟩ : A).shape[(⟨[0, 1, 2, 3, 4, 5], [2, 3]⟩ : A).ndim - 2]? = some 2 := by decide +kernel

/-! # Outside the statement of the property

## E1 — `matmul` of a vector with a STACK of matrices, in either order

The statement lists "two matrices, a matrix and a vector in either order, equally shaped stacks"; a vector with a stack is
not in the list, so what follows is an observation about the code, not a violation (`/verif/fixes/C14-matmul-vector-stack-reshape.md`).
`matmul_1d_nd` computes the right numbers (one vector-matrix / matrix-vector product per matrix of the stack) but reshapes
them to `shape[1..]` of the stack instead of the textbook result shape, which only has the right element count when the
stack length equals the contracted length. -/

/-- **vector · stack, where the code is right** (`s = k`): `[k] · [k,k,p]` has shape `[k,p]` (= textbook `[s,p]`) and
entry `(t,j)` is `Σ_i a[i]·B[t,i,j]`. -/
theorem matmul_vec_stack (a b : A) (k p : Nat) (ha : a.WF) (hb : b.WF) (hk : 0 < k) (hp : 0 < p)
    (hsa : a.shape = [k]) (hsb : b.shape = [k, k, p]) :
    ∃ r, matmul a b = .ok r ∧ r.shape = [k, p] ∧ r.WF ∧
      ∀ t j, t < k → j < p → r.get? [t, j] = some (∑ i ∈ range k, a.ent [i] * b.ent [t, i, j]) := by
  have hndb : b.ndim = 3 := ndim_of_shape hsb
  refine ⟨⟨vsElems a b k k p, [k, p]⟩, ?_, rfl, by rw [Arr.WF, length_vsElems]; simp, fun t j ht hj => ?_⟩
  · rw [matmul_vec_nd hsa (by omega) (by rw [hndb, hsb]; rfl), if_pos rfl, hndb]
    exact (matmul1dNd_vecstack 2 a b k k p ha hb hk hk hp hsa hsb).trans
      (reshape_of_length (by rw [length_vsElems]; simp))
  · rw [Arr.get?, ravel_mat]
    exact vsElems_get a b k k p t j ht hj hsa hsb

/-- **vector · stack, where it is wrong**: the conforming product `[k] · [s,k,p]` (textbook shape `[s,p]`) is REFUSED
whenever the stack length differs from the contracted length. -/
theorem matmul_vec_stack_refused (a b : A) (s k p : Nat) (ha : a.WF) (hb : b.WF) (hs : 0 < s) (hk : 0 < k) (hp : 0 < p)
    (hsa : a.shape = [k]) (hsb : b.shape = [s, k, p]) (hsk : s ≠ k) :
    matmul a b = .err .ShapeMustMatchValuesLength := by
  have hndb : b.ndim = 3 := ndim_of_shape hsb
  rw [matmul_vec_nd hsa (by omega) (by rw [hndb, hsb]; rfl), if_pos rfl, hndb]
  refine (matmul1dNd_vecstack 2 a b s k p ha hb hs hk hp hsa hsb).trans (if_neg ?_)
  rw [length_vsElems, List.prod_cons, List.prod_singleton]
  exact fun h => hsk (Nat.eq_of_mul_eq_mul_right hp h).symm

/-- witness (`decide`): `[2] · [3,2,2]` conforms (textbook result of shape `[3,2]`) and is refused -/
theorem matmul_vec_stack_refused_witness :
    matmul ⟨[1, 2], [2]⟩ ⟨[1, 2, 3, 4, 5, 6, 7, 8, 9, 10, 11, 12], [3, 2, 2]⟩ = .err .ShapeMustMatchValuesLength := by
  decide +kernel

/-- **stack · vector**: for `[s,n,k] · [k]` with `s = k` the flat result holds the textbook numbers
(position `t·n + i` is `Σ_q A[t,i,q]·b[q]`), but the shape is `[n,k]`, the textbook shape being `[s,n]`. -/
theorem matmul_stack_vec (a b : A) (n k : Nat) (ha : a.WF) (hb : b.WF) (hn : 0 < n) (hk : 0 < k)
    (hsa : a.shape = [k, n, k]) (hsb : b.shape = [k]) :
    ∃ r, matmul a b = .ok r ∧ r.shape = [n, k] ∧ r.WF ∧
      ∀ t i, t < k → i < n → r.elems[t * n + i]? = some (∑ q ∈ range k, a.ent [t, i, q] * b.ent [q]) := by
  have hnda : a.ndim = 3 := ndim_of_shape hsa
  refine ⟨⟨svElems a b k n k, [n, k]⟩, ?_, rfl, by rw [Arr.WF, length_svElems]; simp [Nat.mul_comm],
    fun t i ht hi => svElems_get a b k n k t i ht hi hsa hsb⟩
  rw [matmul_nd_vec hsb (by omega) (by rw [hnda, hsa]; rfl), if_pos rfl, hnda]
  exact (matmul1dNd_stackvec 2 a b k n k ha hb hk hn hk hsa hsb).trans
    (reshape_of_length (by rw [length_svElems]; simp [Nat.mul_comm]))

/-- **stack · vector, where the code is right** (all three lengths equal): shape `[k,k]`, entry `(t,i)` is
`Σ_q A[t,i,q]·b[q]`. -/
theorem matmul_stack_vec_cube (a b : A) (k : Nat) (ha : a.WF) (hb : b.WF) (hk : 0 < k)
    (hsa : a.shape = [k, k, k]) (hsb : b.shape = [k]) :
    ∃ r, matmul a b = .ok r ∧ r.shape = [k, k] ∧ r.WF ∧
      ∀ t i, t < k → i < k → r.get? [t, i] = some (∑ q ∈ range k, a.ent [t, i, q] * b.ent [q]) := by
  obtain ⟨r, h1, h2, h3, h4⟩ := matmul_stack_vec a b k k ha hb hk hk hsa hsb
  refine ⟨r, h1, h2, h3, fun t i ht hi => ?_⟩
  rw [Arr.get?, h2, ravel_mat]
  exact h4 t i ht hi

/-- the conforming product `[s,n,k] · [k]` is refused whenever `s ≠ k` -/
theorem matmul_stack_vec_refused (a b : A) (s n k : Nat) (ha : a.WF) (hb : b.WF) (hs : 0 < s) (hn : 0 < n) (hk : 0 < k)
    (hsa : a.shape = [s, n, k]) (hsb : b.shape = [k]) (hsk : s ≠ k) :
    matmul a b = .err .ShapeMustMatchValuesLength := by
  have hnda : a.ndim = 3 := ndim_of_shape hsa
  rw [matmul_nd_vec hsb (by omega) (by rw [hnda, hsa]; rfl), if_pos rfl, hnda]
  refine (matmul1dNd_stackvec 2 a b s n k ha hb hs hn hk hsa hsb).trans (if_neg ?_)
  rw [length_svElems, List.prod_cons, List.prod_singleton, Nat.mul_comm s n]
  exact fun h => hsk (Nat.eq_of_mul_eq_mul_left hn h).symm

/-- witness (`decide`): `[2,3,2] · [2]` is accepted with the right numbers in the WRONG shape `[3,2]`
(the textbook result `[[3,7,11],[15,19,23]]` has shape `[2,3]`) -/
theorem matmul_stack_vec_wrong_shape_witness :
    matmul ⟨[1, 2, 3, 4, 5, 6, 7, 8, 9, 10, 11, 12], [2, 3, 2]⟩ ⟨[1, 1], [2]⟩
      = .ok ⟨[3, 7, 11, 15, 19, 23], [3, 2]⟩ := by
  decide +kernel

/-! ## E2 — zero-length operands

The model mirrors the crate: every path through `zip` / `broadcast` refuses an empty operand (`is_broadcastable`,
`shape.rs:18-29`), the index loops of `matmul` do not.  (The statement is about lengths 1..; these theorems say what
happens below that; the tie compares the region.) -/

/-- two empty operands are refused by `vdot` -/
theorem vdot_empty_refused (a b : A) (ha : a.len = 0) (hb : b.len = 0) : vdot a b = .err .BroadcastShapeMismatch := by
  rw [vdot, if_pos (ha.trans hb.symm), if_pos ha]

/-- `matmul` / `dot` / `inner` of two empty vectors are refused -/
theorem vec_vec_empty_refused (a b : A) (ha : a.WF) (hb : b.WF) (hsa : a.shape = [0]) (hsb : b.shape = [0]) :
    matmul a b = .err .BroadcastShapeMismatch ∧ dot a b = some (.err .BroadcastShapeMismatch) ∧
      inner a b = .err .BroadcastShapeMismatch := by
  have hla : a.len = 0 := wf_len1 ha hsa
  have hlb : b.len = 0 := wf_len1 hb hsb
  have hnd : a.ndim = 1 ∧ b.ndim = 1 := ⟨ndim_of_shape hsa, ndim_of_shape hsb⟩
  refine ⟨?_, ?_, ?_⟩
  · rw [matmul_of_vecs hnd.1 hnd.2, vdot_empty_refused a b hla hlb]
  · rw [dot_of_vecs (by rw [hla]; exact Nat.zero_ne_one) (by rw [hlb]; exact Nat.zero_ne_one) hnd.1 hnd.2,
      vdot_empty_refused a b hla hlb]
  · rw [inner, if_pos hnd, inner11_of_shapes hsa hsb, if_pos rfl, if_pos (Or.inl hla)]

/-- the scalar arm of `dot` refuses an empty other operand (either side) -/
theorem dot_scalar_empty_refused (a b : A) (h1 : a.len = 1) (h0 : b.len = 0) :
    dot a b = some (.err .BroadcastShapeMismatch) ∧ dot b a = some (.err .BroadcastShapeMismatch) := by
  obtain ⟨x, hx⟩ := List.length_eq_one_iff.1 h1
  have hm := multiplyScalar_empty hx (List.eq_nil_of_length_eq_zero h0)
  rw [dot_of_scalar (Or.inl h1), dot_of_scalar (Or.inr h1), hm.1, hm.2]
  exact ⟨rfl, rfl⟩

/-- the matrix product over an EMPTY shared index is the zero matrix (`matmul_22` with `m = 0`): every entry is the
empty sum — the loops of `matmul_iterate` never touch `zip`, so nothing is refused -/
theorem matmul_22_empty_shared (a b : A) (n p : Nat) (ha : a.WF) (hb : b.WF)
    (hsa : a.shape = [n, 0]) (hsb : b.shape = [0, p]) :
    ∃ r, matmul a b = .ok r ∧ r.shape = [n, p] ∧ ∀ i j, i < n → j < p → r.get? [i, j] = some 0 := by
  obtain ⟨r, h1, h2, _, h4⟩ := matmul_22 a b n 0 p ha hb hsa hsb
  exact ⟨r, h1, h2, fun i j hi hj => (h4 i j hi hj).trans (congrArg some (Finset.sum_range_zero _))⟩

/-- a matrix without columns times the empty vector: `split_axis(0)` of an empty array is the array itself, ONE piece,
so the result is the one-element array `[0]` whatever the number of rows is (textbook: `n` zeros) -/
theorem matmul_mat_vec_no_columns (a b : A) (n : Nat) (ha : a.WF) (hsa : a.shape = [n, 0]) (hsb : b.shape = [0]) :
    matmul a b = .ok ⟨[0], [1]⟩ := by
  have hla : a.elems.length = 0 := by rw [wf_len2 ha hsa, Nat.mul_zero]
  rw [matmul_nd_vec hsb (ndim_of_shape hsa).ge (by rw [ndim_of_shape hsa, hsa]; rfl), if_pos rfl,
    matmul1dNd_mat_vec_arm _ hsa, splitAxis0_empty hla, List.eq_nil_of_length_eq_zero hla]
  rfl

/-- a matrix without rows (`[0,k]`, `k ≥ 1`) times a vector: the single piece is the empty array, whose entry `0` is read:
the Rust indexing panics -/
theorem matmul_mat_vec_no_rows_panics (a b : A) (k : Nat) (ha : a.WF) (hk : 0 < k)
    (hsa : a.shape = [0, k]) (hsb : b.shape = [k]) : matmul a b = .panic := by
  have hla : a.elems.length = 0 := by rw [wf_len2 ha hsa, Nat.zero_mul]
  rw [matmul_nd_vec hsb (ndim_of_shape hsa).ge (by rw [ndim_of_shape hsa, hsa]; rfl), if_pos rfl,
    matmul1dNd_mat_vec_arm _ hsa, splitAxis0_empty hla, List.eq_nil_of_length_eq_zero hla, Res.bind_ok, List.map_cons,
    List.map_nil, matVecCell_nil_panic b hk]
  rfl

/-- `inner` refuses every pair of operands (rank ≥ 1 each) one of which has a zero-length LAST axis -/
theorem inner_empty_last_axis_refused (a b : A) (sa sb : List Nat) (ha : a.WF) (hb : b.WF)
    (hsa : a.shape = sa ++ [0]) (hsb : b.shape = sb ++ [0]) : ∃ e, inner a b = .err e := by
  have hla : a.len = 0 := by rw [Arr.len, wf_len_concat ha hsa, Nat.mul_zero]
  have hea : a.elems = [] := List.eq_nil_of_length_eq_zero hla
  have heb : b.elems = [] := List.eq_nil_of_length_eq_zero (by rw [wf_len_concat hb hsb, Nat.mul_zero])
  by_cases hnd : a.ndim = 1 ∧ b.ndim = 1
  · have h1 := nil_of_ndim_one hsa hnd.1
    have h2 := nil_of_ndim_one hsb hnd.2
    subst h1 h2
    exact ⟨_, by rw [inner, if_pos hnd, inner11_of_shapes hsa hsb, if_pos rfl, if_pos (Or.inl hla)]⟩
  · -- every row list is the single empty piece (or `split(0)` is refused), and `zip` refuses the one pair of rows
    rw [inner_nd_of_shapes hnd hsa hsb, if_pos rfl, innerNd_of_shapes hsa hsb, innerSplit_empty hsa hea,
      innerSplit_empty hsb heb]
    by_cases hpa : sa.prod = 0
    · exact ⟨_, by rw [if_pos hpa]; rfl⟩
    · by_cases hpb : sb.prod = 0
      · exact ⟨_, by rw [if_neg hpa, if_pos hpb]; rfl⟩
      · exact ⟨_, by rw [if_neg hpa, if_neg hpb]; rfl⟩

/-! ## E3 — `dot` with an operand of rank ≥ 3 (`dot_1d` on a stack, `dot_nd`)

Outside the statement ("the dot product of operands up to rank two").  `dotFull` (`ArrModel/C14Ext.lean`) is `dot`
wherever `dot` answers and the two remaining arms as written elsewhere.  The formula numpy documents for N-D × M-D
operands is `dot(a, b)[i.., t, j.., u] = Σ_k a[i.., t, k] · b[j.., k, u]` (sum over the LAST axis of `a` and the
SECOND-TO-LAST axis of `b`), for a vector and a stack the same sum with the vector's only axis.  The theorems below pin
down what the code computes instead; the deviations are reported in `/verif/fixes/C14-dot-rank3-observations.md`. -/

theorem dotFull_extends (a b : A) (r : Res A) (h : dot a b = some r) : dotFull a b = r := by
  rw [dotFull, h]

/-- **stack · vector, what the code computes**: `get_rows` reads only `shape[0]` pieces of length `shape[1]` from the
front of the buffer, so the result has `shape[0]` entries, entry `i` being the flat entries `i·k .. i·k+k-1` against the
vector — NOT numpy's `Σ_q a[i.., q]·b[q]` over the last axis (shape: all axes but the last). -/
theorem dot_stack_vec_computes (a b : A) (s0 k : Nat) (rest : List Nat) (ha : a.WF) (hb : b.WF) (hrest : rest ≠ [])
    (hsa : a.shape = s0 :: k :: rest) (hsb : b.shape = [k]) (hk : 0 < k) (hr : 0 < rest.prod)
    (h1 : a.len ≠ 1) (h2 : b.len ≠ 1) :
    ∃ r, dotFull a b = .ok r ∧ r.shape = [s0] ∧
      ∀ i, i < s0 → r.get? [i] = some (∑ q ∈ range k, a.elems.getD (i * k + q) 0 * b.ent [q]) := by
  refine ⟨Arr.flat ((List.range s0).map (fun i => sumProd (piece a.elems k i) b.elems)), ?_, flat_map_range_shape s0 _,
    fun i hi => ?_⟩
  · rw [dotFull_stack_vec hsa hsb hrest h1 h2, dot1dNd_stackvec_eq hsa hsb,
      dotIterate_flats_vec _ b s0 k (fun _ hi => length_piece (rows_le_stack ha hsa hr) hi) (wf_len1 hb hsb) hk]
  · rw [rows_vec_get _ b (rows_le_stack ha hsa hr) (wf_len1 hb hsb) hi]
    exact congrArg some (Finset.sum_congr rfl fun q _ => by rw [ent_vec hsb])

/-- a stack on the left is refused unless the vector length equals `shape[1]` (numpy compares with the LAST axis) -/
theorem dot_stack_vec_refused (a b : A) (s0 s1 k : Nat) (rest : List Nat) (ha : a.WF) (hb : b.WF) (hrest : rest ≠ [])
    (hsa : a.shape = s0 :: s1 :: rest) (hsb : b.shape = [k]) (hs0 : 0 < s0) (hr : 0 < rest.prod)
    (h1 : a.len ≠ 1) (h2 : b.len ≠ 1) (hne : s1 ≠ k) : dotFull a b = .err .MustBeEqual := by
  rw [dotFull_stack_vec hsa hsb hrest h1 h2, dot1dNd_stackvec_eq hsa hsb]
  exact dotIterate_refused _ _ s1 k hne (by rwa [List.length_map, List.length_range]) Nat.one_pos
    (fun x hx => length_of_mem_flats (fun _ hi => length_piece (rows_le_stack ha hsa hr) hi) hx)
    (fun y hy => by rw [List.mem_singleton.1 hy, wf_len1 hb hsb])

/-- **vector · stack, what the code computes**: `get_columns` reads `shape[1]` pieces of length `shape[0]` of the
all-axes-reversed transpose, so the result has `shape[1]` entries, entry `j` being `Σ_i a[i]·b[i, j, 0, …, 0]` — the
vector against the FIRST matrix-column slice only, contracted over axis 0; numpy contracts over the second-to-last axis
and returns all axes but that one. -/
theorem dot_vec_stack_computes (a b : A) (k s1 : Nat) (rest : List Nat) (ha : a.WF) (hb : b.WF) (hrest : rest ≠ [])
    (hsa : a.shape = [k]) (hsb : b.shape = k :: s1 :: rest) (hk : 0 < k) (hr : 0 < rest.prod)
    (h1 : a.len ≠ 1) (h2 : b.len ≠ 1) :
    ∃ r, dotFull a b = .ok r ∧ r.shape = [s1] ∧
      ∀ j, j < s1 → r.get? [j] = some (∑ i ∈ range k, a.ent [i] * b.ent (i :: j :: List.replicate rest.length 0)) := by
  refine ⟨Arr.flat ((List.range s1).map (fun j => sumProd a.elems (piece (revT b) k j))), ?_, flat_map_range_shape s1 _,
    fun j hj => ?_⟩
  · rw [dotFull_vec_stack hsa hsb hrest h1 h2, dot1dNd_vecstack_eq hb hsa hsb,
      dotIterate_vec_flats a _ s1 k (wf_len1 ha hsa) (fun _ hj => length_piece (cols_le_stack hb hsb hr) hj) hk]
  · rw [get?_flat_map_range _ hj, sumProd_eq_sum (wf_len1 ha hsa) (length_piece (cols_le_stack hb hsb hr) hj)]
    exact congrArg some (Finset.sum_congr rfl fun i hi => by
      rw [getD_piece _ j (Finset.mem_range.1 hi), revT_col b k s1 rest hb hsb hr i j (Finset.mem_range.1 hi) hj, ent_vec hsa])

/-- a stack on the right is refused unless the vector length equals `shape[0]` (numpy: the second-to-last axis) -/
theorem dot_vec_stack_refused (a b : A) (k s0 s1 : Nat) (rest : List Nat) (ha : a.WF) (hb : b.WF) (hrest : rest ≠ [])
    (hsa : a.shape = [k]) (hsb : b.shape = s0 :: s1 :: rest) (hs1 : 0 < s1) (hr : 0 < rest.prod)
    (h1 : a.len ≠ 1) (h2 : b.len ≠ 1) (hne : k ≠ s0) : dotFull a b = .err .MustBeEqual := by
  rw [dotFull_vec_stack hsa hsb hrest h1 h2, dot1dNd_vecstack_eq hb hsa hsb]
  exact dotIterate_refused _ _ k s0 hne Nat.one_pos (by rwa [List.length_map, List.length_range])
    (fun x hx => by rw [List.mem_singleton.1 hx, wf_len1 ha hsa])
    (fun y hy => length_of_mem_flats (fun _ hj => length_piece (cols_le_stack hb hsb hr) hj) hy)

/-- deviation witnesses (`decide`): `[2,3,2] · [3]` is ACCEPTED (numpy refuses: last axis 2 ≠ 3) and gives 2 numbers;
`[2] · [2,2,3]` gives 2 numbers where numpy gives the `[2,3]` array `[[9,12,15],[27,30,33]]` -/
theorem dot_1d_stack_deviation_witnesses :
    dotFull ⟨[1, 2, 3, 4, 5, 6, 7, 8, 9, 10, 11, 12], [2, 3, 2]⟩ ⟨[1, 1, 1], [3]⟩ = .ok ⟨[6, 15], [2]⟩ ∧
    dotFull ⟨[1, 2], [2]⟩ ⟨[1, 2, 3, 4, 5, 6, 7, 8, 9, 10, 11, 12], [2, 2, 3]⟩ = .ok ⟨[15, 24], [2]⟩ := by
  constructor <;> decide +kernel

/-- **`dot_nd` refuses operands whose contracted lengths differ** (last axis of `a`, second-to-last of `b`) — as numpy -/
theorem dot_nd_refuses_contract (a b : A) (LA LB : List Nat) (n m m' p : Nat)
    (hsa : a.shape = LA ++ [n, m]) (hsb : b.shape = LB ++ [m', p]) (h1 : a.len ≠ 1) (h2 : b.len ≠ 1)
    (hrank : LA ≠ [] ∨ LB ≠ []) (hne : m ≠ m') : dotFull a b = .err .ParameterError := by
  rw [dotFull_nd_of_shapes hsa hsb h1 h2 hrank, dotNd_of_shapes hsa hsb, if_neg hne]

/-- **`dot_nd` ALSO refuses every conforming pair with `n ≠ p`** (second-to-last length of `a`, last length of `b`):
numpy accepts these (result shape `LA ++ [n] ++ LB ++ [p]`) -/
theorem dot_nd_refuses_nonsquare (a b : A) (LA LB : List Nat) (n m p : Nat) (ha : a.WF) (hb : b.WF)
    (hsa : a.shape = LA ++ [n, m]) (hsb : b.shape = LB ++ [m, p]) (hnza : 0 ∉ a.shape) (hnzb : 0 ∉ b.shape)
    (h1 : a.len ≠ 1) (h2 : b.len ≠ 1) (hrank : LA ≠ [] ∨ LB ≠ []) (hne : n ≠ p) :
    dotFull a b = .err .MustBeEqual := by
  rw [dotFull_nd_of_shapes hsa hsb h1 h2 hrank]
  obtain ⟨S1, a1, _, a3⟩ := dotSplit_a a LA n m ha hsa hnza
  obtain ⟨S2, b1, _, b3⟩ := dotSplit_b b LB m p hb hsb hnzb
  have hza := (C11.mem_append_cons_iff LA [m] n).1 (hsa ▸ hnza)
  have hzb := (C11.mem_append_cons_iff LB [p] m).1 (hsb ▸ hnzb)
  have hm : 0 < m := Nat.pos_of_ne_zero hzb.2.1
  rw [dotNd_of_shapes hsa hsb, if_pos rfl, a3, b3, Res.bind_ok, Res.bind_ok,
    dotIterate_pieces_refused S1 S2 n p _ _ (Nat.mul_pos (prod_pos_of_not_mem _ hza.1) hm)
      (Nat.mul_pos (prod_pos_of_not_mem _ hzb.1) hm) a1 b1 hne]
  rfl

/-- **`dot_nd`, what the code computes** (shapes `LA ++ [n, m]`, `LB ++ [m, n]`, no zero-length axis): with `S1` = `a`
with its second-to-last axis rotated to the front and `S2` = `b` with its last axis rotated to the front (flat buffers,
characterised entry by entry), the result is the transpose by the fixed axis list `dotPairs` of the array `U` of shape
`LA ++ [m] ++ LB ++ [m]` whose flat entry `(c, d)` is `Σ_x S1[c·n + x] · S2[d·n + x]` — the buffers are cut into
chunks of length `n` (not `m`), and the shape is built from `m` (not `n`): the numbers line up with numpy's formula only
when `n = m` and the leading lengths equal `n` too (`dot_nd_cube`). -/
theorem dot_nd_computes (a b : A) (LA LB : List Nat) (n m : Nat) (ha : a.WF) (hb : b.WF)
    (hsa : a.shape = LA ++ [n, m]) (hsb : b.shape = LB ++ [m, n]) (hnza : 0 ∉ a.shape) (hnzb : 0 ∉ b.shape)
    (h1 : a.len ≠ 1) (h2 : b.len ≠ 1) (hrank : LA ≠ [] ∨ LB ≠ []) :
    ∃ S1 S2 : List Int, S1.length = LA.prod * m * n ∧ S2.length = LB.prod * m * n ∧
      (∀ l k t, inRange LA l = true → k < m → t < n → S1[(t * LA.prod + ravel LA l) * m + k]? = a.get? (l ++ [t, k])) ∧
      (∀ l k u, inRange LB l = true → k < m → u < n → S2[u * (LB.prod * m) + (ravel LB l * m + k)]? = b.get? (l ++ [k, u])) ∧
      dotFull a b = (⟨(List.range (LA.prod * m)).flatMap (fun c => (List.range (LB.prod * m)).map (fun d =>
            ∑ x ∈ range n, S1.getD (c * n + x) 0 * S2.getD (d * n + x) 0)), (LA ++ [m]) ++ (LB ++ [m])⟩ : A).transpose 0
        (some (dotPairs ((LA ++ [m]) ++ (LB ++ [m])).length (decide (b.len > a.len)))) := by
  obtain ⟨S1, S2, e1, e2, g1, g2, hd⟩ := dotNd_computes a b LA LB n m ha hb hsa hsb hnza hnzb
  exact ⟨S1, S2, e1, e2, g1, g2, (dotFull_nd_of_shapes hsa hsb h1 h2 hrank).trans hd⟩

/-- deviation witness (`decide`): `[2,2] · [3,2,2]` — numpy's result has shape `[2,3,2]` and flat entries
`7,10,19,22,31,34,15,22,43,50,71,78` (`dotNumpy`); the code returns shape `[2,2,3]` with the entries in another order -/
theorem dot_nd_deviation_witness :
    dotFull ⟨[1, 2, 3, 4], [2, 2]⟩ ⟨[1, 2, 3, 4, 5, 6, 7, 8, 9, 10, 11, 12], [3, 2, 2]⟩
      = .ok ⟨[7, 31, 22, 19, 10, 34, 15, 71, 50, 43, 22, 78], [2, 2, 3]⟩ ∧
    dotNumpy ⟨[1, 2, 3, 4], [2, 2]⟩ ⟨[1, 2, 3, 4, 5, 6, 7, 8, 9, 10, 11, 12], [3, 2, 2]⟩ [] [3] 2 2 2
      = ⟨[7, 10, 19, 22, 31, 34, 15, 22, 43, 50, 71, 78], [2, 3, 2]⟩ := by
  constructor <;> decide +kernel

/-- **`dot_nd`, where the code meets numpy's formula**: two cubes `[n,n,n] · [n,n,n]` (`n ≥ 2`) give shape `[n,n,n,n]`
and entry `(l, t, l', u)` is `Σ_k a[l,t,k]·b[l',k,u]` — the only kind of stack the existing tests use (`2×2×2`). -/
theorem dot_nd_cube (a b : A) (n : Nat) (ha : a.WF) (hb : b.WF) (hn : 2 ≤ n)
    (hsa : a.shape = [n, n, n]) (hsb : b.shape = [n, n, n]) :
    ∃ r, dotFull a b = .ok r ∧ r.shape = [n, n, n, n] ∧ r.WF ∧
      ∀ l t l' u, l < n → t < n → l' < n → u < n →
        r.get? [l, t, l', u] = some (∑ k ∈ range n, a.ent [l, t, k] * b.ent [l', k, u]) := by
  have h8 : 8 ≤ n * (n * n) := Nat.mul_le_mul hn (Nat.mul_le_mul hn hn)
  have h1 : a.len ≠ 1 := by
    have : a.len = n * (n * n) := wf_len3 ha hsa
    omega
  have h2 : b.len ≠ 1 := by
    have : b.len = n * (n * n) := wf_len3 hb hsb
    omega
  rw [dotFull_nd_of_shapes (LA := [n]) (LB := [n]) hsa hsb h1 h2 (Or.inl (List.cons_ne_nil _ _))]
  have hnz : 0 ∉ [n, n, n] := by simp; omega
  obtain ⟨S1, S2, e1, e2, g1, g2, hd⟩ := dotNd_computes a b [n] [n] n n ha hb hsa hsb (hsa ▸ hnz) (hsb ▸ hnz)
  rw [List.prod_singleton] at e1 e2 g1 g2 hd
  have hlen : b.len = a.len := (wf_len3 hb hsb).trans (wf_len3 ha hsa).symm
  have hU : (⟨dotU S1 S2 n (n * n) (n * n), [n, n, n, n]⟩ : A).WF := by
    rw [Arr.WF, length_dotU]; simp [Nat.mul_assoc]
  obtain ⟨r, hr, hshape, hwf, hget⟩ :=
    C06.transpose_nat_spec (⟨dotU S1 S2 n (n * n) (n * n), [n, n, n, n]⟩ : A) 0 [1, 0, 3, 2] hU
      (show ([1, 0, 3, 2] : List Nat).Perm (List.range 4) by decide)
  refine ⟨r, ?_, hshape, hwf, fun l t l' u hl ht hl' hu => ?_⟩
  · rw [hd, hlen, decide_eq_false (Nat.lt_irrefl _)]
    exact dotPairs_4 ▸ hr
  · -- the transpose by `[1, 0, 3, 2]` reads the untransposed buffer at `(t, l, u, l')`
    have hg := hget [t, l, u, l'] (by simp [inRange, hl, ht, hl', hu])
    have hrav : ravel [n, n, n, n] [t, l, u, l'] = (t * n + l) * (n * n) + (u * n + l') := by
      rw [show [n, n, n, n] = [n, n] ++ [n, n] from rfl, show [t, l, u, l'] = [t, l] ++ [u, l'] from rfl,
        ravel_append_append [n, n] [t, l] [n, n] [u, l'] rfl, ravel_mat, ravel_mat, List.prod_cons, List.prod_singleton]
    rw [show permute [1, 0, 3, 2] [t, l, u, l'] = [l, t, l', u] from rfl] at hg
    rw [hg, Arr.get?, hrav, dotU, getElem?_flatMap_range _ _ _ _ _ (mul_add_lt ht hl) (mul_add_lt hu hl')]
    refine congrArg some (Finset.sum_congr rfl fun k hk => ?_)
    have hk' : k < n := Finset.mem_range.1 hk
    have q1 : S1[(t * n + ravel [n] [l]) * n + k]? = a.get? [l, t, k] := g1 [l] k t (inRange_vec hl) hk' ht
    have q2 : S2[u * (n * n) + (ravel [n] [l'] * n + k)]? = b.get? [l', k, u] := g2 [l'] k u (inRange_vec hl') hk' hu
    rw [ravel_vec] at q1 q2
    rw [show (u * n + l') * n + k = u * (n * n) + (l' * n + k) by rw [Nat.add_mul, Nat.mul_assoc, Nat.add_assoc],
      Arr.ent, Arr.ent, ← q1, ← q2, List.getD_eq_getElem?_getD, List.getD_eq_getElem?_getD]

/-- non-vacuity of the cube theorem and of `dot_nd_computes` (the suite's own `2×2×2` row) -/
example : dotFull ⟨[1, 2, 3, 4, 5, 6, 7, 8], [2, 2, 2]⟩ ⟨[1, 2, 3, 4, 5, 6, 7, 8], [2, 2, 2]⟩
    = .ok ⟨[7, 10, 19, 22, 15, 22, 43, 50, 23, 34, 67, 78, 31, 46, 91, 106], [2, 2, 2, 2]⟩ := by decide +kernel

/-- every `ok` result of `dot`, whatever the ranks of the operands, is well-formed -/
theorem dotFull_wf (a b r : A) (ha : a.WF) (hb : b.WF) (h : dotFull a b = .ok r) : r.WF := by
  unfold dotFull at h
  split at h
  · rename_i x hx
    subst h
    exact dot_wf a b r ha hb hx
  · split at h
    · exact dot1dNd_wf h
    · exact dotNd_wf h

end ArrModel.C14
