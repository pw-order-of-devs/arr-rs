import ArrProofs.Lemmas.C16
/-!
# C16 — structured constructors put the right value at every coordinate

The property theorems, together with the closed forms `linspace_ok`, `geomspace_ok` the spacing theorems start from and
the power laws `PowLaws` (met by `logDomain`) that the geometric ones assume; all other helpers are in
`ArrProofs/Lemmas/C16.lean`.  Model under test: `ArrModel/C16.lean`, which
transcribes `create.rs:389-581`, `create_from.rs:147-257` and the `array_*!` macros arm for arm.
Coordinates are the specification language: `r.get? c = r.elems[ravel r.shape c]?` (C02 makes `ravel` a bijection).

Machine integers: the model is over unbounded `Nat`/`Int`; the two places where the code names machine bounds
(`saturating_add` in `tri/tril/triu`, the checked side of `diag_1d`) are modelled, and the coordinate theorems carry
the corresponding size hypothesis (`m ≤ isizeMax`, `(len + |k|)² ≤ usizeMax`), true of every array that exists.

What is NOT proved here (tie only, see `claims.d/C16.json`): the `f64` rounding of `linspace/geomspace/logspace`
(the theorems are about exact rationals / an abstract power domain), the `N::from(f64)` casts, and that the values
`N::rand` draws lie in the unit interval (`rand_shape` only says every element *is* a draw).
-/
namespace ArrModel.C16
open ArrModel

variable {α : Type}

/-! ### constant fills -/

/-- **full**: the requested shape, and the value at every coordinate — for every shape of every rank. -/
theorem full_at (shape : List Nat) (v : α) :
    ∃ r, full shape v = .ok r ∧ r.shape = shape ∧ r.WF ∧
      ∀ c, inRange shape c = true → r.get? c = some v := by
  refine ⟨⟨List.replicate shape.prod v, shape⟩, Arr.new_of_prod List.length_replicate.symm, rfl, List.length_replicate, ?_⟩
  intro c hc
  have := ravel_lt _ _ hc
  simp [Arr.get?, this]

/-- **full_like**: shape of the other array, the value everywhere. -/
theorem fullLike_at (other : Arr α) (v : α) :
    ∃ r, fullLike other v = .ok r ∧ r.shape = other.shape ∧ r.WF ∧
      ∀ c, inRange other.shape c = true → r.get? c = some v :=
  full_at other.shape v

/-- **zeros / ones / *_like** are the fills with 0 and 1. -/
theorem zeros_ones_are_fills (shape : List Nat) (other : Arr Int) :
    zeros shape = full shape 0 ∧ ones shape = full shape 1 ∧
    zerosLike other = full other.shape 0 ∧ onesLike other = full other.shape 1 :=
  ⟨rfl, rfl, rfl, rfl⟩

theorem zeros_at (shape : List Nat) :
    ∃ r, zeros shape = .ok r ∧ r.shape = shape ∧ r.WF ∧ ∀ c, inRange shape c = true → r.get? c = some 0 :=
  full_at shape 0

theorem ones_at (shape : List Nat) :
    ∃ r, ones shape = .ok r ∧ r.shape = shape ∧ r.WF ∧ ∀ c, inRange shape c = true → r.get? c = some 1 :=
  full_at shape 1

/-- **rand**: requested shape, as many elements as the shape's product, and every element is one of the draws
(so a predicate every draw satisfies — "inside the unit interval" — holds for every element). -/
theorem rand_shape (draw : Nat → α) (shape : List Nat) :
    ∃ r, rand draw shape = .ok r ∧ r.shape = shape ∧ r.elems.length = shape.prod ∧
      ∀ (P : α → Prop), (∀ i, P (draw i)) → ∀ x ∈ r.elems, P x := by
  refine ⟨⟨(List.range shape.prod).map draw, shape⟩, Arr.new_of_prod (by simp), rfl, by simp, ?_⟩
  intro P hP x hx
  obtain ⟨i, _, rfl⟩ := List.mem_map.1 hx
  exact hP i

/-! ### identity-like -/

/-- **eye**: one exactly where `col = row + k`, zero elsewhere — every `n`, `m`, every offset the API can express
(`k : usize`), defaults `m = n`, `k = 0`. -/
theorem eye_at (n : Nat) (m k : Option Nat) :
    ∃ r, eye n m k = .ok r ∧ r.shape = [n, m.getD n] ∧ r.WF ∧
      ∀ i j, i < n → j < m.getD n → r.get? [i, j] = some (if j = i + k.getD 0 then 1 else 0) := by
  have hlen : ∀ f : Nat → Int, ((List.range (n * m.getD n)).map f).length = [n, m.getD n].prod := fun f => by
    rw [List.length_map, List.length_range, prod_pair]
  refine ⟨_, Arr.new_of_prod (hlen _).symm, rfl, hlen _, ?_⟩
  intro i j hi hj
  obtain ⟨h1, h2⟩ := mul_add_divmod i j (m.getD n) hj
  have hcol : (j ≥ k.getD 0 ∧ j - k.getD 0 = i) ↔ j = i + k.getD 0 :=
    ⟨fun h => by rw [← h.2, Nat.sub_add_cancel h.1], fun h => h ▸ ⟨Nat.le_add_left _ _, Nat.add_sub_cancel ..⟩⟩
  rw [get_rangeMap n (m.getD n) _ i j hi hj]
  simp only [h1, h2, hcol]

/-- an offset beyond the matrix gives the zero matrix -/
theorem eye_offset_beyond (n m k : Nat) (h : m ≤ k) :
    ∃ r, eye n (some m) (some k) = .ok r ∧ ∀ i j, i < n → j < m → r.get? [i, j] = some 0 := by
  obtain ⟨r, h1, _, _, h4⟩ := eye_at n (some m) (some k)
  refine ⟨r, h1, fun i j hi hj => ?_⟩
  rw [h4 i j hi hj]
  have : ¬ (j = i + k) := by omega
  simp [this]

/-- **identity = eye n n 0** (the `i % (n+1) == 0` test picks exactly the main diagonal) -/
theorem identity_eq_eye (n : Nat) : identity n = eye n none none ∧ identity n = eye n (some n) (some 0) := by
  have key : identity n = eye n (some n) (some 0) := by
    unfold identity eye
    congr 1
    apply List.map_congr_left
    intro i hi
    have hi' : i < n * n := by simpa using hi
    have := identity_diag n i hi'
    by_cases h : i % (n + 1) = 0
    · simp [h, this.1 h]
    · have h2 : ¬ (i % n = i / n) := fun e => h (this.2 e)
      simp [h, h2]
  -- `eye` reads its absent arguments as `m = n`, `k = 0`
  have defaults : eye n none none = eye n (some n) (some 0) := rfl
  exact ⟨key.trans defaults.symm, key⟩

theorem identity_at (n : Nat) :
    ∃ r, identity n = .ok r ∧ r.shape = [n, n] ∧ r.WF ∧
      ∀ i j, i < n → j < n → r.get? [i, j] = some (if j = i then 1 else 0) := by
  rw [(identity_eq_eye n).2]
  simpa using eye_at n (some n) (some 0)

/-- **tri**: ones on and below the k-th diagonal (`col ≤ row + k`), zeros above, for every integer offset
(the code's `saturating_add` agrees with exact addition whenever the column count fits `isize`) -/
theorem tri_at (n : Nat) (m : Option Nat) (k : Option Int) (hm : ((m.getD n : Nat) : Int) ≤ isizeMax) :
    ∃ r, tri n m k = .ok r ∧ r.shape = [n, m.getD n] ∧ r.WF ∧
      ∀ i j, i < n → j < m.getD n →
        r.get? [i, j] = some (if (j : Int) ≤ (i : Int) + k.getD 0 then 1 else 0) := by
  refine ⟨_, Arr.new_of_prod (by rw [length_flatMap_uniform]; simp), rfl,
    by rw [Arr.WF, length_flatMap_uniform]; simp, ?_⟩
  intro i j hi hj
  have hs := (satAdd_cmp (j : Int) (i : Int) (k.getD 0) (by omega) (by omega)).1
  simp only [Arr.get?, ravel_mat]
  rw [getElem?_flatMap_uniform (m.getD n) _ _ i j hj]
  simp [hi, hs]

/-! ### triangular masks -/

/-- **tril**, every rank ≥ 2 (a stack of `r × m` matrices): the entry at `[…, i, j]` is kept iff `j ≤ i + k`,
otherwise it is zero; shape unchanged. -/
theorem tril_at (a : Arr Int) (k : Option Int) (pre cp : List Nat) (r m i j : Nat)
    (hwf : a.WF) (hs : a.shape = pre ++ [r, m]) (hm : (m : Int) ≤ isizeMax)
    (hc : inRange a.shape (cp ++ [i, j]) = true) :
    ∃ t, tril a k = .ok t ∧ t.shape = a.shape ∧ t.WF ∧
      t.get? (cp ++ [i, j]) = if (j : Int) ≤ (i : Int) + k.getD 0 then a.get? (cp ++ [i, j]) else some 0 := by
  obtain ⟨t, ht, hsh, hwf', hjm, hget⟩ :=
    applyTriangular_at a (k.getD 0) (fun j i k => decide (j > satAdd i k)) pre cp r m i j hwf hs hc
  have hsat := (satAdd_cmp (j : Int) (i : Int) (k.getD 0) (by omega) (by omega)).2.1
  refine ⟨t, ht, hsh, hwf', ?_⟩
  simp only [hget, decide_eq_true_eq, hsat, gt_iff_lt, ← Int.not_le, ite_not]

/-- **triu**: kept iff `j ≥ i + k`, otherwise zero. -/
theorem triu_at (a : Arr Int) (k : Option Int) (pre cp : List Nat) (r m i j : Nat)
    (hwf : a.WF) (hs : a.shape = pre ++ [r, m]) (hm : (m : Int) ≤ isizeMax)
    (hc : inRange a.shape (cp ++ [i, j]) = true) :
    ∃ t, triu a k = .ok t ∧ t.shape = a.shape ∧ t.WF ∧
      t.get? (cp ++ [i, j]) = if (i : Int) + k.getD 0 ≤ (j : Int) then a.get? (cp ++ [i, j]) else some 0 := by
  obtain ⟨t, ht, hsh, hwf', hjm, hget⟩ :=
    applyTriangular_at a (k.getD 0) (fun j i k => decide (j < satAdd i k)) pre cp r m i j hwf hs hc
  have hsat := (satAdd_cmp (j : Int) (i : Int) (k.getD 0) (by omega) (by omega)).2.2
  refine ⟨t, ht, hsh, hwf', ?_⟩
  simp only [hget, decide_eq_true_eq, hsat, ← Int.not_le, ite_not]

/-- **lower(k) + upper(k+1) reassemble the input** (elementwise sum over the whole element list), and both
results are well-formed arrays of the input's shape.  Holds for empty matrices too (zero-length sides). -/
theorem tril_add_triu (a : Arr Int) (k : Int) (pre : List Nat) (r m : Nat)
    (hwf : a.WF) (hs : a.shape = pre ++ [r, m]) (hm : (m : Int) ≤ isizeMax) :
    ∃ l u, tril a (some k) = .ok l ∧ triu a (some (k + 1)) = .ok u ∧
      l.shape = a.shape ∧ u.shape = a.shape ∧ l.WF ∧ u.WF ∧
      List.zipWith (· + ·) l.elems u.elems = a.elems := by
  refine ⟨_, _, applyTriangular_eq a _ _ pre r m hwf hs, applyTriangular_eq a _ _ pre r m hwf hs, rfl, rfl,
    List.length_mapIdx.trans hwf, List.length_mapIdx.trans hwf, ?_⟩
  apply List.ext_getElem (by simp)
  intro idx h1 h2
  have hjm : idx % m < m := Nat.mod_lt _ (Nat.pos_of_mul_pos_left (stack_pos a pre r m hwf hs h2))
  rw [List.getElem_zipWith, List.getElem_mapIdx, List.getElem_mapIdx]
  exact maskAt_lower_add_upper r m k idx _ hm hjm

/-- **exactly one of the two keeps each entry**: at every coordinate, either the lower part holds the input's
entry and the upper part holds zero (`j ≤ i + k`), or the other way round (`j > i + k`). -/
theorem tril_triu_partition (a : Arr Int) (k : Int) (pre cp : List Nat) (r m i j : Nat)
    (hwf : a.WF) (hs : a.shape = pre ++ [r, m]) (hm : (m : Int) ≤ isizeMax)
    (hc : inRange a.shape (cp ++ [i, j]) = true) :
    ∃ l u, tril a (some k) = .ok l ∧ triu a (some (k + 1)) = .ok u ∧
      (((j : Int) ≤ (i : Int) + k ∧ l.get? (cp ++ [i, j]) = a.get? (cp ++ [i, j]) ∧ u.get? (cp ++ [i, j]) = some 0) ∨
       ((j : Int) > (i : Int) + k ∧ l.get? (cp ++ [i, j]) = some 0 ∧ u.get? (cp ++ [i, j]) = a.get? (cp ++ [i, j]))) := by
  obtain ⟨l, hl, _, _, hl4⟩ := tril_at a (some k) pre cp r m i j hwf hs hm hc
  obtain ⟨u, hu, _, _, hu4⟩ := triu_at a (some (k + 1)) pre cp r m i j hwf hs hm hc
  refine ⟨l, u, hl, hu, ?_⟩
  simp only [Option.getD_some] at hl4 hu4
  by_cases h : (j : Int) ≤ (i : Int) + k
  · left
    have : ¬ ((i : Int) + (k + 1) ≤ (j : Int)) := by omega
    exact ⟨h, by rw [hl4, if_pos h], by rw [hu4, if_neg this]⟩
  · right
    have : (i : Int) + (k + 1) ≤ (j : Int) := by omega
    exact ⟨by omega, by rw [hl4, if_neg h], by rw [hu4, if_pos this]⟩

/-- ranks 0 and 1 have no diagonal: both masks refuse with an error value (never a panic) -/
theorem tril_triu_rank_lt_two (a : Arr Int) (k : Option Int) (h : a.shape.length < 2) :
    tril a k = .err .UnsupportedDimension ∧ triu a k = .err .UnsupportedDimension := by
  unfold tril triu applyTriangular
  simp [h]

/-- neither mask ever panics, whatever the array -/
theorem tril_triu_never_panic (a : Arr Int) (k : Option Int) : tril a k ≠ .panic ∧ triu a k ≠ .panic := by
  have key : ∀ cmp, applyTriangular a (k.getD 0) cmp ≠ .panic := by
    intro cmp
    unfold applyTriangular
    split
    · exact nofun
    · simp only [chunks]
      rw [if_neg (by omega)]
      exact Arr.new_ne_panic _ _
  exact ⟨key _, key _⟩

/-! ### diag / diagflat -/

/-- **vector → matrix**: side `len + |k|`, the vector on the k-th diagonal (`col = row + k`), zero elsewhere -/
theorem diag_vector_at (v : List Int) (k : Int)
    (hb : (v.length + k.natAbs) * (v.length + k.natAbs) ≤ usizeMax) :
    ∃ d, diag (Arr.flat v) (some k) = .ok d ∧ d.shape = [v.length + k.natAbs, v.length + k.natAbs] ∧ d.WF ∧
      ∀ i j, i < v.length + k.natAbs → j < v.length + k.natAbs →
        d.get? [i, j] = some (if (j : Int) = (i : Int) + k then v.getD (min i j) 0 else 0) := by
  refine ⟨_, (diag_vector _ _ rfl).trans (diag1d_eq v k _ rfl hb), rfl, by simp [Arr.WF], ?_⟩
  intro i j hi hj
  obtain ⟨h1, h2⟩ := mul_add_divmod i j _ hj
  rw [get_rangeMap _ _ _ i j hi hj, h1, h2]

/-- a result whose element count `(len + |k|)²` does not fit `usize` is refused with an error value (no panic) -/
theorem diag_vector_too_large (v : List Int) (k : Int)
    (hb : (v.length + k.natAbs) * (v.length + k.natAbs) > usizeMax) :
    diag (Arr.flat v) (some k) = .err .OutOfBounds :=
  (diag_vector _ _ rfl).trans (diag1d_too_large v k hb)

/-- **matrix → vector**: the k-th diagonal of an `r × c` matrix, entry `t` read at `[(-k)⁺ + t, k⁺ + t]`,
as long as the diagonal is (`min (r - (-k)⁺) (c - k⁺)` entries; empty when the offset is beyond the matrix) -/
theorem diag_matrix_at (a : Arr Int) (r c : Nat) (k : Int) (hwf : a.WF) (hs : a.shape = [r, c]) :
    ∃ d, diag a (some k) = .ok d ∧ d.shape = [d.elems.length] ∧
      d.elems.length = min (r - (-k).toNat) (c - k.toNat) ∧
      ∀ t, t < d.elems.length → d.elems[t]? = a.get? [(-k).toNat + t, k.toNat + t] := by
  refine ⟨_, (diag_matrix a _ (by rw [Arr.ndim, hs]; rfl)).trans (diag2d_eq a r c k hwf hs), by simp [Arr.flat],
    by simp [Arr.flat, diagPairs_length], ?_⟩
  intro t ht
  simp only [Arr.flat, List.length_map] at ht
  have hp := diagPairs_getElem r c _ _ t ht
  have hm := diagPairs_mem r c _ _ _ (List.getElem_mem ht)
  rw [hp] at hm
  have hlt : ((-k).toNat + t) * c + (k.toNat + t) < a.elems.length := by
    rw [hwf, hs, prod_pair]; exact mul_add_lt hm.1 hm.2
  simp only [Arr.flat, Arr.get?, hs, ravel_mat, List.getElem?_map, List.getElem?_eq_getElem ht, hp, Option.map_some,
    List.getD_eq_getElem?_getD, List.getElem?_eq_getElem hlt, Option.getD_some]

/-- **building a diagonal matrix from a vector and extracting that diagonal are inverse**, every vector, every offset -/
theorem diag_diag (v : List Int) (k : Int)
    (hb : (v.length + k.natAbs) * (v.length + k.natAbs) ≤ usizeMax) :
    ∃ d, diag (Arr.flat v) (some k) = .ok d ∧ diag d (some k) = .ok (Arr.flat v) := by
  obtain ⟨d, hd, hshape, hwf, hat⟩ := diag_vector_at v k hb
  obtain ⟨e, he, heshape, helen, heat⟩ := diag_matrix_at d _ _ k hwf hshape
  refine ⟨d, hd, ?_⟩
  clear hb -- it mentions `|k|`, on which `omega` splits
  -- the diagonal starts at `[s₁, s₂]`
  have hk := diag_start k
  generalize (-k).toNat = s₁ at helen heat hk
  generalize k.toNat = s₂ at helen heat hk
  rw [hk.2.2] at helen hat
  rw [diag_len _ _ _ hk.2.1] at helen
  have hel : e.elems = v := by
    apply List.ext_getElem helen
    intro t ht ht'
    have h1 : ((s₂ + t : Nat) : Int) = ((s₁ + t : Nat) : Int) + k := by omega
    have := heat t ht
    rw [hat _ _ (by omega) (by omega), if_pos h1, Nat.add_min_add_right, hk.2.1, Nat.zero_add,
      List.getElem?_eq_getElem ht, List.getD_eq_getElem?_getD, List.getElem?_eq_getElem ht', Option.getD_some] at this
    exact Option.some.inj this
  obtain ⟨elems, shape⟩ := e
  dsimp only at hel heshape
  subst hel heshape
  exact he

/-- **diagflat = diag ∘ ravel**: for an array of any rank the result holds its elements, in row-major order,
on the k-th diagonal of a square matrix of side `len + |k|` -/
theorem diagflat_at (a : Arr Int) (k : Int)
    (hb : (a.elems.length + k.natAbs) * (a.elems.length + k.natAbs) ≤ usizeMax) :
    diagflat a (some k) = diag (Arr.flat a.elems) (some k) ∧
    ∃ d, diagflat a (some k) = .ok d ∧ d.shape = [a.elems.length + k.natAbs, a.elems.length + k.natAbs] ∧
      ∀ i j, i < a.elems.length + k.natAbs → j < a.elems.length + k.natAbs →
        d.get? [i, j] = some (if (j : Int) = (i : Int) + k then a.elems.getD (min i j) 0 else 0) := by
  refine ⟨rfl, ?_⟩
  obtain ⟨d, h1, h2, _, h4⟩ := diag_vector_at a.elems k hb
  exact ⟨d, h1, h2, h4⟩

/-- ranks other than 1 and 2 are refused with an error value -/
theorem diag_unsupported (a : Arr Int) (k : Option Int) (h : a.ndim ≠ 1 ∧ a.ndim ≠ 2) :
    diag a k = .err .UnsupportedDimension := by
  unfold diag
  rw [if_pos (by omega)]

/-! ### vander -/

/-- **power matrix**: row `i`, column `j` holds `xᵢ ^ (n-1-j)` (decreasing, the default) or `xᵢ ^ j` (increasing) -/
theorem vander_at (v : List Int) (n : Option Nat) (increasing : Option Bool) :
    ∃ r, vander (Arr.flat v) n increasing = .ok r ∧ r.shape = [v.length, n.getD v.length] ∧ r.WF ∧
      ∀ i j, i < v.length → j < n.getD v.length →
        r.get? [i, j] = some (v.getD i 0 ^ (if increasing.getD false then j else n.getD v.length - j - 1)) := by
  refine ⟨⟨v.flatMap fun item => (List.range (n.getD v.length)).map fun i =>
      item ^ (if increasing.getD false then i else n.getD v.length - i - 1), [v.length, n.getD v.length]⟩,
    ?_, rfl, by simp only [Arr.WF]; rw [length_flatMap_uniform]; simp, ?_⟩
  · unfold vander
    simp only [Arr.flat, Arr.ndim, List.length_cons, List.length_nil, Res.idx, List.getElem?_cons_zero]
    simp only [ne_eq, not_true_eq_false, if_false]
    exact Arr.new_of_prod (by rw [length_flatMap_uniform]; simp)
  · intro i j hi hj
    simp only [Arr.get?, ravel_mat]
    rw [getElem?_flatMap_uniform (n.getD v.length) _ _ i j hj]
    simp [List.getD_eq_getElem?_getD, hi]

/-! ### ranges -/

/-- **arange**, step ≥ 1 (in particular every positive whole-number step): the terms are `start + i·step`, and
none passes the stop.  (The count is `⌊(stop + 1 − start)/step⌋`, clipped at 0; it is *not* always the largest
count with that property — `arange 0 4 2 = [0, 2]` — and the statement does not ask for that.) -/
theorem arange_spec (start stop step : Rat) (hstep : 1 ≤ step) :
    ∃ r, arange start stop (some step) = .ok r ∧
      r.shape = [r.elems.length] ∧ r.elems.length = ((stop + 1 - start) / step).floor.toNat ∧
      ∀ i, i < r.elems.length → r.elems[i]? = some (start + (i : Rat) * step) ∧ start + (i : Rat) * step ≤ stop := by
  have hne : step ≠ 0 := by grind
  refine ⟨Arr.flat (arangeLoop step ((stop + 1 - start) / step).floor.toNat start), ?_, rfl,
    by simp [Arr.flat, arangeLoop_length], ?_⟩
  · unfold arange
    simp only [Option.getD_some]
    rw [if_neg hne]
  · intro i hi
    simp only [Arr.flat, arangeLoop_length] at hi
    exact ⟨arangeLoop_getElem? step _ start i hi, arange_bound start stop step hstep i hi⟩

theorem arange_default_step (start stop : Rat) : arange start stop none = arange start stop (some 1) := rfl

/-- a zero step is refused with an error value (no panic, no array) -/
theorem arange_zero_step_refused (start stop : Rat) : arange start stop (some 0) = .err .ParameterError := by
  unfold arange; simp

/-! ### evenly spaced -/

/-- `linspace` never fails; closed form of its result -/
theorem linspace_ok (start stop : Rat) (n : Nat) (e : Bool) :
    linspace start stop (some n) (some e) = .ok (Arr.flat ((List.range n).map fun i =>
      if e = true ∧ i = n - 1 then stop
      else (i : Rat) * ((stop - start) / ((n - (if e then 1 else 0) : Nat) : Rat)) + start)) := by
  unfold linspace
  simp only [Option.getD_some]

/-- **count**: the requested number of points, as a 1-D array -/
theorem linspace_len (start stop : Rat) (n : Nat) (e : Bool) (r : Arr Rat)
    (h : linspace start stop (some n) (some e) = .ok r) : r.shape = [n] ∧ r.elems.length = n := by
  rw [linspace_ok start stop n e] at h
  cases h
  simp [Arr.flat]

/-- **zero points**: the empty 1-D array, with either endpoint setting (no underflow, no panic) -/
theorem linspace_zero (start stop : Rat) (e : Option Bool) :
    linspace start stop (some 0) e = .ok (Arr.flat []) := by
  unfold linspace; simp

/-- **two or more points begin at the start value** -/
theorem linspace_first (start stop : Rat) (n : Nat) (e : Bool) (hn : 2 ≤ n) (r : Arr Rat)
    (h : linspace start stop (some n) (some e) = .ok r) : r.elems[0]? = some start := by
  rw [linspace_ok start stop n e] at h
  cases h
  have : ¬ (0 = n - 1) := by omega
  simp [Arr.flat, this, Rat.zero_mul, Rat.zero_add, show 0 < n by omega]

/-- **and end at the stop value when the endpoint is requested** -/
theorem linspace_last (start stop : Rat) (n : Nat) (hn : 1 ≤ n) (r : Arr Rat)
    (h : linspace start stop (some n) (some true) = .ok r) : r.elems[n - 1]? = some stop := by
  rw [linspace_ok start stop n true] at h
  cases h
  simp [Arr.flat, show n - 1 < n by omega]

/-- **constant difference** `(stop − start)/(n − 1)` with the endpoint, `(stop − start)/n` without, between every two
consecutive points (including the last pair, whose second member is the stop value itself) — exact arithmetic -/
theorem linspace_step (start stop : Rat) (n : Nat) (e : Bool) (hn : 2 ≤ n) (r : Arr Rat)
    (h : linspace start stop (some n) (some e) = .ok r) (i : Nat) (hi : i + 1 < n) :
    ∃ x y, r.elems[i]? = some x ∧ r.elems[i + 1]? = some y ∧
      y - x = (stop - start) / ((n - (if e then 1 else 0) : Nat) : Rat) := by
  rw [linspace_ok start stop n e] at h
  cases h
  have hc : ((i + 1 : Nat) : Rat) = (i : Rat) + 1 := by simp
  refine spaced_pair n e stop _ (fun x y => y - x = _) i hi ?_ ?_
  · rw [hc]; exact step_diff _ _ _
  · -- the last pair: stop − ((n−2)·step + start) = step  since (n−1)·step = stop − start
    rintro rfl hl
    rw [if_pos rfl, ← hl, hc]
    exact last_diff _ _ _ (natCast_succ_ne_zero i)

/-! ### geometrically spaced (abstract power domain) -/

/-- the laws of multiplication, division and real powers on the positive reals that the theorems use -/
structure PowLaws {R : Type} (P : PowOps R) : Prop where
  mul_assoc : ∀ a b c, P.mul (P.mul a b) c = P.mul a (P.mul b c)
  powf_add : ∀ x p q, P.mul (P.powf x p) (P.powf x q) = P.powf x (p + q)
  powf_powf : ∀ x p q, P.powf (P.powf x p) q = P.powf x (p * q)
  powf_one : ∀ x, P.powf x 1 = x
  mul_powf_zero : ∀ a x, P.mul a (P.powf x 0) = a
  mul_div_cancel : ∀ s t, P.mul s (P.div t s) = t
  div_powf : ∀ b p q, P.div (P.powf b p) (P.powf b q) = P.powf b (p - q)

/-- the laws are satisfiable: logarithmic coordinates (`x ↦ log x`: mul is +, div is −, powf is scaling) -/
def logDomain : PowOps Rat := ⟨(· + ·), (· - ·), (· * ·)⟩

theorem logDomain_laws : PowLaws logDomain :=
  { mul_assoc := Rat.add_assoc
    powf_add := fun x p q => (Rat.mul_add x p q).symm
    powf_powf := Rat.mul_assoc
    powf_one := Rat.mul_one
    mul_powf_zero := fun a x => show a + x * 0 = a by rw [Rat.mul_zero, Rat.add_zero]
    mul_div_cancel := fun s t => show s + (t - s) = t by rw [Rat.add_comm, Rat.sub_add_cancel]
    div_powf := fun b p q => show b * p - b * q = b * (p - q) by
      rw [Rat.sub_eq_add_neg, Rat.sub_eq_add_neg, Rat.mul_add, Rat.mul_neg] }

variable {R : Type} (P : PowOps R)

theorem geomspace_ok (isZero : R → Bool) (s t : R) (n : Nat) (e : Bool)
    (hs : isZero s = false) (ht : isZero t = false) :
    geomspace P isZero s t (some n) (some e) = .ok ((List.range n).map fun i =>
      if e = true ∧ i = n - 1 then t
      else P.mul s (P.powf (P.powf (P.div t s) (1 / ((n - (if e then 1 else 0) : Nat) : Rat))) (i : Rat))) := by
  unfold geomspace
  simp only [Option.getD_some, hs, ht, Bool.false_eq_true, if_false]

/-- zero points: the empty sequence (no underflow, no panic) -/
theorem geomspace_zero_points (isZero : R → Bool) (s t : R) (e : Option Bool)
    (hs : isZero s = false) (ht : isZero t = false) :
    geomspace P isZero s t (some 0) e = .ok [] := by
  unfold geomspace; simp [hs, ht]

/-- a zero start or stop is refused with an error value -/
theorem geomspace_zero (isZero : R → Bool) (s t : R) (n : Option Nat) (e : Option Bool)
    (h : isZero s = true ∨ isZero t = true) : geomspace P isZero s t n e = .err .ParameterError := by
  unfold geomspace
  rcases h with h | h
  · simp [h]
  · cases hs : isZero s <;> simp [h]

/-- **count, first, last, constant ratio** of a geometric sequence of two or more points: consecutive terms differ by
the factor `ratio = (stop/start)^(1/(n−1))` (endpoint) or `(stop/start)^(1/n)` (no endpoint), the sequence begins at
`start` and, with the endpoint, ends at `stop` — which is itself `previous · ratio`. -/
theorem geomspace_spec (L : PowLaws P) (isZero : R → Bool) (s t : R) (n : Nat) (e : Bool) (hn : 2 ≤ n) (r : List R)
    (h : geomspace P isZero s t (some n) (some e) = .ok r) :
    r.length = n ∧ r[0]? = some s ∧ (e = true → r[n - 1]? = some t) ∧
    ∀ i, i + 1 < n → ∃ x y, r[i]? = some x ∧ r[i + 1]? = some y ∧
      y = P.mul x (P.powf (P.div t s) (1 / ((n - (if e then 1 else 0) : Nat) : Rat))) := by
  have hs : isZero s = false := by
    cases hz : isZero s
    · rfl
    · rw [geomspace_zero P isZero s t _ _ (Or.inl hz)] at h; cases h
  have ht : isZero t = false := by
    cases hz : isZero t
    · rfl
    · rw [geomspace_zero P isZero s t _ _ (Or.inr hz)] at h; cases h
  rw [geomspace_ok P isZero s t n e hs ht] at h
  cases h
  refine ⟨by simp, ?_, ?_, ?_⟩
  · have : ¬ (0 = n - 1) := by omega
    simp [this, show 0 < n by omega, L.mul_powf_zero]
  · intro he
    simp [he, show n - 1 < n by omega]
  · intro i hi
    have hc : ((i + 1 : Nat) : Rat) = (i : Rat) + 1 := by simp
    -- x · ratio = start · ratio^(i+1)
    have step : ∀ ratio : R, P.mul (P.mul s (P.powf ratio (i : Rat))) ratio = P.mul s (P.powf ratio ((i : Rat) + 1)) := by
      intro ratio
      rw [L.mul_assoc, ← L.powf_add, L.powf_one]
    refine spaced_pair n e t _ (fun x y => y = P.mul x _) i hi ?_ ?_
    · rw [step, hc]
    · -- the last pair: stop = start · ratio^(n−1) = start · (stop/start)
      rintro rfl hl
      rw [step, if_pos rfl, ← hl, hc, L.powf_powf, Rat.div_mul_cancel (natCast_succ_ne_zero i), L.powf_one,
        L.mul_div_cancel]

/-- **the logarithmic form is the base raised to evenly spaced exponents**: whenever both succeed,
`logspace base start stop n e = (linspace start stop n e).map (base ^ ·)`, element for element — every count,
both endpoint settings, defaults included. -/
theorem logspace_eq_base_pow_linspace (L : PowLaws P) (base : R) (start stop : Rat) (n : Option Nat) (e : Option Bool)
    (r : List R) (l : Arr Rat)
    (hr : logspace P base start stop n e = .ok r) (hl : linspace start stop n e = .ok l) :
    r = l.elems.map (P.powf base) := by
  unfold logspace at hr
  unfold linspace at hl
  simp only at hr hl
  cases hr
  cases hl
  simp only [Arr.flat, List.map_map]
  apply List.map_congr_left
  intro i _
  simp only [Function.comp]
  split
  · rfl
  · rw [L.div_powf, L.powf_powf, L.powf_powf, L.powf_add]
    exact congrArg _ (exponent_eq ..)

/-- `logspace` and `linspace` never fail (in particular not for zero points), and have the requested count -/
theorem logspace_linspace_total (base : R) (start stop : Rat) (n : Option Nat) (e : Option Bool) :
    (∃ r, logspace P base start stop n e = .ok r ∧ r.length = n.getD 50) ∧
    (∃ l, linspace start stop n e = .ok l ∧ l.elems.length = n.getD 50) := by
  unfold logspace linspace
  exact ⟨⟨_, rfl, by simp⟩, ⟨_, rfl, by simp [Arr.flat]⟩⟩

/-! ### the `array_*!` macros -/

/-- `array_eye!(T, n)`, `array_eye!(T, n, m)`, `array_eye!(T, n, m, k)`: the `eye` predicate with the macro's defaults -/
theorem macro_eye_at (n : Nat) (m k : Option Nat) :
    ∃ r, macroEye n m k = .ok r ∧ r.shape = [n, m.getD n] ∧
      ∀ i j, i < n → j < m.getD n → r.get? [i, j] = some (if j = i + k.getD 0 then 1 else 0) := by
  obtain ⟨r, h1, h2, _, h4⟩ := eye_at n (some (m.getD n)) (some (k.getD 0))
  exact ⟨r, h1, h2, h4⟩

/-! ### non-vacuity: concrete instances meeting the hypotheses, evaluated on the very definitions -/

example : eye 2 (some 3) (some 1) = .ok ⟨[0, 1, 0, 0, 0, 1], [2, 3]⟩ := by decide +kernel
example : identity 3 = .ok ⟨[1, 0, 0, 0, 1, 0, 0, 0, 1], [3, 3]⟩ := by decide +kernel
example : tri 3 none (some (-1)) = .ok ⟨[0, 0, 0, 1, 0, 0, 1, 1, 0], [3, 3]⟩ := by decide +kernel
-- a 2 × 3 × 3 stack: `pre = [2]`, `r = m = 3`
example : (⟨(List.range 18).map (fun (i : Nat) => (i : Int) + 1), [2, 3, 3]⟩ : Arr Int).WF ∧
    inRange [2, 3, 3] ([1] ++ [2, 1]) = true := by decide +kernel
example : tril ⟨[1, 2, 3, 4, 5, 6], [2, 3]⟩ (some 0) = .ok ⟨[1, 0, 0, 4, 5, 0], [2, 3]⟩ := by decide +kernel
example : triu ⟨[1, 2, 3, 4, 5, 6], [2, 3]⟩ (some 1) = .ok ⟨[0, 2, 3, 0, 0, 6], [2, 3]⟩ := by decide +kernel
example : tril ⟨[], [0, 3]⟩ none = .ok ⟨[], [0, 3]⟩ := by decide +kernel
-- the size hypotheses (`m ≤ isizeMax`, `(len + |k|)² ≤ usizeMax`) hold for every array that fits in memory
example : ((3 : Nat) : Int) ≤ isizeMax ∧ (3 + (2 : Int).natAbs) * (3 + (2 : Int).natAbs) ≤ usizeMax := by decide +kernel
-- extreme offsets: saturating arithmetic, an error value instead of an impossible allocation
example : tril ⟨[1, 2, 3, 4, 5, 6], [2, 3]⟩ (some 9223372036854775807) = .ok ⟨[1, 2, 3, 4, 5, 6], [2, 3]⟩ := by decide +kernel
example : triu ⟨[1, 2, 3, 4, 5, 6], [2, 3]⟩ (some 9223372036854775807) = .ok ⟨[0, 0, 0, 0, 0, 0], [2, 3]⟩ := by decide +kernel
example : tri 2 none (some (-9223372036854775808)) = .ok ⟨[0, 0, 0, 0], [2, 2]⟩ := by decide +kernel
example : diag (Arr.flat [1]) (some 9223372036854775807) = .err .OutOfBounds := by decide +kernel
example : diag ⟨[1, 2, 3, 4, 5, 6], [2, 3]⟩ (some (-9223372036854775808)) = .ok ⟨[], [0]⟩ := by decide +kernel
example : tril ⟨[1, 2, 3], [3]⟩ none = .err .UnsupportedDimension := by decide +kernel
example : diag (Arr.flat [1, 2, 3]) (some (-1)) = .ok ⟨[0, 0, 0, 0, 1, 0, 0, 0, 0, 2, 0, 0, 0, 0, 3, 0], [4, 4]⟩ := by decide +kernel
example : diag ⟨[1, 2, 3, 4, 5, 6], [2, 3]⟩ (some 1) = .ok ⟨[2, 6], [2]⟩ := by decide +kernel
example : diag ⟨[1, 2, 3, 4, 5, 6], [2, 3]⟩ (some 5) = .ok ⟨[], [0]⟩ := by decide +kernel
example : vander (Arr.flat [2, 3]) (some 3) none = .ok ⟨[4, 2, 1, 9, 3, 1], [2, 3]⟩ := by decide +kernel
example : arange 0 5 none = .ok (Arr.flat [0, 1, 2, 3, 4, 5]) := by decide +kernel
-- not maximal (4 would still be ≤ stop), and the statement does not ask for it
example : arange 0 4 (some 2) = .ok (Arr.flat [0, 2]) := by decide +kernel
example : linspace 0 10 (some 5) none = .ok (Arr.flat [0, 5 / 2, 5, 15 / 2, 10]) := by decide +kernel
example : linspace 0 10 (some 5) (some false) = .ok (Arr.flat [0, 2, 4, 6, 8]) := by decide +kernel
example : linspace 0 10 (some 0) (some true) = .ok (Arr.flat []) := by decide +kernel
example : arange 0 5 (some 0) = .err .ParameterError := by decide +kernel
-- in logarithmic coordinates `geomspace` is `linspace`: log 1 = 0, log 1000 = 3 (base 10)
example : geomspace logDomain (fun _ => false) 0 3 (some 4) none = .ok [0, 1, 2, 3] := by decide +kernel
example : logspace logDomain 1 0 3 (some 4) none = .ok [0, 1, 2, 3] := by decide +kernel

end ArrModel.C16
