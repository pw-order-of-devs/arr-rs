import ArrProofs.Lemmas.C09
import ArrProofs.Lemmas.C09Total
import ArrProofs.Lemmas.C09Insert
import ArrProofs.Props.C07
import ArrProofs.Props.C08
import ArrProofs.Props.C10
import ArrProofs.Props.C11
import ArrProofs.Props.C13
import ArrProofs.Props.C19
import ArrProofs.Props.C14
import ArrProofs.Props.C15
import ArrModel.IndexExt
/-!
# C09 — failures are error values and flow unchanged through chained calls

Property theorems only (helpers: `Lemmas/C09.lean`, `Lemmas/C09Total.lean`, `Lemmas/C09Insert.lean`).  The sections carry the
letters under which `MANIFEST.json` cites them:

(a) option names — the five parsers are ONE generic function (`ArrModel.C09.parseWith`) instantiated with the rows that
    `tools/gen_tables.py` re-reads from the Rust `match` arms on every run (`ArrModel/Gen/Tables.lean`): every text that is
    not a row of the regenerated table (and, for `NormOrd`, not an `i32` literal) is an error value — for ALL texts and for
    every lower-casing function; every constructor is reachable; the `&str` and `String` impls agree; the hand-written
    parsers of the C10 / C19 models are these table parsers.
(b) `Result` receivers — `liftR op (.err e) = .err e`; every method body of every `impl … for Result<Array<_>, ArrayError>`
    found in the source is the delegation (evaluated over the regenerated table).
(c) the `…_total` / `…_rejects` family over the shared operation models (`Res.panic` models every Rust panic).
(d) `…_total` for the families whose models contain panic arms (apply_along_axis and everything built on it, split,
    flip / roll / rot90, squeeze, delete / insert / repeat / append / concatenate / stack, broadcast): corollaries of the
    totality theorems of the owning properties C07, C08 (`Lemmas/C08Empty.lean`), C10, C11, C13, C19 and of
    `Lemmas/C09Total.lean`.
(e) refusals of operations that the C09 driver runs on the models of other properties: slice, indices_at
    (`ArrModel/IndexExt.lean`), the linalg products (C14), det / qr / solve / norm (C15).
(f) the validators as `tools/rs2lean.py` translates them from the Rust source (`ArrModel/Gen/Core.lean`).
(g) `insert(indices, values, Some(axis))` (`Arr.insertAxis`, `ArrModel/C01Diff.lean`): refusals, the vector arm, totality, and
    the number of insertion points against the rows of the values.
-/
namespace ArrModel.C09
open ArrModel ArrModel.Gen.Tables

/-! ## (a) option names -/

/-- the regenerated `ArrayError` variant list is the model's `Err`, name by name and in order -/
theorem error_variants_match : errorVariants.map Prod.fst = Err.all.map Err.nameChars := by decide +kernel

/-- every model variant is recovered from its regenerated name -/
theorem error_name_roundtrip : ∀ e ∈ Err.all, Err.ofChars? e.nameChars = some e := by decide +kernel

/-- the `_` arm of every parser (both impls) is `ArrayError::ParameterError` -/
theorem fall_known : ∀ p ∈ optionParsers,
    Err.ofChars? p.fallStr = some .ParameterError ∧ Err.ofChars? p.fallString = some .ParameterError := by decide +kernel

/-- **the `&str` and the `String` impl of every parser are the same function** -/
theorem str_string_agree (lc : List Char → List Char) : ∀ p ∈ optionParsers, ∀ s, parseString lc p s = parseStr lc p s := by
  have h : ∀ p ∈ optionParsers, p.rowsString = p.rowsStr ∧ p.lowerString = p.lowerStr ∧
      p.intFallbackString = p.intFallbackStr ∧ p.fallString = p.fallStr := by decide +kernel
  intro p hp s
  obtain ⟨h1, h2, h3, h4⟩ := h p hp
  unfold parseString parseStr; rw [h1, h2, h3, h4]

/-- **unknown option name ⇒ error value** — for every parser of the source, EVERY text whose (possibly lower-cased) form
is not a row of the regenerated table and which is not an accepted integer literal, and every lower-casing function -/
theorem unknown_option_rejected (lc : List Char → List Char) (p : OptionParser) (hp : p ∈ optionParsers) (s : List Char)
    (hrow : ∀ r ∈ p.rowsStr, r.1 ≠ (if p.lowerStr then lc s else s))
    (hint : p.intFallbackStr = none ∨ parseI32 s = none) :
    parseStr lc p s = .err .ParameterError ∧ parseString lc p s = .err .ParameterError := by
  have hs : parseStr lc p s = .err .ParameterError := by
    unfold parseStr parseWith
    rw [(lookup_none_iff _ _).2 hrow]
    have hf := errOf_known (β := Parsed) p.fallStr _ (fall_known p hp).1
    rcases hint with h | h
    · rw [h]; exact hf
    · cases p.intFallbackStr with
      | none => exact hf
      | some k => simp only [h]; exact hf
  exact ⟨hs, by rw [str_string_agree lc p hp s]; exact hs⟩

/-- a parser never panics and never invents a constructor: `ok` answers come from a table row or the integer fall-back -/
theorem parse_total (lc : List Char → List Char) (p : OptionParser) (hp : p ∈ optionParsers) (s : List Char) :
    parseStr lc p s ≠ .panic ∧
    (∀ i, parseStr lc p s = .ok (.ctor i) → ((if p.lowerStr then lc s else s), i) ∈ p.rowsStr) ∧
    (∀ i v, parseStr lc p s = .ok (.int i v) → p.intFallbackStr = some i ∧ parseI32 s = some v) := by
  have hf := errOf_known (β := Parsed) p.fallStr _ (fall_known p hp).1
  unfold parseStr parseWith
  cases hl : lookup p.rowsStr (if p.lowerStr then lc s else s) with
  | some i =>
    refine ⟨nofun, fun j hj => ?_, nofun⟩
    cases hj
    exact lookup_some_mem _ _ _ hl
  | none =>
    cases hi : p.intFallbackStr with
    | none => rw [hf]; exact ⟨nofun, nofun, nofun⟩
    | some k =>
      cases hv : parseI32 s with
      | none => rw [hf]; exact ⟨nofun, nofun, nofun⟩
      | some v => exact ⟨nofun, nofun, fun i w h => by cases h; exact ⟨rfl, rfl⟩⟩

/-- a known spelling is accepted with the constructor of its (first) row -/
theorem known_option_accepted (lc : List Char → List Char) (p : OptionParser) (s : List Char) (i : Nat)
    (h : lookup p.rowsStr (if p.lowerStr then lc s else s) = some i) : parseStr lc p s = .ok (.ctor i) := by
  unfold parseStr parseWith; rw [h]

/-- **every constructor of every option enum is reachable by some text** (under ASCII lower-casing): a table spelling for
the payload-free ones, the literal `7` for `NormOrd::Int` -/
theorem every_constructor_reachable : ∀ p ∈ optionParsers, ∀ i ∈ List.range p.ctors.length,
    (p.rowsStr.map Prod.fst ++ [['7']]).any (fun s =>
      match parseStr lowerAscii p s with
      | .ok (.ctor j) => j == i
      | .ok (.int j _) => j == i
      | _ => false) = true := by decide +kernel

/-- case folding: the four parsers that lower-case accept every capitalisation of their spellings, the two exact ones
(`BitOrder`, `ConvolveMode`) do not -/
theorem case_folding :
    parseStr lowerAscii sortKind "STABLE".toList = .ok (.ctor 3) ∧ parseStr lowerAscii compareOp "Not_Equals".toList = .ok (.ctor 1) ∧
    parseStr lowerAscii normOrd "-INF".toList = .ok (.ctor 2) ∧ parseStr lowerAscii normOrd "-12".toList = .ok (.int 0 (-12)) ∧
    parseStr lowerAscii bitOrder "BIG".toList = .err .ParameterError ∧ parseStr lowerAscii convolveMode "Full".toList = .err .ParameterError ∧
    parseStr lowerAscii sortKind "Quick sort".toList = .err .ParameterError ∧ parseStr lowerAscii sortKind [] = .err .ParameterError ∧
    parseStr lowerAscii sortKind "STABLE ".toList = .err .ParameterError ∧ parseStr lowerAscii bitOrder "bigg".toList = .err .ParameterError := by
  decide +kernel

/-- `i32::from_str` model: sign handling and the range limits -/
theorem parseI32_limits :
    parseI32 "2147483647".toList = some 2147483647 ∧ parseI32 "2147483648".toList = none ∧
    parseI32 "-2147483648".toList = some (-2147483648) ∧ parseI32 "-2147483649".toList = none ∧
    parseI32 "+3".toList = some 3 ∧ parseI32 "".toList = none ∧ parseI32 "-".toList = none ∧ parseI32 "+".toList = none ∧
    parseI32 "1.5".toList = none ∧ parseI32 " 1".toList = none ∧ parseI32 "007".toList = some 7 := by decide +kernel

/-- the hand-written selector parser of the sorting model (C10) IS the table parser of `parse_kind` -/
theorem sortKind_bridge (s : List Char) :
    Sort.parseKindLower s =
      (match lookup sortKind.rowsStr s with
       | some 0 => .ok .Quicksort | some 1 => .ok .Mergesort | some 2 => .ok .Heapsort | some 3 => .ok .Stable
       | _ => .err .ParameterError) := by
  unfold Sort.parseKindLower sortKind
  dsimp only
  rw [lookup_cons]
  split
  · rfl
  rw [lookup_cons]
  split
  · rfl
  rw [lookup_cons]
  split
  · rfl
  rw [lookup_cons]
  split <;> rfl

/-- the hand-written bit-order parser of the bit-packing model (C19) IS the table parser of `to_bit_order` -/
theorem bitOrder_bridge (s : List Char) :
    C19.toBitOrder (.text s) =
      (match lookup bitOrder.rowsStr s with
       | some 0 => .ok .big | some 1 => .ok .little | _ => .err .ParameterError) := by
  unfold C19.toBitOrder bitOrder
  dsimp only
  rw [lookup_cons]
  split
  · rfl
  rw [lookup_cons]
  split <;> rfl

/-! ## (b) `Result` receivers -/

/-- **an error receiver is returned unchanged**; the operation is not evaluated (it does not occur on the right) -/
theorem lift_err {α β} (op : α → Res β) (e : Err) : liftR op (.err e) = .err e := rfl

theorem lift_ok {α β} (op : α → Res β) (a : α) : liftR op (.ok a) = op a := rfl

/-- lifting adds no panic of its own -/
theorem lift_no_new_panic {α β} (op : α → Res β) (r : Res α) (hr : r ≠ .panic) (hop : ∀ a, op a ≠ .panic) :
    liftR op r ≠ .panic := by
  cases r with
  | ok a => exact hop a
  | err e => exact nofun
  | panic => exact absurd rfl hr

/-- chains: an error produced at any step is the result of the whole chain -/
theorem lift_chain {α β γ} (f : α → Res β) (g : β → Res γ) (a : α) (e : Err) (h : f a = .err e) :
    liftR g (liftR f (.ok a)) = .err e := by
  simp only [liftR, h]

/-- in any effect monad: on an error receiver NO effect of the operation happens (closures passed as arguments are not
called, nothing is allocated); stated in the state monad with an arbitrary observable state -/
theorem lift_err_no_effect {σ α β} (op : α → StateM σ (Res β)) (e : Err) (s : σ) :
    (liftRM op (.err e)).run s = (.err e, s) := rfl

/-- **every method body of every `impl Trait for Result<Array<_>, ArrayError>` in the source is the delegation**
`self.clone()?.m(args…)` (or its UFCS / receiver-less forwarding form) -/
theorem all_result_impls_delegate : ∀ m ∈ resultImpls, m.isDelegation = true := by decide +kernel

/-- each of those methods is a method of the public trait inventory (the same trait, the same name, the same receiver kind) -/
theorem result_impls_in_inventory : ∀ m ∈ resultImpls,
    traitMethods.any (fun t => t.trait == m.trait && t.name == m.name && t.receiver == m.receiver) = true := by
  -- with the lengths of the names compared first, the texts are compared only for names of equal length
  have h : ∀ m ∈ resultImpls, traitMethods.any (fun t => Nat.beq t.name.length m.name.length &&
      (t.trait == m.trait && t.name == m.name && t.receiver == m.receiver)) = true := by decide +kernel
  intro m hm
  have ⟨t, ht, hcp⟩ := List.any_eq_true.1 (h m hm)
  exact List.any_eq_true.2 ⟨t, ht, (Bool.and_eq_true_iff.1 hcp).2⟩

/-! ## (c) totality and refusal of the shared operation models -/

section ops
variable {α β : Type}

/-! ### coordinates and positions -/

theorem indexAt_total (a : Arr α) (c : List Nat) : a.indexAt c ≠ .panic := indexAt_ne_panic a c

/-- wrong length or any coordinate out of range -/
theorem indexAt_rejects (a : Arr α) (c : List Nat) (h : inRange a.shape c = false) : ∃ e, a.indexAt c = .err e :=
  ⟨_, (indexAt_err_iff' a c).2 h⟩

theorem at_rejects (a : Arr α) (c : List Nat) (h : inRange a.shape c = false) : ∃ e, a.atc c = .err e :=
  ⟨_, atc_err' a c h⟩

theorem at_total (a : Arr α) (hwf : a.WF) (c : List Nat) : a.atc c ≠ .panic := atc_ne_panic a hwf c

theorem indexToCoord_rejects (a : Arr α) (i : Nat) (h : a.len ≤ i) : ∃ e, a.indexToCoord i = .err e :=
  ⟨_, indexToCoord_err' a i h⟩

theorem indexToCoord_total (a : Arr α) (i : Nat) : a.indexToCoord i ≠ .panic :=
  Res.ite_ne_panic (fun _ => nofun) fun _ => nofun

/-! ### shapes that do not fit -/

theorem new_rejects (es : List α) (sh : List Nat) (h : sh.prod ≠ es.length) : ∃ e, Arr.new es sh = .err e :=
  ⟨_, Arr.new_of_not_prod h⟩

theorem new_total (es : List α) (sh : List Nat) : Arr.new es sh ≠ .panic := Arr.new_ne_panic es sh

theorem reshape_rejects (a : Arr α) (sh : List Nat) (h : sh.prod ≠ a.elems.length) : ∃ e, a.reshape sh = .err e :=
  ⟨_, C07.reshape_err a sh h⟩

theorem reshape_total (a : Arr α) (sh : List Nat) : a.reshape sh ≠ .panic := Arr.reshape_ne_panic a sh

theorem create_rejects (es : List α) (sh : List Nat) (nd : Option Nat) (h : sh.prod ≠ es.length) :
    ∃ e, Arr.create es sh nd = .err e := by
  unfold Arr.create Arr.new
  simp only [if_neg h]
  split <;> exact ⟨_, rfl⟩

theorem create_total (es : List α) (sh : List Nat) (nd : Option Nat) : Arr.create es sh nd ≠ .panic :=
  create_ne_panic es sh nd

theorem broadcastTo_rejects (a : Arr α) (t : List Nat) (h : isBroadcastable a.shape t = false) :
    ∃ e, a.broadcastTo t = .err e := ⟨_, if_pos (congrArg not h)⟩

theorem broadcast_rejects (a : Arr α) (b : Arr β) (h : isBroadcastable a.shape b.shape = false) :
    ∃ e, a.broadcast b = .err e := ⟨_, if_pos (congrArg not h)⟩

theorem zip_rejects (a : Arr α) (b : Arr β) (h : isBroadcastable b.shape a.shape = false) :
    ∃ e, a.zip b = .err e := by
  obtain ⟨e, he⟩ := broadcastTo_rejects b a.shape h
  exact ⟨e, by unfold Arr.zip; rw [he]; rfl⟩

theorem atleast_rejects (a : Arr α) (n : Nat) (h : 3 < n) : ∃ e, a.atleast n = .err e := ⟨_, C07.atleast_unsupported a n h⟩

/-! ### axis orders -/

/-- wrong length, an axis outside the rank (after `normalize_axis`, so also every too-negative value), or a repetition -/
theorem transpose_rejects (a : Arr α) (zero : α) (axes : List Int)
    (h : axes.length ≠ a.ndim ∨ (∃ i ∈ axes, normalizeAxis a.ndim i ≥ a.ndim) ∨ ¬ (axes.map (normalizeAxis a.ndim)).Nodup) :
    ∃ e, a.transpose zero (some axes) = .err e := by
  refine C06.transpose_rejects a zero (some axes) fun hp => ?_
  obtain ⟨hl, hb, hn⟩ := perm_range_iff.1 hp
  rcases h with h | ⟨i, hi, hge⟩ | h
  · exact h (by rw [← hl, axesOf, List.length_map])
  · exact Nat.not_lt.2 hge (hb _ (List.mem_map_of_mem hi))
  · exact h hn

/-- the four axis-order operations never panic, whatever the array and the arguments -/
theorem axis_orders_total (a : Arr α) (zero : α) (axes : Option (List Int)) (s d : List Int) (x y : Int) (st : Option Int) :
    a.transpose zero axes ≠ .panic ∧ a.moveaxis zero s d ≠ .panic ∧ a.rollaxis zero x st ≠ .panic ∧ a.swapaxes zero x y ≠ .panic :=
  ⟨C06.transpose_never_panics _ _ _, C06.moveaxis_never_panics _ _ _ _,
   Res.ite_ne_panic (fun _ => nofun) fun _ => Res.ite_ne_panic (fun _ => nofun) fun _ => C06.transpose_never_panics _ _ _,
   Res.ite_ne_panic (fun _ => nofun) fun _ => Res.ite_ne_panic (fun _ => nofun) fun _ => C06.transpose_never_panics _ _ _⟩

/-- `moveaxis`: lists of different length, or a source axis outside the rank (the destination is clamped by the code
— an open region of the statement — and is not claimed here) -/
theorem moveaxis_rejects (a : Arr α) (zero : α) (s d : List Int)
    (h : s.length ≠ d.length ∨ ∃ i ∈ s, normalizeAxis a.ndim i ≥ a.ndim) : ∃ e, a.moveaxis zero s d = .err e := by
  rcases h with h | ⟨i, hi, hge⟩
  · exact C06.moveaxis_rejects a zero s d fun hh => h hh.2.1
  · exact C06.moveaxis_rejects_source_range a zero s d ⟨_, List.mem_map_of_mem hi, hge⟩

theorem rollaxis_rejects (a : Arr α) (zero : α) (axis : Int) (start : Option Int)
    (h : normalizeAxis a.ndim axis ≥ a.ndim ∨ Arr.startOf a.ndim start ≥ a.ndim) : ∃ e, a.rollaxis zero axis start = .err e :=
  ⟨_, ite_ite_of_or h⟩

theorem swapaxes_rejects (a : Arr α) (zero : α) (x y : Int)
    (h : normalizeAxis a.ndim x ≥ a.ndim ∨ normalizeAxis a.ndim y ≥ a.ndim) : ∃ e, a.swapaxes zero x y = .err e :=
  ⟨_, ite_ite_of_or h⟩

/-- which axis numbers are "outside the rank": everything not in `-rank .. rank-1` (within `isize`) normalises to `≥ rank` -/
theorem out_of_range_axis_normalises_high (nd : Nat) (ax : Int) (hnd : nd < 2 ^ 63) (hlo : -(2 ^ 63 : Int) ≤ ax)
    (h : ax ≥ nd ∨ ax < -(nd : Int)) : normalizeAxis nd ax ≥ nd :=
  C08.normalize_out_of_range nd ax hnd hlo h

theorem expandDims_rejects (a : Arr α) (axes : List Int)
    (h : ∃ i ∈ axes, a.ndim + axes.length ≤ normalizeAxisDim a.ndim i axes.length) : ∃ e, a.expandDims axes = .err e :=
  ⟨_, C07.expandDims_out_of_range a axes h⟩

theorem expandDims_total (a : Arr α) (axes : List Int) (hwf : a.WF) : a.expandDims axes ≠ .panic := by
  rcases C07.expandDims_total a axes hwf with ⟨r, hr⟩ | h
  · exact Res.ne_panic_of_ok hr
  · exact Res.ne_panic_of_err ⟨_, h⟩

theorem squeeze_rejects (a : Arr α) (axes : List Int) (h : ∃ i ∈ axes, a.ndim ≤ normalizeAxis a.ndim i) :
    ∃ e, a.squeeze (some axes) = .err e := ⟨_, C07.squeeze_out_of_range a axes h⟩

/-! ### `apply_along_axis` and everything built on it: reductions, scans, counts, sort/argsort/unique, pack/unpack, delete -/

theorem applyAlongAxis_rejects (a : Arr α) (zero : α) (zb : β) (axis : Nat) (f : Arr α → Res (Arr β)) (h : axis ≥ a.ndim) :
    ∃ e, a.applyAlongAxis zero zb axis f = .err e := ⟨_, applyAlongAxis_axis_err a zero zb axis f h⟩

/-- an out-of-range axis is refused BEFORE the lane function is looked at: the result does not depend on `f` -/
theorem applyAlongAxis_rejects_unevaluated (a : Arr α) (zero : α) (zb : β) (axis : Nat) (f g : Arr α → Res (Arr β))
    (h : axis ≥ a.ndim) : a.applyAlongAxis zero zb axis f = a.applyAlongAxis zero zb axis g := by
  rw [applyAlongAxis_axis_err a zero zb axis f h, applyAlongAxis_axis_err a zero zb axis g h]

theorem axis_wrappers_reject (a : Arr α) (zero : α) (zb : β) (ax : Int) (h : normalizeAxis a.ndim ax ≥ a.ndim)
    (f1 : Arr α → Res (Arr β)) (kd : Option Bool) (g1 : Arr α → Option Bool → Res (Arr β)) :
    (∃ e, a.reduceAxis zero zb (some ax) f1 = .err e) ∧ (∃ e, a.countAxis zero zb (some ax) kd g1 = .err e) ∧
    (∃ e, a.scanAxis zero zb (some ax) f1 = .err e) := by
  obtain ⟨h1, h2, h3⟩ := C08.axis_out_of_range a zero zb ax h f1 kd g1
  exact ⟨⟨_, h1⟩, ⟨_, h2⟩, ⟨_, h3⟩⟩

/-! ### splitting: zero parts, axis outside the rank -/

theorem arraySplit_rejects (a : Arr α) (zero : α) (parts : Nat) (axis : Option Nat)
    (h : parts = 0 ∨ ∃ ax, axis = some ax ∧ ax ≥ a.ndim) : ∃ e, a.arraySplit zero parts axis = .err e := by
  rcases h with h | ⟨ax, rfl, h⟩
  · subst h; exact ⟨_, if_pos rfl⟩
  · exact Res.err_ite (fun _ => ⟨_, rfl⟩) fun _ => ⟨_, if_pos (decide_eq_true h)⟩

theorem split_rejects (a : Arr α) (zero : α) (parts : Nat) (axis : Option Nat)
    (h : parts = 0 ∨ ∃ ax, axis = some ax ∧ ax ≥ a.ndim) : ∃ e, a.split zero parts axis = .err e := by
  rcases h with h | ⟨ax, rfl, h⟩
  · subst h; exact Res.err_ite (fun _ => ⟨_, rfl⟩) fun _ => ⟨_, if_pos rfl⟩
  · exact ⟨_, if_pos (decide_eq_true h)⟩

theorem splitAxis_rejects (a : Arr α) (zero : α) (ax : Nat) (h : ax ≥ a.ndim) : ∃ e, a.splitAxis zero ax = .err e :=
  ⟨_, if_pos h⟩

theorem xsplit_zero_parts (a : Arr α) (zero : α) :
    (∃ e, a.hsplit zero 0 = .err e) ∧ (∃ e, a.vsplit zero 0 = .err e) ∧ (∃ e, a.dsplit zero 0 = .err e) :=
  ⟨Res.err_ite (fun _ => ⟨_, rfl⟩) fun _ => ⟨_, if_pos rfl⟩, Res.err_ite (fun _ => ⟨_, rfl⟩) fun _ => ⟨_, if_pos rfl⟩,
   Res.err_ite (fun _ => ⟨_, rfl⟩) fun _ => ⟨_, if_pos rfl⟩⟩

/-! ### flip / rot90 -/

theorem flip_rejects (a : Arr α) (axes : List Int) (h : ∃ x ∈ axes, normalizeAxis a.ndim x ≥ a.ndim) :
    ∃ e, a.flip (some axes) = .err e :=
  have ⟨_, hx, hge⟩ := h
  ⟨_, if_pos (any_decide ⟨_, List.mem_map_of_mem hx, hge⟩)⟩

theorem rot90_rejects (a : Arr α) (zero : α) (k : Nat) (axes : List Int)
    (h : axes.length ≠ 2 ∨ ∃ a0 a1, axes = [a0, a1] ∧ (a0 ≥ a.ndim ∨ a0 < -(a.ndim : Int) ∨ a1 ≥ a.ndim ∨ a1 < -(a.ndim : Int))) :
    ∃ e, a.rot90 zero k axes = .err e := by
  by_cases h0 : a.ndim = 0 ∨ a.ndim = 1
  · exact ⟨_, if_pos h0⟩
  · rcases h with h | ⟨a0, a1, rfl, h⟩
    · refine ⟨.ParameterError, (if_neg h0).trans ?_⟩
      match axes, h with
      | [], _ | [_], _ | _ :: _ :: _ :: _, _ => rfl
      | [_, _], h => exact absurd rfl h
    · exact ⟨_, (if_neg h0).trans (if_pos h)⟩

/-! ### delete / insert / repeat / append / concatenate / stack -/

theorem delete_rejects (a : Arr α) (zero : α) (idxs : List Nat) (axis : Option Nat)
    (h : (axis = none ∧ ∃ i ∈ idxs, i ≥ a.elems.length) ∨ ∃ ax, axis = some ax ∧ ax ≥ a.ndim) :
    ∃ e, a.delete zero idxs axis = .err e := by
  rcases h with ⟨rfl, h⟩ | ⟨ax, rfl, h⟩
  · exact ⟨_, Arr.deleteFlat_err a idxs h⟩
  · exact ⟨_, (C13.delete_axis_rejects a zero idxs ax).2 h⟩

theorem insertFlat_rejects (a : Arr α) (idxs : List Nat) (values : Arr α) (h : ∃ i ∈ idxs, i > a.elems.length) :
    ∃ e, a.insertFlat idxs values = .err e := ⟨_, (C13.insertFlat_rejects a idxs values).1 h⟩

theorem repeatAxis_rejects (a : Arr α) (zero : α) (reps : List Nat) (ax : Nat) (h : ax ≥ a.ndim) :
    ∃ e, a.repeatAxis zero reps ax = .err e := ⟨_, (C13.repeatAxis_rejects a zero reps ax).1 h⟩

theorem append_rejects (a v : Arr α) (zero : α) (ax : Nat) (h : ax ≥ a.ndim ∨ a.ndim ≠ v.ndim) :
    ∃ e, a.append v zero (some ax) = .err e := by
  rcases h with h | h
  · exact ⟨_, if_pos h⟩
  · exact (C11.mismatch_refused zero ax a []).1 v (.inl h)

theorem concatenate_rejects (a0 : Arr α) (rest : List (Arr α)) (zero : α) (ax : Nat) (h : ∃ b ∈ a0 :: rest, ax ≥ b.ndim) :
    ∃ e, Arr.concatenate (a0 :: rest) zero (some ax) = .err e :=
  have ⟨b, hb, hge⟩ := h
  (C11.mismatch_refused zero ax a0 rest).2 ⟨b, hb, .inl hge⟩

theorem stack_rejects (a0 : Arr α) (rest : List (Arr α)) (zero : α) (axis : Option Nat)
    (h : (∃ ax, axis = some ax ∧ ∃ b ∈ a0 :: rest, ax ≥ b.ndim) ∨ ∃ b ∈ rest, b.shape ≠ a0.shape) :
    ∃ e, Arr.stack (a0 :: rest) zero axis = .err e := by
  rcases h with ⟨ax, rfl, h⟩ | ⟨b, hb, hne⟩
  · exact ⟨_, (C11.stack_axis_rank_refused zero a0 rest).2 ax h⟩
  · exact C11.stack_unequal_refused zero axis a0 rest ⟨b, List.mem_cons_of_mem _ hb, hne⟩

end ops

/-! ## (d) totality of the remaining families: every well-formed array, every argument value — `Ok` or `Err`, never a panic -/

section total
variable {α β : Type}

/-! ### `apply_along_axis` and the operations built on it -/

/-- `apply_along_axis`: every well-formed array (zero-length axes included), every axis (inside the rank or not), every
lane closure that does not panic itself (the closure is the caller's code; no assumption on what it returns) -/
theorem applyAlongAxis_total (a : Arr α) (zero : α) (zb : β) (axis : Nat) (f : Arr α → Res (Arr β))
    (hwf : a.WF) (hf : ∀ x, f x ≠ .panic) : a.applyAlongAxis zero zb axis f ≠ .panic :=
  applyAlongAxis_never_panics a zero zb axis f hwf hf

/-- the reduce / count / scan wrappers (sum, prod, max, min, cumsum, count_nonzero, …): any axis option, any keepdims -/
theorem axis_wrappers_total (a : Arr α) (zero : α) (zb : β) (axis : Option Int) (kd : Option Bool)
    (f1 : Arr α → Res (Arr β)) (g1 : Arr α → Option Bool → Res (Arr β)) (hwf : a.WF)
    (hf : ∀ x, f1 x ≠ .panic) (hg : ∀ x k, g1 x k ≠ .panic) :
    a.reduceAxis zero zb axis f1 ≠ .panic ∧ a.countAxis zero zb axis kd g1 ≠ .panic ∧ a.scanAxis zero zb axis f1 ≠ .panic :=
  C08.axis_ops_never_panic a zero zb axis kd f1 g1 hwf hf hg

/-- sort / argsort / unique / argmax / argmin with their own lane functions: any axis option, any kind spelling (enum,
known or unknown text), any element order that is a total order -/
theorem sort_family_total (c : Sort.Cmp α) (h : c.Lawful) (zero : α) (a : Arr α) (axis : Option Int) (ka : Sort.KindArg)
    (isMax : Bool) (kd : Option Bool) (hwf : a.WF) :
    Sort.sort c zero a axis ka ≠ .panic ∧ Sort.argsort c zero a axis ka ≠ .panic ∧ Sort.unique c zero a axis ≠ .panic ∧
    Sort.argExtreme c zero isMax a axis kd ≠ .panic :=
  ⟨C10.sort_op_never_panics h zero a axis ka hwf, C10.argsort_op_never_panics h zero a axis ka hwf,
   C10.unique_op_never_panics zero a axis hwf, C10.argExtreme_op_never_panics h zero isMax a axis kd hwf⟩

/-- an unknown kind name is refused by sort / argsort before anything else is looked at (any array, any axis) -/
theorem sort_kind_rejects (c : Sort.Cmp α) (zero : α) (a : Arr α) (axis : Option Int) (s : List Char) (e : Err)
    (h : Sort.resolveKind (.str s) = .err e) :
    Sort.sort c zero a axis (.str s) = .err e ∧ Sort.argsort c zero a axis (.str s) = .err e := by
  unfold Sort.sort Sort.argsort; rw [h]; exact ⟨rfl, rfl⟩

/-- pack_bits / unpack_bits (through the model of the crate's own `apply_along_axis`): any axis, count, order spelling -/
theorem bits_total (a : Arr Nat) (hwf : a.WF) (axis count : Option Int) (ord : Option C19.Spelling) :
    C19.packBits C19.alongPipe a axis ord ≠ .panic ∧ C19.unpackBits C19.alongPipe a axis count ord ≠ .panic :=
  ⟨C19.pack_never_panics a hwf axis ord, C19.unpack_never_panics a hwf axis count ord⟩

/-- an unknown bit-order name, or an axis outside the rank, is refused by pack_bits / unpack_bits on EVERY array —
also on an empty one (checked before the empty-array shortcut) -/
theorem bits_rejects (along : C19.Along) (a : Arr Nat) (axis count : Option Int) (ord : Option C19.Spelling)
    (h : (∃ e, C19.optOrder ord = .err e) ∨ (∃ ax, axis = some ax ∧ C19.normalizeAxis a.ndim ax ≥ a.ndim)) :
    (∃ e, C19.packBits along a axis ord = .err e) ∧ (∃ e, C19.unpackBits along a axis count ord = .err e) := by
  rcases h with ⟨e, he⟩ | ⟨ax, rfl, hax⟩
  · unfold C19.packBits C19.unpackBits; rw [he]; exact ⟨⟨e, rfl⟩, ⟨e, rfl⟩⟩
  · unfold C19.packBits C19.unpackBits
    cases ho : C19.optOrder ord with
    | err e => exact ⟨⟨e, rfl⟩, ⟨e, rfl⟩⟩
    | panic => exact absurd ho (by cases ord with | none => simp [C19.optOrder] | some s => exact C19.toBitOrder_never_panics s)
    | ok o => simp only [C19.axisCheck, if_pos hax]; exact ⟨⟨_, rfl⟩, ⟨_, rfl⟩⟩

/-! ### splitting -/

/-- array_split / split / split_axis / hsplit / vsplit / dsplit: every part count (zero included), every axis -/
theorem split_total (a : Arr α) (zero : α) (parts k : Nat) (hwf : a.WF) :
    a.arraySplit zero parts (some k) ≠ .panic ∧ a.split zero parts (some k) ≠ .panic ∧ a.splitAxis zero k ≠ .panic ∧
    a.hsplit zero parts ≠ .panic ∧ a.vsplit zero parts ≠ .panic ∧ a.dsplit zero parts ≠ .panic := by
  obtain ⟨h1, h2, h3, h4, h5, h6, _⟩ := C11.split_total a zero parts k hwf
  exact ⟨h1, h2, h3, h4, h5, h6⟩

/-- `axis = None` on EVERY well-formed receiver, rank 0 included: the defaulted axis 0 is validated like a given one, so on a
rank-0 array `array_split(1, None)` / `split(1, None)` answer `Err(AxisOutOfBounds)` (/repo 3685e2a, fixes/C09-split-rank0.md) -/
theorem split_none_total (a : Arr α) (zero : α) (parts : Nat) (hwf : a.WF) :
    a.arraySplit zero parts none ≠ .panic ∧ a.split zero parts none ≠ .panic :=
  ⟨C11.arraySplit_none a zero parts ▸ C11.arraySplit_ne_panic a zero hwf parts 0,
   C11.split_none a zero parts ▸ C11.split_ne_panic a zero hwf parts 0⟩

/-! ### reordering (proved in `Lemmas/C09Total.lean`, not even well-formedness is needed) -/

theorem flip_total (a : Arr α) (axes : Option (List Int)) : a.flip axes ≠ .panic := flip_ne_panic a axes

/-- shift and axis lists of any lengths (equal or not, empty or not), axes inside the rank or not, repeated or not -/
theorem roll_total (a : Arr α) (shift : List Int) (axes : Option (List Int)) : a.roll shift axes ≠ .panic :=
  roll_ne_panic a shift axes

theorem rot90_total (a : Arr α) (zero : α) (k : Nat) (axes : List Int) : a.rot90 zero k axes ≠ .panic :=
  rot90_ne_panic a zero k axes

theorem squeeze_total (a : Arr α) (axes : Option (List Int)) (hwf : a.WF) : a.squeeze axes ≠ .panic :=
  C07.squeeze_total a axes hwf

/-! ### broadcasting -/

theorem broadcast_family_total (a : Arr α) (b : Arr β) (t : List Nat) (ha : a.WF) (hb : b.WF) :
    a.broadcastTo t ≠ .panic ∧ a.broadcast b ≠ .panic ∧ a.zip b ≠ .panic :=
  ⟨broadcastTo_ne_panic a ha t, broadcast_ne_panic a b ha hb, zip_ne_panic a b hb⟩

/-! ### delete / insert / repeat -/

theorem delete_total (a : Arr α) (zero : α) (idxs : List Nat) (axis : Option Nat) (hwf : a.WF) :
    a.delete zero idxs axis ≠ .panic := C13.delete_total a zero idxs axis hwf

theorem insertFlat_total (a : Arr α) (idxs : List Nat) (values : Arr α) : a.insertFlat idxs values ≠ .panic :=
  C13.insertFlat_no_panic a idxs values

theorem repeat_total (a : Arr α) (zero : α) (reps : List Nat) (axis : Nat) (hwf : a.WF) :
    a.repeatAxis zero reps axis ≠ .panic ∧ a.repeatFlat reps ≠ .panic :=
  ⟨(repeatAxis_np_wf a zero reps axis hwf).1, repeatFlat_no_panic a reps⟩

/-- `repeat(counts, None)`: a count list that fits neither the last axis nor a single count is refused (last axis ≠ 1) -/
theorem repeatFlat_rejects (a : Arr α) (reps : List Nat) (P : List Nat) (L : Nat) (hs : a.shape = P ++ [L])
    (h : L = 0 ∨ reps.length = 0 ∨ (reps.length ≠ L ∧ reps.length ≠ 1 ∧ L ≠ 1)) :
    ∃ e, a.repeatFlat reps = .err e := ⟨_, (C13.repeatFlat_total a reps).1 P L hs h⟩

/-! ### joining -/

/-- `append(values, axis)`: every pair of well-formed arrays (zero-size included), every axis option -/
theorem append_total (a v : Arr α) (zero : α) (axis : Option Nat) (ha : a.WF) (hv : v.WF) :
    a.append v zero axis ≠ .panic := by
  cases axis with
  | none => exact nofun
  | some k =>
    by_cases hk : k < a.ndim
    · by_cases hm : a.ndim ≠ v.ndim ∨ a.shape.eraseIdx k ≠ v.shape.eraseIdx k
      · exact Res.ne_panic_of_err ((C11.mismatch_refused zero k a []).1 v hm)
      · obtain ⟨h1, h2⟩ := not_or.1 hm
        obtain ⟨r, hr, _⟩ := C11.appendAxis_at a v zero k ha hv hk (by omega) (Decidable.of_not_not h2)
        exact Res.ne_panic_of_ok hr
    · exact Res.ne_panic_of_err (append_rejects a v zero k (.inl (by omega)))

/-- `concatenate(arrays, axis)`: every list of well-formed arrays (the `unwrap` inside the fold is never reached with an
error: the shape validation in front of it refuses exactly the lists on which an `append` would fail) -/
theorem concatenate_total (arrs : List (Arr α)) (zero : α) (axis : Option Nat) (hwf : ∀ b ∈ arrs, b.WF) :
    Arr.concatenate arrs zero axis ≠ .panic := by
  cases arrs with
  | nil => exact nofun
  | cons a0 rest =>
    cases axis with
    | none => exact Res.ne_panic_of_ok (C11.concatenate_none zero a0 rest).1.choose_spec.1
    | some k =>
      by_cases hbad : ∃ b ∈ a0 :: rest, k ≥ b.ndim ∨ b.shape.eraseIdx k ≠ a0.shape.eraseIdx k
      · exact Res.ne_panic_of_err ((C11.mismatch_refused zero k a0 rest).2 hbad)
      · have hj : C11.Joinable k a0 rest := fun b hb =>
          ⟨hwf b hb, Nat.lt_of_not_le fun h => hbad ⟨b, hb, .inl h⟩, Decidable.of_not_not fun h => hbad ⟨b, hb, .inr h⟩⟩
        obtain ⟨r, hr, _⟩ := C11.concatenate_at zero k a0 rest hj
        exact Res.ne_panic_of_ok hr

/-- `stack(arrays, Some(axis))`: every list of well-formed arrays, every axis -/
theorem stack_total (arrs : List (Arr α)) (zero : α) (k : Nat) (hwf : ∀ b ∈ arrs, b.WF) :
    Arr.stack arrs zero (some k) ≠ .panic := by
  cases arrs with
  | nil => exact Res.ne_panic_of_ok (r := Arr.empty) rfl
  | cons a0 rest =>
    by_cases hax : ∃ b ∈ a0 :: rest, b.ndim ≤ k
    · exact Res.ne_panic_of_err ⟨_, (C11.stack_axis_rank_refused zero a0 rest).2 k hax⟩
    · by_cases hsh : ∃ b ∈ a0 :: rest, b.shape ≠ a0.shape
      · exact Res.ne_panic_of_err (C11.stack_unequal_refused zero (some k) a0 rest hsh)
      · have hk : k < a0.ndim := Nat.lt_of_not_le fun h => hax ⟨a0, List.mem_cons_self, h⟩
        obtain ⟨r, hr, _⟩ := C11.stack_at zero k a0 rest hk fun b hb =>
          ⟨hwf b hb, Decidable.of_not_not fun h => hsh ⟨b, hb, h⟩⟩
        exact Res.ne_panic_of_ok hr

end total

/-! ## (e) refusals of the operations modelled by other properties -/

section foreign
variable {α : Type}

/-- `slice(start..stop)` on every array of every rank: a reversed range or an end beyond the element count is refused -/
theorem slice_rejects (a : Arr α) (start stop : Nat) (h : stop < start ∨ a.len < stop) : ∃ e, a.slice start stop = .err e := by
  refine ⟨_, if_pos ?_⟩
  rcases h with h | h
  · rw [decide_eq_false (Nat.not_le.2 h)]; rfl
  · have h' : ¬ stop ≤ a.elems.length := Nat.not_le.2 h
    rw [decide_eq_false h', Bool.and_false]; rfl

/-- `indices_at`: on a vector an index at or beyond the length, on rank ≥ 2 an index at or beyond the first axis length,
on rank 0 anything — refused, on every array -/
theorem indicesAt_rejects (a : Arr α) (idx : List Nat)
    (h : (a.ndim = 1 ∧ ∃ i ∈ idx, i ≥ a.len) ∨ a.ndim = 0 ∨ (2 ≤ a.ndim ∧ ∃ i ∈ idx, i ≥ a.shape.headD 0)) :
    ∃ e, a.indicesAt idx = .err e := by
  rcases h with ⟨h1, hex⟩ | h0 | ⟨h2, i, hi, hge⟩
  · exact ⟨_, (if_pos h1).trans (if_pos (any_decide hex))⟩
  · exact ⟨_, (if_neg (by omega)).trans (if_pos (by omega))⟩
  · obtain ⟨d0, t, hs⟩ := List.exists_cons_of_length_pos (Nat.lt_of_lt_of_le Nat.zero_lt_two h2)
    rw [hs] at hge
    unfold Arr.indicesAt
    rw [if_neg (by omega), if_neg (by omega), hs]
    exact ⟨_, if_pos (any_decide ⟨i, hi, hge⟩)⟩

/-- linalg products: operands that do not conform are refused (vdot: different element counts; inner: different last
axes; matmul and dot of two matrices: inner dimensions differ) -/
theorem products_reject (a b : C14.A) :
    (a.len ≠ b.len → ∃ e, C14.vdot a b = .err e) ∧
    (∀ sa sb k k', a.shape = sa ++ [k] → b.shape = sb ++ [k'] → k ≠ k' → ∃ e, C14.inner a b = .err e) ∧
    (∀ n m m' p, a.shape = [n, m] → b.shape = [m', p] → m ≠ m' → ∃ e, C14.matmul a b = .err e) ∧
    (∀ n m m' p, a.shape = [n, m] → b.shape = [m', p] → a.len ≠ 1 → b.len ≠ 1 → m ≠ m' → ∃ e, C14.dotFull a b = .err e) :=
  ⟨fun h => ⟨_, C14.vdot_refuses a b h⟩,
   fun sa sb k k' h1 h2 h => ⟨_, C14.inner_refuses a b sa sb k k' h1 h2 h⟩,
   fun n m m' p h1 h2 h => ⟨_, C14.matmul_refuses_22 a b n m m' p h1 h2 h⟩,
   fun n m m' p h1 h2 h3 h4 h => ⟨_, C14.dotFull_extends a b _ (C14.dot_refuses_22 a b n m m' p h1 h2 h3 h4 h)⟩⟩

/-- det / qr / solve: a matrix that is not square (or has an axis shorter than 2) is refused; solve also refuses a
right-hand side whose first axis differs from the matrix order -/
theorem square_rejects (a b : Arr Rat) (r c : Nat) (hs : a.shape = [r, c]) (h : r < 2 ∨ c < 2 ∨ r ≠ c) :
    (∃ e, C15.detArr a = .err e) ∧ (∃ e, C15.qrArr a = .err e) ∧ (∃ e, C15.solveArr a b = .err e) := by
  have hsq : ∃ e, C15.isSquare2 a.shape = .err e := by
    rw [hs]
    exact Res.err_ite (fun _ => ⟨_, rfl⟩) fun _ => Res.err_ite (fun _ => ⟨_, rfl⟩) fun _ => ⟨_, if_pos (by omega)⟩
  have hl : ∃ e, C15.isSquareLast a.shape = .err e := by
    rw [hs]
    refine Res.err_ite (fun _ => ⟨_, rfl⟩) fun _ => Res.err_ite (fun _ => ⟨_, rfl⟩) fun (h2 : ¬ c < 2) =>
      Res.err_ite (fun _ => ⟨_, rfl⟩) fun (h1 : ¬ r < 2) => ⟨_, if_pos (?_ : c ≠ r)⟩
    omega
  obtain ⟨e1, he1⟩ := hsq
  obtain ⟨e2, he2⟩ := hl
  have hnd : a.ndim = 2 := congrArg List.length hs
  refine ⟨⟨e1, ?_⟩, ⟨e2, ?_⟩, ⟨e1, ?_⟩⟩
  · unfold C15.detArr; rw [if_neg (by omega), if_neg (by omega), if_pos hnd, he1]; rfl
  · unfold C15.qrArr; rw [if_neg (by omega), he2]; rfl
  · unfold C15.solveArr; rw [if_neg (by omega), he1]; rfl

theorem solve_rhs_rejects (a b : Arr Rat) (n b0 : Nat) (t : List Nat) (hs : a.shape = [n, n]) (hn : 2 ≤ n)
    (hb : b.shape = b0 :: t) (h : b0 ≠ n) : ∃ e, C15.solveArr a b = .err e := by
  have hnd : a.ndim = 2 := congrArg List.length hs
  have hsq : C15.isSquare2 [n, n] = .ok () :=
    (if_neg (by omega)).trans ((if_neg (by omega)).trans (if_neg (not_not_intro rfl)))
  refine ⟨.MustBeEqual, ?_⟩
  unfold C15.solveArr
  rw [if_neg (by omega), hb, hs, hsq]
  exact if_pos h

/-- norm: an axis list that is empty or has three or more entries, one axis outside the rank, two axes of which one is
outside the rank (or both equal) — refused for every order and every array -/
theorem norm_axes_reject (a : Arr Rat) (ord : Option C15.Ord) (keep : Bool) :
    (∃ e, C15.normArr a ord (some []) keep = .err e) ∧
    (∀ x y z rest, ∃ e, C15.normArr a ord (some (x :: y :: z :: rest)) keep = .err e) ∧
    (∀ ax0 ax1, (C15.normAxis a.ndim ax0 < 0 ∨ C15.normAxis a.ndim ax0 ≥ a.ndim ∨ C15.normAxis a.ndim ax1 < 0 ∨
        C15.normAxis a.ndim ax1 ≥ a.ndim) → ∃ e, C15.normArr a ord (some [ax0, ax1]) keep = .err e) := by
  refine ⟨⟨.ParameterError, by simp [C15.normArr]⟩, fun x y z rest => ⟨.ParameterError, by simp [C15.normArr]⟩, ?_⟩
  intro ax0 ax1 h
  rcases C15.norm_two_axes_out_of_range a ord ax0 ax1 keep h with h | h <;> exact ⟨_, h⟩

theorem reduce_axis_rejects (f : List Rat → Rat) (a : Arr Rat) (ax : Int)
    (h : C15.normAxis a.ndim ax < 0 ∨ C15.normAxis a.ndim ax ≥ a.ndim) : C15.reduceAxis f a ax = .err .AxisOutOfBounds :=
  if_pos h

/-- norm along ONE axis outside the rank: refused for every order -/
theorem norm_axis_rejects (a : Arr Rat) (ord : Option C15.Ord) (ax : Int) (keep : Bool)
    (h : C15.normAxis a.ndim ax < 0 ∨ C15.normAxis a.ndim ax ≥ a.ndim) : ∃ e, C15.normArr a ord (some [ax]) keep = .err e := by
  -- every arm that is reached reduces along `ax` first; `mapArr` keeps the rank
  have key : ∀ (f : List Rat → Rat) (g : Rat → Rat) (k : Arr Rat → Arr C15.Sym),
      ∃ e, (C15.reduceAxis f (C15.mapArr g a) ax).map k = .err e :=
    fun f g k => ⟨_, congrArg (Res.map k) (reduce_axis_rejects f (C15.mapArr g a) ax h)⟩
  unfold C15.normArr
  simp only [Bool.false_eq_true, if_false, Option.getD_some]
  cases ord.getD (.int 2) with
  | inf => exact key _ _ _
  | negInf => exact key _ _ _
  | fro => exact ⟨_, rfl⟩
  | nuc => exact ⟨_, rfl⟩
  | int v =>
    exact Res.err_ite (fun _ => key _ _ _) fun _ => Res.err_ite (fun _ => key _ _ _) fun _ => Res.err_ite (fun _ => key _ _ _) fun _ => key _ _ _

end foreign

/-! ## non-vacuity -/

/-- a `[2,3,4]` array: axis 3, axis −4 and a huge axis are outside the rank, and are refused by every family -/
def sample : Arr Nat := ⟨List.range 24, [2, 3, 4]⟩

example : sample.WF ∧ normalizeAxis sample.ndim 3 ≥ sample.ndim ∧ normalizeAxis sample.ndim (-4) ≥ sample.ndim ∧
    normalizeAxis sample.ndim (2 ^ 63 - 1) ≥ sample.ndim ∧ normalizeAxis sample.ndim (-(2 ^ 63)) ≥ sample.ndim := by decide +kernel
example : sample.transpose 0 (some [0, 1, 3]) = .err .AxisOutOfBounds ∧ sample.transpose 0 (some [0, 1]) = .err .MustBeEqual ∧
    sample.transpose 0 (some [0, 1, -2]) = .err .MustBeUnique := by decide +kernel
example : ∃ e, sample.moveaxis 0 [3] [0] = .err e := moveaxis_rejects sample 0 [3] [0] (.inr ⟨3, by simp, by decide⟩)
example : sample.arraySplit 0 0 none = .err .ParameterError ∧ sample.split 0 2 (some 3) = .err .AxisOutOfBounds ∧
    sample.flip (some [-4]) = .err .AxisOutOfBounds ∧ sample.indexAt [1, 3, 0] = .err .ParameterError ∧
    sample.reshape [5, 5] = .err .ShapeMustMatchValuesLength ∧ sample.broadcastTo [2, 3, 5] = .err .BroadcastShapeMismatch := by decide +kernel
-- the hypotheses of `unknown_option_rejected` are satisfiable, and not by everything
example : (∀ r ∈ sortKind.rowsStr, r.1 ≠ lowerAscii "Quick sort".toList) ∧ ¬ (∀ r ∈ sortKind.rowsStr, r.1 ≠ lowerAscii "QuickSort".toList) := by decide +kernel
-- (d): a lawful element order, a lane closure that never panics, a well-formed zero-size array, the rank-0 witness
example : Sort.Cmp.int.Lawful := Sort.Cmp.int_lawful
example : ∀ x : Arr Nat, (fun l => Res.ok l) x ≠ .panic := fun _ h => nomatch h
example : (⟨[], [2, 0]⟩ : Arr Nat).WF ∧ 1 ≤ (⟨[], [2, 0]⟩ : Arr Nat).ndim := by decide +kernel
example : (⟨[7], []⟩ : Arr Nat).WF ∧ (⟨[7], []⟩ : Arr Nat).arraySplit 0 1 none = .err .AxisOutOfBounds ∧
    (⟨[7], []⟩ : Arr Nat).split 0 1 none = .err .AxisOutOfBounds := by decide +kernel
example : Sort.resolveKind (.str "quick sort".toList) = .err .ParameterError ∧ C19.optOrder (some (.text "bigg".toList)) = .err .ParameterError := by decide +kernel
example : (⟨[1, 2, 3], [3]⟩ : Arr Nat).repeatFlat [1, 1] = .err .BroadcastShapeMismatch := by decide +kernel
-- (e): the hypotheses are satisfiable
example : (⟨[1, 2, 3], [3]⟩ : Arr Nat).slice 2 1 = .err .OutOfBounds ∧ (⟨[1, 2, 3], [3]⟩ : Arr Nat).indicesAt [0, 3] = .err .OutOfBounds := by decide +kernel
example : C15.normAxis 2 2 ≥ (2 : Nat) ∧ C15.normAxis 2 (-3) < 0 := by decide +kernel
example : C15.detArr ⟨[1, 2, 3, 4, 5, 6], [2, 3]⟩ = .err .MustBeEqual ∧ C14.matmul ⟨[1, 2, 3, 4, 5, 6], [2, 3]⟩ ⟨[1, 2, 3, 4, 5, 6], [2, 3]⟩ = .err .ParameterError := by decide +kernel
example : resultImpls.length = 205 ∧ (traitMethods.filter (·.fallible)).length = 253 ∧ optionParsers.length = 5 := by decide +kernel

/-! ## (f) the validators as translated from the Rust source
`tools/rs2lean.py` translates `src/validators/{axis,dimension,shape}.rs` construct by construct into `ArrModel/Gen/Core.lean` on
every run; these theorems are about those generated definitions (equivalences with the hand model: `ArrProofs/Lemmas/GenCore.lean`), so a
change of the Rust validators changes the statement that has to be proved here. -/

open ArrModel.Gen.Core in
/-- `axis_in_bounds` / `axis_opt_in_bounds` (validators/axis.rs): Ok exactly for an axis inside the rank (or no axis), the error
value `AxisOutOfBounds` exactly otherwise, never a panic - for every array and every axis value -/
theorem gen_axis_validators {α : Type} (a : Arr α) (ax : Nat) (o : Option Nat) :
    (Array_axis_in_bounds a ax = .ok () ↔ ax < a.ndim) ∧ (Array_axis_in_bounds a ax = .err .AxisOutOfBounds ↔ a.ndim ≤ ax) ∧
    Array_axis_in_bounds a ax ≠ .panic ∧
    (Array_axis_opt_in_bounds a o = .ok () ↔ ∀ x, o = some x → x < a.ndim) ∧
    (Array_axis_opt_in_bounds a o = .err .AxisOutOfBounds ↔ ∃ x, o = some x ∧ a.ndim ≤ x) ∧
    Array_axis_opt_in_bounds a o ≠ .panic :=
  ⟨c09_gen_axis_in_bounds_ok_iff a ax, c09_gen_axis_in_bounds_err_iff a ax, c09_gen_axis_in_bounds_never_panics a ax,
   c09_gen_axis_opt_in_bounds_ok_iff a o, c09_gen_axis_opt_in_bounds_err_iff a o, c09_gen_axis_opt_in_bounds_never_panics a o⟩

open ArrModel.Gen.Core in
/-- `is_dim_supported` / `is_dim_unsupported` (validators/dimension.rs, `Array<T>` and `usize` impls): an unsupported rank is the
error value `UnsupportedDimension`, a supported one is Ok, never a panic -/
theorem gen_dimension_validators {α : Type} (a : Arr α) (l : List Nat) (n : Nat) :
    (Array_is_dim_supported a l = .ok () ↔ a.ndim ∈ l) ∧ (Array_is_dim_supported a l = .err .UnsupportedDimension ↔ a.ndim ∉ l) ∧
    (Array_is_dim_unsupported a l = .ok () ↔ a.ndim ∉ l) ∧ (Array_is_dim_unsupported a l = .err .UnsupportedDimension ↔ a.ndim ∈ l) ∧
    Array_is_dim_supported a l ≠ .panic ∧ Array_is_dim_unsupported a l ≠ .panic ∧
    usize_is_dim_supported n l ≠ .panic ∧ usize_is_dim_unsupported n l ≠ .panic :=
  ⟨c09_gen_is_dim_supported_ok_iff a l, c09_gen_is_dim_supported_err_iff a l, c09_gen_is_dim_unsupported_ok_iff a l,
   c09_gen_is_dim_unsupported_err_iff a l, (c09_gen_is_dim_never_panics a l).1, (c09_gen_is_dim_never_panics a l).2,
   (c09_gen_usize_is_dim_never_panics n l).1, (c09_gen_usize_is_dim_never_panics n l).2⟩

open ArrModel.Gen.Core in
/-- the shape validators (validators/shape.rs) answer with a value for every input; `new` - the funnel of every constructor -
refuses a non-fitting element list with the error value and never panics -/
theorem gen_shape_validators_total {α β : Type} (s t : List Nat) (e : List β) (es : List α) :
    Vec_is_broadcastable s t ≠ .panic ∧ Vec_matches_values_len s e ≠ .panic ∧ Vec_matches_shape s t ≠ .panic ∧
    Array_new es s ≠ .panic ∧ (s.prod ≠ es.length → Array_new es s = .err .ShapeMustMatchValuesLength) :=
  ⟨(c09_gen_shape_validators_never_panic s t e).1, (c09_gen_shape_validators_never_panic s t e).2.1,
   (c09_gen_shape_validators_never_panic s t e).2.2, c01_gen_new_never_panics es s, c01_gen_new_err es s⟩

example : ArrModel.Gen.Core.Array_axis_in_bounds sample 3 = .err .AxisOutOfBounds ∧ ArrModel.Gen.Core.Array_axis_in_bounds sample 2 = .ok () := by decide +kernel

/-! ## (g) `insert(indices, values, Some(axis))` — the model `Arr.insertAxis` of `ArrModel/C01Diff.lean`, run by the C09 driver
(class `m` / `x` lines).  Refusals of the argument kinds the statement names, the vector arm, totality (`Lemmas/C09Insert.lean`), and the three-argument
relation "number of insertion points against the rows of the values" for values whose other axes match (stretched values: tied by execution). -/

section insertAxis
variable {α : Type}

/-- `insert(indices, values, Some(axis))` (model `Arr.insertAxis`, `ArrModel/C01Diff.lean`): the argument kinds the statement names
are refused with an error value, for every array, index list, values array and axis — (1) an axis outside the rank, (2) an index
above the length of that axis, (3) a values array of rank 0 or of a rank above the receiver's, (4) on a receiver of rank >= 2 a
number of indices that does not broadcast against the first axis -/
theorem insertAxis_rejects (a : Arr α) (zero : α) (indices : List Nat) (v : Arr α) (axis : Nat) :
    (a.ndim ≤ axis → a.insertAxis zero indices v axis = .err .AxisOutOfBounds) ∧
    (axis < a.ndim → (∃ i ∈ indices, i > a.shape.getD axis 0) → a.insertAxis zero indices v axis = .err .OutOfBounds) ∧
    (axis < a.ndim → (∀ i ∈ indices, i ≤ a.shape.getD axis 0) → (v.ndim = 0 ∨ a.ndim < v.ndim) →
      a.insertAxis zero indices v axis = .err .UnsupportedDimension) ∧
    (axis < a.ndim → (∀ i ∈ indices, i ≤ a.shape.getD axis 0) → 1 ≤ v.ndim → v.ndim ≤ a.ndim → a.ndim ≠ 1 →
      isBroadcastable [indices.length] (a.shape.take 1) = false → a.insertAxis zero indices v axis = .err .BroadcastShapeMismatch) := by
  have hany : (∀ i ∈ indices, i ≤ a.shape.getD axis 0) → ¬ indices.any (fun i => decide (i > a.shape.getD axis 0)) = true := by
    intro h hc
    obtain ⟨i, hi, hgt⟩ := List.any_eq_true.1 hc
    exact Nat.not_le.2 (of_decide_eq_true hgt) (h i hi)
  rw [Arr.insertAxis_eq]
  refine ⟨fun h => if_pos h, fun hax hex => ?_, fun hax hix hv => ?_, fun hax hix h1 h2 hn1 hb => ?_⟩
  · rw [if_neg (Nat.not_le.2 hax), if_pos (any_decide hex)]
  · rw [if_neg (Nat.not_le.2 hax), if_neg (hany hix), if_pos (not_decide_and_decide.2 (by omega))]
  · rw [if_neg (Nat.not_le.2 hax), if_neg (hany hix), if_neg (mt not_decide_and_decide.1 (not_not_intro ⟨h1, h2⟩)), if_neg hn1]
    exact if_pos (congrArg not hb)

/-- along the only axis of a vector `insert` with an axis IS the flat insert once the three argument checks have passed; the
refusals of the flat insert (`insertFlat_rejects`) carry over -/
theorem insertAxis_vector (a : Arr α) (zero : α) (indices : List Nat) (v : Arr α) (h1 : a.ndim = 1)
    (hix : ∀ i ∈ indices, i ≤ a.shape.getD 0 0) (hv : v.ndim = 1) : a.insertAxis zero indices v 0 = a.insertFlat indices v := by
  have hany : ¬ indices.any (fun i => decide (i > a.shape.getD 0 0)) = true := by
    intro hc
    obtain ⟨i, hi, hgt⟩ := List.any_eq_true.1 hc
    exact Nat.not_le.2 (of_decide_eq_true hgt) (hix i hi)
  rw [Arr.insertAxis_eq, if_neg (by omega), if_neg hany, if_neg (mt not_decide_and_decide.1 (by omega)), if_pos h1]

/-- **totality**: `insert` with an axis never panics on a well-formed receiver - for every index list, every values array (well-formed
or not) and every axis value.  The model has two panic arms on rank >= 2 (`Vec::insert` above the length of the piece list, the
division by the slice length); neither is reachable: a zero-length off-axis is refused by the fit loop, `split_axis` hands out
`shape[axis]` pieces (one piece for an empty receiver, whose only admissible index is then 0), and every step in between is total
(`Lemmas/C09Insert.lean`).  The vector arm and the refusal of a zero-length values axis are /repo 06ac896 and 5478fd7. -/
theorem insertAxis_total (a : Arr α) (zero : α) (indices : List Nat) (v : Arr α) (axis : Nat) (ha : a.WF) :
    a.insertAxis zero indices v axis ≠ .panic := insertAxis_ne_panic a zero indices v axis ha

/-- **rows against insertion points** (the three-argument relation; /repo 34ccd75): on a receiver of rank >= 2, with
two or more insertion points, a values array of the receiver's rank whose other axes match the receiver exactly, which is not the
single slice and whose element count is not a multiple of (slice length x number of insertion points) - the whole slices of the
values cannot be distributed equally over the insertion points, whether or not the slice length shares a factor with their number -
is refused with an error value.  (Stated for matching axes; for values that are stretched first the same refusal sits behind the
fit loop and is tied by execution - class `x` lines.) -/
theorem insertAxis_rows_reject (a v : Arr α) (zero : α) (indices : List Nat) (axis : Nat) (ha : a.WF) (hv : v.WF)
    (hn1 : a.ndim ≠ 1) (hk : 1 < indices.length) (hvr : v.ndim = a.ndim)
    (hfit : ∀ i, i < a.ndim → i ≠ axis → (swapExt v.shape 0 axis).getD i 0 = a.shape.getD i 0 ∧ a.shape.getD i 0 ≠ 0)
    (hone : v.len ≠ (a.shape.eraseIdx axis).prod) (hrows : v.len % ((a.shape.eraseIdx axis).prod * indices.length) ≠ 0) :
    ∃ e, a.insertAxis zero indices v axis = .err e := by
  cases h : a.insertAxis zero indices v axis with
  | ok r => exact absurd h (insertAxis_uneven_not_ok a v zero indices axis hv hn1 hk hvr hfit hone hrows r)
  | err e => exact ⟨e, rfl⟩
  | panic => exact absurd h (insertAxis_ne_panic a zero indices v axis ha)

end insertAxis

-- non-vacuity: each refusal of `insertAxis_rejects` on a 2x3 receiver, and the vector arm
example : (⟨[1, 2, 3, 4, 5, 6], [2, 3]⟩ : Arr Nat).insertAxis 0 [0] ⟨[7, 8, 9], [3]⟩ 2 = .err .AxisOutOfBounds ∧
    (⟨[1, 2, 3, 4, 5, 6], [2, 3]⟩ : Arr Nat).insertAxis 0 [0, 3] ⟨[7, 8, 9], [3]⟩ 0 = .err .OutOfBounds ∧
    (⟨[1, 2, 3, 4, 5, 6], [2, 3]⟩ : Arr Nat).insertAxis 0 [0] ⟨[7], []⟩ 0 = .err .UnsupportedDimension ∧
    (⟨[1, 2, 3, 4, 5, 6], [2, 3]⟩ : Arr Nat).insertAxis 0 [0, 1, 2] ⟨[7, 8, 9], [3]⟩ 0 = .err .BroadcastShapeMismatch ∧
    (⟨[1, 2, 3, 4, 5, 6], [2, 3]⟩ : Arr Nat).insertAxis 0 [0, 1] ⟨[7, 8, 9, 10, 11, 12, 13, 14, 15], [3, 3]⟩ 0 = .err .BroadcastShapeMismatch ∧
    (⟨[1, 2, 3, 4, 5, 6], [2, 3]⟩ : Arr Nat).insertAxis 0 [0, 1] ⟨[7, 8, 9, 10, 11, 12], [2, 3]⟩ 0 =
      .ok ⟨[7, 8, 9, 1, 2, 3, 10, 11, 12, 4, 5, 6], [4, 3]⟩ ∧
    (⟨[1, 2, 3], [3]⟩ : Arr Nat).insertAxis 0 [2] ⟨[9], [1]⟩ 0 = .ok ⟨[1, 2, 9, 3], [4]⟩ := by decide +kernel
-- the hypotheses of `insertAxis_rows_reject` are satisfiable: three rows for two insertion points on a 2x2 receiver (6 elements: a
-- multiple of 2 but not of 2 x 2), and the model refuses it
example : let a : Arr Nat := ⟨[1, 2, 3, 4], [2, 2]⟩; let v : Arr Nat := ⟨[10, 11, 12, 13, 14, 15], [3, 2]⟩
    a.WF ∧ v.WF ∧ a.ndim ≠ 1 ∧ 1 < [0, 1].length ∧ v.ndim = a.ndim ∧
    (∀ i, i < a.ndim → i ≠ 0 → (swapExt v.shape 0 0).getD i 0 = a.shape.getD i 0 ∧ a.shape.getD i 0 ≠ 0) ∧
    v.len ≠ (a.shape.eraseIdx 0).prod ∧ v.len % ((a.shape.eraseIdx 0).prod * [0, 1].length) ≠ 0 ∧
    a.insertAxis 0 [0, 1] v 0 = .err .BroadcastShapeMismatch := by decide +kernel

end ArrModel.C09
