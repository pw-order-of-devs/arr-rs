import ArrProofs.Lemmas.C15QR
import ArrProofs.Lemmas.C15NormPow
/-!
# C15 — solve, QR, determinant and norm satisfy their defining equations

Property theorems only; helper lemmas live in `ArrProofs/Lemmas/C15*.lean`.
Model under test: `ArrModel/C15.lean` (`detArr`/`detN`, `solveArr`/`solveMat`/`lu`/`forwardSubst`/`backSubst`,
`qrArr`/`qrMat`, `normArr`) and `normX` of `ArrModel/C15Ext.lean`, the same definitions the driver executes.

`norm` is modelled twice.  `normArr` writes its reductions as lane reductions (`C15.reduceAxis`: one `f` per lane, `0` on a
lane without elements) and normalises an axis with `normAxis : Int` (negative axes count from the end, no wrap-around);
its theorems are `norm_default_sq`, `norm_2`, `norm_1`, `norm_inf`, `norm_two_axes_out_of_range`.  `normX` is the same
dispatch of `norms.rs` over the branch-for-branch model of `sum` / `max` / `min(Some(axis))` that C08 is about
(`Arr.reduceAxis`, whose `normalizeAxis : Nat` is `normalize_axis` with its `usize` wrap-around); it also covers negative
orders, arrays without elements and 0-dimensional receivers, and the `norm_*` theorems from `norm_axis_lane` on are about
it.  The two-axis arm of both tests its axes with `normAxis` before any reduction runs, so `normAxis` appears in statements
about `normX` as well.

Scope of what is *proved* here: the algorithms evaluated in exact rational arithmetic.  The Rust evaluates the
same expressions in `f64`; "to rounding accuracy" is a statement about IEEE arithmetic and is decided by the tie
(model value vs code value and residual oracles with tolerance `1e-9`), not by these theorems.  The square root of
`norm` stays symbolic (`Sym.root 2 q`).  For `qr` the theorems are about the un-normalised Gram–Schmidt vectors
`us[k]` (rational); the factors are `Q[i][k] = us[k][i] / √nrm2[k]`, `R[k][c] = ru[k][c] / √nrm2[k]`, so the three
defining equations are stated with the roots multiplied out.
-/
namespace ArrModel.C15
open ArrModel

/-! ## triangular solves are exact -/

/-- **forward substitution** solves the unit lower-triangular system `L̂ y = b`
(`L̂` = strictly lower part of `l` plus a unit diagonal; the diagonal and upper part of `l` are never read). -/
theorem forward_subst_spec (n k : Nat) (l b : Mat) (hl : ∀ i, i < n → (l.getD i []).length = n) :
    ∀ i c, i < n → c < k →
      entry (forwardSubst n k l b) i c + sumTo i (fun t => entry l i t * entry (forwardSubst n k l b) t c)
        = entry b i c := by
  intro i c hi hc
  rw [forwardSubst_eq, fwd_recurrence k l b n (fun i hi => by rw [hl i hi]; omega) i c hi hc]
  ring

/-- **back substitution** solves the upper-triangular system `U x = y` whenever the diagonal has no zero
(only the diagonal and the strictly upper part of `u` are read; `htri` says the rest is zero). -/
theorem back_subst_spec (n k : Nat) (u y : Mat) (hu : ∀ i, i < n → (u.getD i []).length = n)
    (htri : ∀ i c, i < n → c < n → c < i → entry u i c = 0) (hpiv : ∀ i, i < n → entry u i i ≠ 0) :
    ∀ i c, i < n → c < k →
      sumTo n (fun t => entry u i t * entry (backSubst n k u y) t c) = entry y i c :=
  upper_row_apply n k u y hu htri hpiv

/-! ## solve -/

/-- **matrix level**: for every `n × n` matrix (`n ≥ 2`, the sizes `solve` accepts) with non-zero determinant and every
`n × k` right-hand side, the elimination with partial pivoting, the permutation of `b` and the two substitutions
produce `x` with `A · x = b` — whatever row exchanges the pivot search performs. -/
theorem solve_mat_spec (n k : Nat) (a b : Mat) (hn : 2 ≤ n) (ha : ∀ i, i < n → (a.getD i []).length = n)
    (hdet : detN n a ≠ 0) :
    ∀ r c, r < n → c < k → entry (matMulK n k a (solveMat n k a b)) r c = entry b r c := by
  intro r c hr hc
  rw [matMulK, entry_build_lt _ hr hc]
  exact solveMat_apply n k a b hn ha hdet r c hr hc

/-- **several right-hand sides**: an `[n, n]` array that passes the singularity test and an `[n, k]` right-hand side give
`ok x` with `x` well-formed, of the shape of `b`, and `A · x = b` in row-major coordinates (reads past the end of `elems`
give `0`, so neither operand needs to be well-formed). -/
theorem solve_spec (n k : Nat) (a b : Arr Rat) (hn : 2 ≤ n) (hk : 0 < k)
    (ha : a.shape = [n, n]) (hb : b.shape = [n, k])
    (hdet : singTol ≤ absR (detN n (toMat n n a.elems))) :
    ∃ x, solveArr a b = .ok x ∧ x.shape = [n, k] ∧ x.WF ∧
      ∀ r c, r < n → c < k →
        sumTo n (fun t => vget a.elems (r * n + t) * vget x.elems (t * k + c)) = vget b.elems (r * k + c) := by
  obtain ⟨x, h1, h2, h3, h4⟩ := solveArr_spec n k a b [k] hn hk ha hb (by rw [Arr.ndim, hb]; rfl)
    (by rw [hb, List.prod_cons, List.prod_singleton]) hdet
  exact ⟨x, h1, h2.trans hb, h3, h4⟩

/-- **vector right-hand side**: `b` of shape `[n]` is treated as one column; the answer has shape `[n]`. -/
theorem solve_spec_vector (n : Nat) (a b : Arr Rat) (hn : 2 ≤ n)
    (ha : a.shape = [n, n]) (hb : b.shape = [n])
    (hdet : singTol ≤ absR (detN n (toMat n n a.elems))) :
    ∃ x, solveArr a b = .ok x ∧ x.shape = [n] ∧ x.WF ∧
      ∀ r, r < n → sumTo n (fun t => vget a.elems (r * n + t) * vget x.elems t) = vget b.elems r := by
  obtain ⟨x, h1, h2, h3, h4⟩ := solveArr_spec n 1 a b [] hn Nat.one_pos ha hb (by rw [Arr.ndim, hb]; rfl)
    (by rw [hb, List.prod_singleton, Nat.mul_one]) hdet
  refine ⟨x, h1, h2.trans hb, h3, fun r hr => ?_⟩
  have := h4 r 0 hr Nat.one_pos
  simp only [Nat.mul_one, Nat.add_zero] at this
  exact this

/-- **a singular matrix is refused with the singular-matrix error** (whatever the right-hand side with `n` rows) -/
theorem singular_refused (n : Nat) (a b : Arr Rat) (rest : List Nat) (hn : 2 ≤ n)
    (ha : a.shape = [n, n]) (hb : b.shape = n :: rest)
    (hdet : detN n (toMat n n a.elems) = 0) :
    solveArr a b = .err .SingularMatrix := by
  rw [solveArr_of_square n _ a b rest hn ha hb rfl, if_pos]
  rw [hdet, absR, if_neg (lt_irrefl 0)]
  exact singTol_pos

/-- more generally, everything below the threshold of the code's test (`|det| < 1e-12`) is refused -/
theorem near_singular_refused (n : Nat) (a b : Arr Rat) (rest : List Nat) (hn : 2 ≤ n)
    (ha : a.shape = [n, n]) (hb : b.shape = n :: rest)
    (hdet : absR (detN n (toMat n n a.elems)) < singTol) :
    solveArr a b = .err .SingularMatrix := by
  rw [solveArr_of_square n _ a b rest hn ha hb rfl, if_pos hdet]

/-! ## det -/

/-- **the list model of `det` (2×2 closed form, cofactor expansion down column 0 through `minor`) is the determinant** -/
theorem det_eq_matrix_det (n : Nat) (m : Mat) (hn : 2 ≤ n) : detN n m = (toM n m).det := detN_eq_det n m hn

/-- `Array::det` of a square matrix returns the one-element array holding `Matrix.det` -/
theorem detArr_matrix (n : Nat) (a : Arr Rat) (hn : 2 ≤ n) (ha : a.shape = [n, n]) :
    detArr a = .ok ⟨[(toM n (toMat n n a.elems)).det], [1]⟩ := by
  have hnd : a.ndim = 2 := by rw [Arr.ndim, ha]; rfl
  unfold detArr
  simp only [hnd, ha, isSquare2_ok n [] hn, Res.bind_ok, List.getD_cons_zero, detN_eq_det n _ hn]
  rfl

theorem det_mul (n : Nat) (a b : Mat) (hn : 2 ≤ n) : detN n (matMul n a b) = detN n a * detN n b := by
  rw [detN_eq_det n _ hn, detN_eq_det n _ hn, detN_eq_det n _ hn, toM_matMul, Matrix.det_mul]

/-- **a row exchange changes the sign** -/
theorem det_swap_rows (n : Nat) (a : Mat) (i j : Nat) (hn : 2 ≤ n) (hi : i < n) (hj : j < n) (hij : i ≠ j) :
    detN n (swapRows n n a i j) = - detN n a := by
  rw [detN_eq_det n _ hn, detN_eq_det n _ hn, toM_swapRows n a i j hi hj, Matrix.det_permute,
    Equiv.Perm.sign_swap (by intro e; exact hij (congrArg Fin.val e))]
  simp only [Units.val_neg, Units.val_one, Int.cast_neg, Int.cast_one, neg_mul, one_mul]

/-- **the determinant equals the value obtained by elimination**: the product of the pivots of the very elimination
`solve` runs, negated once per row exchange. -/
theorem det_eq_elimination (n : Nat) (a : Mat) (hn : 2 ≤ n) (ha : ∀ i, i < n → (a.getD i []).length = n) :
    detN n a = detByElim n a := by
  rw [detN_eq_det n a hn, detByElim, prodTo_eq_prod, ← det_factor (inv_lu n a ha), sgn_eq_pow, ← mul_assoc, ← mul_pow,
    neg_one_mul, neg_neg, one_pow, one_mul]

/-- **stacks**: `det` of an `[s, n, n]` array is the list of the determinants of its `s` consecutive blocks -/
theorem det_stack (s n : Nat) (a : Arr Rat) (hs : 0 < s) (hn : 2 ≤ n) (ha : a.shape = [s, n, n]) (hw : a.WF) :
    detArr a = .ok ⟨(List.range s).map (fun b => detN n (toMat n n ((a.elems.drop (b * (n * n))).take (n * n)))), [s]⟩ := by
  have hnd : a.ndim = 3 := by rw [Arr.ndim, ha]; rfl
  have hs0 : s ≠ 0 := by omega
  unfold detArr
  simp only [hnd, ha, isSquareLast_ok [s, n, n] n hn (Nat.le_succ 2) rfl rfl, Res.bind_ok]
  simp only [List.length_cons, List.length_nil, List.getD_cons_succ, List.getD_cons_zero, stack_count s n a hn ha hw, blocks,
    List.map_map, List.length_map, List.length_range]
  rw [if_neg hs0]
  rfl

/-! ## norm (`normArr`) -/

/-- **default norm**: the square of the value is the sum of the squares of all elements (any shape) -/
theorem norm_default_sq (a : Arr Rat) :
    normArr a none none false = .ok ⟨[.root 2 ((a.elems.map fun x => x * x).sum)], [1]⟩ :=
  normSimple_false a

/-- **two-norm of a vector** (explicit order, or along its only axis) is the same root of the sum of squares -/
theorem norm_2 (a : Arr Rat) (m : Nat) (hs : a.shape = [m]) (hw : a.elems.length = m) :
    normArr a (some (.int 2)) none false = .ok ⟨[.root 2 ((a.elems.map fun x => x * x).sum)], [1]⟩ ∧
    normArr a (some (.int 2)) (some [0]) false = .ok ⟨[.root 2 ((a.elems.map fun x => x * x).sum)], [1]⟩ := by
  have hnd : a.ndim = 1 := by rw [Arr.ndim, hs]; rfl
  constructor
  · rw [normArr_axis_none, if_pos (Or.inr ⟨hnd, rfl⟩), normSimple_false]
  · show (reduceAxis sumL (mapArr (fun x => absR (x * x)) a) 0).map (rootArr 2) = _
    rw [reduceAxis_vec sumL (mapArr _ a) m hs ((List.length_map _).trans hw) 0 (Or.inl rfl), ← sq_lane_sum]
    rfl

/-- **one-norm of a vector**: the sum of the absolute values -/
theorem norm_1 (a : Arr Rat) (m : Nat) (hs : a.shape = [m]) (hw : a.elems.length = m) :
    normArr a (some (.int 1)) none false = .ok ⟨[.rat ((a.elems.map fun x => |x|).sum)], [1]⟩ := by
  have hnd : a.ndim = 1 := by rw [Arr.ndim, hs]; rfl
  rw [normArr_axis_none, if_neg (by rw [hnd]; decide), hnd]
  show (reduceAxis sumL (mapArr absR a) 0).map symArr = _
  rw [reduceAxis_vec sumL (mapArr _ a) m hs ((List.length_map _).trans hw) 0 (Or.inl rfl), ← abs_lane_sum]
  rfl

/-- **infinity-norm of a non-empty vector**: a value `r` that is the absolute value of some element and bounds all of them -/
theorem norm_inf (a : Arr Rat) (m : Nat) (hm : 0 < m) (hs : a.shape = [m]) (hw : a.elems.length = m) :
    ∃ r, normArr a (some .inf) none false = .ok ⟨[.rat r], [1]⟩ ∧
      (∃ x ∈ a.elems, r = |x|) ∧ ∀ x ∈ a.elems, |x| ≤ r := by
  have hnd : a.ndim = 1 := by rw [Arr.ndim, hs]; rfl
  have hne : a.elems.map absR ≠ [] := by
    intro h; rw [← hw, ← List.length_map (f := absR), h] at hm; exact Nat.lt_irrefl 0 hm
  obtain ⟨hmem, hmax⟩ := maxL_spec _ hne
  refine ⟨maxL (a.elems.map absR), ?_, ?_, ?_⟩
  · rw [normArr_axis_none, if_neg (by rw [hnd]; decide), hnd]
    show (reduceAxis maxL (mapArr absR a) 0).map symArr = _
    rw [reduceAxis_vec maxL (mapArr _ a) m hs ((List.length_map _).trans hw) 0 (Or.inl rfl)]
    rfl
  · obtain ⟨x, hx, hxe⟩ := List.mem_map.1 hmem
    exact ⟨x, hx, by rw [← hxe, absR_eq_abs]⟩
  · intro x hx; rw [← absR_eq_abs]; exact hmax _ (List.mem_map.2 ⟨x, hx, rfl⟩)

/-- the two-axis arm refuses an axis outside the rank (crate commit e1ca2b8): whatever the order and `keepdims`, when either
normalised axis is below `0` or not below the rank the answer is an error value (`ParameterError` when the two
normalised axes coincide — that check comes first — and `AxisOutOfBounds` otherwise), never a norm along a wrapped axis. -/
theorem norm_two_axes_out_of_range (a : Arr Rat) (ord : Option Ord) (ax0 ax1 : Int) (keep : Bool)
    (h : normAxis a.ndim ax0 < 0 ∨ normAxis a.ndim ax0 ≥ a.ndim ∨ normAxis a.ndim ax1 < 0 ∨ normAxis a.ndim ax1 ≥ a.ndim) :
    normArr a ord (some [ax0, ax1]) keep = .err .ParameterError ∨
    normArr a ord (some [ax0, ax1]) keep = .err .AxisOutOfBounds :=
  two_axes_checks_err (normAxis a.ndim ax0) (normAxis a.ndim ax1) a.ndim _ (Or.inr h)

/-! ## qr (exact Gram–Schmidt; `Q[i][k] = us[k][i] / √nrm2[k]`, `R[k][c] = ru[k][c] / √nrm2[k]`) -/

/-- **orthonormal columns**: distinct Gram–Schmidt vectors are orthogonal, and `nrm2[k]` is the squared length of the
`k`-th one — i.e. `(QᵀQ)[j][k] = us[j]·us[k] / (√nrm2[j] √nrm2[k])` is the identity. -/
theorem qr_orthogonal (n : Nat) (a : Mat) (hnz : (0 : Rat) ∉ (qrMat n a).nrm2) :
    ∀ j k, j < n → k < n →
      dotV n ((qrMat n a).us.getD j []) ((qrMat n a).us.getD k []) = if j = k then vget (qrMat n a).nrm2 k else 0 := by
  intro j k hj hk
  have hcl := columns_length n a
  by_cases h : j = k
  · rw [if_pos h, vget_nrm2 n a k hk, h]; rfl
  · rw [if_neg h]
    exact gramU_orth n (columns n a) (qr_nonzero_of n a hnz) j k (hcl.symm ▸ hj) (hcl.symm ▸ hk) h

/-- **upper-triangular second factor**: `R[k][c] = 0` below the diagonal -/
theorem qr_upper (n : Nat) (a : Mat) (hnz : (0 : Rat) ∉ (qrMat n a).nrm2) :
    ∀ k c, k < n → c < n → c < k → entry (qrMat n a).ru k c = 0 := by
  intro k c hk hc hck
  have hcl := columns_length n a
  rw [entry_ru n a hk hc, gram_dot_column n (columns n a) (qr_nonzero_of n a hnz) k c (hcl.symm ▸ hk) (hcl.symm ▸ hc)
    (le_of_lt hck), if_neg (by omega)]

/-- **the factors multiply back**: `(Q R)[i][c] = Σ_k us[k][i] · ru[k][c] / nrm2[k] = A[i][c]` -/
theorem qr_product (n : Nat) (a : Mat) (hnz : (0 : Rat) ∉ (qrMat n a).nrm2) :
    ∀ i c, i < n → c < n →
      sumTo n (fun k => vget ((qrMat n a).us.getD k []) i * entry (qrMat n a).ru k c / vget (qrMat n a).nrm2 k)
        = entry a i c := by
  intro i c hi hc
  have hnz' := qr_nonzero_of n a hnz
  have hcl := columns_length n a
  -- the terms above the diagonal vanish, the diagonal term is `us[c][i]`, the terms below it are the projections of column `c`
  rw [← vget_column n a hc hi, column_expand n (columns n a) hnz' c (hcl.symm ▸ hc) i hi, sumTo_eq_sum,
    sum_range_of_zero_above n c hc _ fun t hct htn => by rw [qr_upper n a hnz t c htn hc hct, mul_zero, zero_div]]
  rw [add_comm]
  refine congrArg₂ (· + ·) ?_ ?_
  · show vget ((gramU n (columns n a)).getD c []) i * _ / _ = _
    rw [entry_ru n a hc hc, vget_nrm2 n a c hc, gram_dot_column n (columns n a) hnz' c c (hcl.symm ▸ hc) (hcl.symm ▸ hc)
      (le_refl _), if_pos rfl]
    exact mul_div_cancel_right₀ _ (hnz' _ (gramU_getD_mem n _ (hcl.symm ▸ hc)))
  · refine Finset.sum_congr rfl fun k hk => ?_
    have hk' := Nat.lt_trans (Finset.mem_range.1 hk) hc
    show vget ((gramU n (columns n a)).getD k []) i * _ / _ = _
    rw [entry_ru n a hk' hc, vget_nrm2 n a k hk', mul_div_assoc, mul_comm]

/-- `Array::qr` of a square matrix returns the one pair described by `qrMat` -/
theorem qrArr_matrix (n : Nat) (a : Arr Rat) (hn : 2 ≤ n) (ha : a.shape = [n, n]) :
    qrArr a = .ok [qrMat n (toMat n n a.elems)] := by
  have hnd : a.ndim = 2 := by rw [Arr.ndim, ha]; rfl
  unfold qrArr
  simp only [hnd, ha, isSquareLast_ok [n, n] n hn (Nat.le_refl 2) rfl rfl, Res.bind_ok]
  rfl

/-- **stacks**: `qr` of an `[s, n, n]` array is the list of the factor pairs of its `s` consecutive blocks
(so the three equations above hold for each matrix of the stack) -/
theorem qr_stack (s n : Nat) (a : Arr Rat) (hs : 0 < s) (hn : 2 ≤ n) (ha : a.shape = [s, n, n]) (hw : a.WF) :
    qrArr a = .ok ((List.range s).map fun b => qrMat n (toMat n n ((a.elems.drop (b * (n * n))).take (n * n)))) := by
  have hnd : a.ndim = 3 := by rw [Arr.ndim, ha]; rfl
  have hs0 : s ≠ 0 := by omega
  unfold qrArr
  simp only [hnd, ha, isSquareLast_ok [s, n, n] n hn (Nat.le_succ 2) rfl rfl, Res.bind_ok]
  simp only [List.length_cons, List.length_nil, List.getD_cons_succ, List.getD_cons_zero, stack_count s n a hn ha hw, blocks,
    List.map_map]
  rw [if_neg hs0]
  rfl

/-! ## non-vacuity: concrete instances meeting the hypotheses -/

/-- the first pivot is zero, so the rows are exchanged and the right-hand side with them: `[[0,1],[1,0]] x = [2,3]` gives `[3,2]` -/
example : solveArr ⟨[0, 1, 1, 0], [2, 2]⟩ ⟨[2, 3], [2]⟩ = .ok ⟨[3, 2], [2]⟩ := by decide +kernel
/-- hypotheses of `solve_spec` hold for a 3×3 system that needs an exchange, with two right-hand sides -/
example : singTol ≤ absR (detN 3 (toMat 3 3 [1, 1, 0, 4, 5, 1, 0, 1, 6])) := by decide +kernel
example : solveArr ⟨[1, 1, 0, 4, 5, 1, 0, 1, 6], [3, 3]⟩ ⟨[1, 2, 3, 4, 5, 6], [3, 2]⟩
    = .ok ⟨[16/5, 8, -11/5, -6, 6/5, 2], [3, 2]⟩ := by decide +kernel
example : swapCount 3 (toMat 3 3 [1, 1, 0, 4, 5, 1, 0, 1, 6]) = 2 := by decide +kernel
example : solveArr ⟨[1, 2, 2, 4], [2, 2]⟩ ⟨[1, 1], [2]⟩ = .err .SingularMatrix := by decide +kernel
example : detArr ⟨[3, 8, 4, 6], [2, 2]⟩ = .ok ⟨[-14], [1]⟩ := by decide +kernel
example : detArr ⟨[2, 1, 1, 3, 0, 1, 1, 0, 1, 2, 3, 5], [3, 2, 2]⟩ = .ok ⟨[5, -1, -1], [3]⟩ := by decide +kernel
example : detByElim 3 (toMat 3 3 [1, 1, 0, 4, 5, 1, 0, 1, 6]) = 5 ∧ detN 3 (toMat 3 3 [1, 1, 0, 4, 5, 1, 0, 1, 6]) = 5 := by
  decide +kernel
example : (0 : Rat) ∉ (qrMat 3 (toMat 3 3 [1, 1, 0, 4, 5, 1, 0, 1, 6])).nrm2 := by decide +kernel
example : (qrMat 2 (toMat 2 2 [2, 1, 1, 3])).us = [[2, 1], [-1, 2]] ∧ (qrMat 2 (toMat 2 2 [2, 1, 1, 3])).ru = [[5, 5], [0, 5]] := by
  decide +kernel
example : normArr ⟨[3, -4], [2]⟩ (some .inf) none false = .ok ⟨[.rat 4], [1]⟩ := by decide +kernel
example : normArr ⟨[3, -4], [2]⟩ none none false = .ok ⟨[.root 2 25], [1]⟩ := by decide +kernel

example : normArr ⟨[-7], [1]⟩ (some (.int 1)) (some [0, 1]) false = .err .AxisOutOfBounds := by decide +kernel
example : normArr ⟨[1, 2, 3, 4], [2, 2]⟩ (some .inf) (some [0, -3]) true = .err .AxisOutOfBounds := by decide +kernel

open Arr

/-! ## `normX`: every arm of the dispatch that needs no SVD, on the branch-faithful reductions

Model under test: `normX` of `ArrModel/C15Ext.lean` — the dispatch of `norms.rs:57-146` written over the SHARED model of
`sum(Some(axis))` / `max(Some(axis))` / `min(Some(axis))` (`Arr.reduceAxis` of `ArrModel/C08.lean`: `normalize_axis`,
`apply_along_axis`, `reshape(remove_at_if)`), the definitions the driver executes for every case of at most
`Driver.C15.normXLimit` elements (and cross-checks against `normArr` there).  `laneOf a k c` is the lane of `a` along axis `k`
through `c` (`norm_axis_lane` says what its entries are).  Hypotheses `a.WF`, `0 ∉ a.shape`: a well-formed array with at
least one element; arrays without elements are the subject of `norm_empty`.  Roots stay symbolic (`Sym.root 2 q = √q`). -/

/-- **the lane through a position**: for a position `c` of the remaining axes, the lane has the length of the reduced
axis and its `j`-th entry is `a[c with j inserted at the axis]` -/
theorem norm_axis_lane (a : Arr Rat) (ax : Int) (c : List Nat) (hwf : a.WF) (hax : normalizeAxis a.ndim ax < a.ndim)
    (hc : inRange (a.shape.eraseIdx (normalizeAxis a.ndim ax)) c = true) :
    (laneOf a (normalizeAxis a.ndim ax) (c.insertIdx (normalizeAxis a.ndim ax) 0)).length
        = a.shape.getD (normalizeAxis a.ndim ax) 0 ∧
    ∀ j, j < a.shape.getD (normalizeAxis a.ndim ax) 0 →
      (laneOf a (normalizeAxis a.ndim ax) (c.insertIdx (normalizeAxis a.ndim ax) 0))[j]?
        = a.get? (c.insertIdx (normalizeAxis a.ndim ax) j) :=
  ⟨lane_length a _ c hwf hax hc, lane_entry a _ c hwf hax hc⟩

/-- **one-norm along an axis** of an array of any rank (negative axis spellings included through `normalizeAxis`): the
result has the shape of the input without the axis (`[1]` for a vector) and its entry at `c` is `Σ |x|` over the lane
through `c`.  `keepdims` is not looked at by this arm. -/
theorem norm_axis_one (a : Arr Rat) (ax : Int) (keep : Bool) (hwf : a.WF) (hnz : 0 ∉ a.shape)
    (hax : normalizeAxis a.ndim ax < a.ndim) :
    ∃ r, normX a (some (.int 1)) (some [ax]) keep = .ok r ∧
      r.shape = (if a.ndim > 1 then a.shape.eraseIdx (normalizeAxis a.ndim ax) else [1]) ∧ r.WF ∧
      ∀ c, inRange (a.shape.eraseIdx (normalizeAxis a.ndim ax)) c = true →
        r.get? (if a.ndim > 1 then c else [0]) =
          some (.rat (((laneOf a (normalizeAxis a.ndim ax) (c.insertIdx (normalizeAxis a.ndim ax) 0)).map fun x => |x|).sum)) := by
  obtain ⟨r, h1, h2, h3, h4⟩ := arm_spec a (mapArr absR a) absR rfl rfl 0 0 ax sumBody sumL Sym.rat
    (fun lane _ => sumBody_flat lane) hwf hnz hax
  exact ⟨r, h1, h2, h3, fun c hc => by rw [h4 c hc, abs_lane_sum]⟩

/-- **zero-"norm" along an axis**: the number of non-zero entries of the lane -/
theorem norm_axis_zero (a : Arr Rat) (ax : Int) (keep : Bool) (hwf : a.WF) (hnz : 0 ∉ a.shape)
    (hax : normalizeAxis a.ndim ax < a.ndim) :
    ∃ r, normX a (some (.int 0)) (some [ax]) keep = .ok r ∧
      r.shape = (if a.ndim > 1 then a.shape.eraseIdx (normalizeAxis a.ndim ax) else [1]) ∧ r.WF ∧
      ∀ c, inRange (a.shape.eraseIdx (normalizeAxis a.ndim ax)) c = true →
        r.get? (if a.ndim > 1 then c else [0]) =
          some (.rat (((laneOf a (normalizeAxis a.ndim ax) (c.insertIdx (normalizeAxis a.ndim ax) 0)).filter
            fun x => decide (x ≠ 0)).length : Rat)) := by
  obtain ⟨r, h1, h2, h3, h4⟩ := arm_spec a (mapArr _ a) (fun x => if x = 0 then 0 else 1) rfl rfl 0 0 ax sumBody sumL Sym.rat
    (fun lane _ => sumBody_flat lane) hwf hnz hax
  exact ⟨r, h1, h2, h3, fun c hc => by rw [h4 c hc, sumL_indicator]⟩

/-- **two-norm along an axis** (explicit order 2, or no order with an explicit axis): `√(Σ x²)` over the lane -/
theorem norm_axis_two (a : Arr Rat) (ax : Int) (keep : Bool) (hwf : a.WF) (hnz : 0 ∉ a.shape)
    (hax : normalizeAxis a.ndim ax < a.ndim) :
    ∃ r, normX a (some (.int 2)) (some [ax]) keep = .ok r ∧ normX a none (some [ax]) keep = .ok r ∧
      r.shape = (if a.ndim > 1 then a.shape.eraseIdx (normalizeAxis a.ndim ax) else [1]) ∧ r.WF ∧
      ∀ c, inRange (a.shape.eraseIdx (normalizeAxis a.ndim ax)) c = true →
        r.get? (if a.ndim > 1 then c else [0]) =
          some (.root 2 (((laneOf a (normalizeAxis a.ndim ax) (c.insertIdx (normalizeAxis a.ndim ax) 0)).map fun x => x * x).sum)) := by
  obtain ⟨r, h1, h2, h3, h4⟩ := arm_spec a (mapArr _ a) (fun x => absR (x * x)) rfl rfl 0 0 ax sumBody sumL (Sym.root 2)
    (fun lane _ => sumBody_flat lane) hwf hnz hax
  have e : normVecX a (.int 2) ax = .ok r := by
    show (bcastGuard a >>= fun _ => (sumAx (mapArr (fun x => absR (x * x)) a) ax).map (rootArr 2)) = _
    rw [bcastGuard_ok a hnz]
    exact h1
  exact ⟨r, (normX_one_axis a _ ax keep).trans e, (normX_one_axis a none ax keep).trans e, h2, h3, fun c hc => by rw [h4 c hc, sq_lane_sum]⟩

/-- **infinity-norm along an axis**: the entry at `c` is the absolute value of some element of the lane through `c`
and bounds the absolute values of all of them -/
theorem norm_axis_inf (a : Arr Rat) (ax : Int) (keep : Bool) (hwf : a.WF) (hnz : 0 ∉ a.shape)
    (hax : normalizeAxis a.ndim ax < a.ndim) :
    ∃ r, normX a (some .inf) (some [ax]) keep = .ok r ∧
      r.shape = (if a.ndim > 1 then a.shape.eraseIdx (normalizeAxis a.ndim ax) else [1]) ∧ r.WF ∧
      ∀ c, inRange (a.shape.eraseIdx (normalizeAxis a.ndim ax)) c = true →
        ∃ v, r.get? (if a.ndim > 1 then c else [0]) = some (.rat v) ∧
          (∃ x ∈ laneOf a (normalizeAxis a.ndim ax) (c.insertIdx (normalizeAxis a.ndim ax) 0), v = |x|) ∧
          ∀ x ∈ laneOf a (normalizeAxis a.ndim ax) (c.insertIdx (normalizeAxis a.ndim ax) 0), |x| ≤ v :=
  extreme_arm_spec a ax hwf hnz hax maxBody maxL (· ≤ ·) maxBody_flat maxL_spec

/-- **minus-infinity-"norm" along an axis**: the least absolute value of the lane -/
theorem norm_axis_neg_inf (a : Arr Rat) (ax : Int) (keep : Bool) (hwf : a.WF) (hnz : 0 ∉ a.shape)
    (hax : normalizeAxis a.ndim ax < a.ndim) :
    ∃ r, normX a (some .negInf) (some [ax]) keep = .ok r ∧
      r.shape = (if a.ndim > 1 then a.shape.eraseIdx (normalizeAxis a.ndim ax) else [1]) ∧ r.WF ∧
      ∀ c, inRange (a.shape.eraseIdx (normalizeAxis a.ndim ax)) c = true →
        ∃ v, r.get? (if a.ndim > 1 then c else [0]) = some (.rat v) ∧
          (∃ x ∈ laneOf a (normalizeAxis a.ndim ax) (c.insertIdx (normalizeAxis a.ndim ax) 0), v = |x|) ∧
          ∀ x ∈ laneOf a (normalizeAxis a.ndim ax) (c.insertIdx (normalizeAxis a.ndim ax) 0), v ≤ |x| :=
  extreme_arm_spec a ax hwf hnz hax minBody minL (· ≥ ·) minBody_flat minL_spec

/-- the one-axis arm does not look at `keepdims` (numpy would keep the reduced axis with length 1) -/
theorem norm_one_axis_ignores_keepdims (a : Arr Rat) (ord : Option Ord) (ax : Int) :
    normX a ord (some [ax]) true = normX a ord (some [ax]) false := rfl

/-- **Frobenius norm of a matrix and the default norm of any array with an element**: `√(Σ x²)` over all elements;
under `keepdims` the one-element result is reshaped to `[ndim]`, which only fits a vector -/
theorem norm_frobenius (a : Arr Rat) (hne : a.elems.length ≠ 0) :
    normX a none none false = .ok ⟨[.root 2 ((a.elems.map fun x => x * x).sum)], [1]⟩ ∧
    (a.ndim = 2 → normX a (some .fro) none false = .ok ⟨[.root 2 ((a.elems.map fun x => x * x).sum)], [1]⟩) ∧
    (a.ndim = 1 → normX a none none true = .ok ⟨[.root 2 ((a.elems.map fun x => x * x).sum)], [1]⟩) ∧
    (a.ndim ≠ 1 → normX a none none true = .err .ShapeMustMatchValuesLength) := by
  have hnn : ∀ keep, normX a none none keep = normSimple a keep := fun keep => normSimpleX_of_ne a keep hne
  refine ⟨?_, fun h => ?_, fun h => ?_, fun h => ?_⟩
  · rw [hnn, normSimple_false]
  · rw [normX_axis_none, if_pos (Or.inl ⟨h, rfl⟩), normSimpleX_of_ne a _ hne, normSimple_false]
  · rw [hnn, normSimple_true, if_pos h]
  · rw [hnn, normSimple_true, if_neg h]

/-- **matrix 1-norm and (-1)-"norm"** of an `m × n` matrix over the axes `(0, 1)` (any spelling, e.g. `(-2, -1)`):
the greatest / least column sum of absolute values.  `keepdims` appends ONE trailing unit axis (numpy: shape `[1, 1]`
here as well, but by keeping both reduced axes in place). -/
theorem norm_matrix_one (a : Arr Rat) (m n : Nat) (hm : 0 < m) (hn : 0 < n) (hs : a.shape = [m, n]) (hwf : a.WF)
    (ax0 ax1 : Int) (h0 : normAxis 2 ax0 = 0) (h1 : normAxis 2 ax1 = 1) (keep : Bool) :
    normX a (some (.int 1)) (some [ax0, ax1]) keep
      = .ok ⟨[.rat (maxL (colAbsSums a m n))], if keep then [1, 1] else [1]⟩ ∧
    normX a (some (.int (-1))) (some [ax0, ax1]) keep
      = .ok ⟨[.rat (minL (colAbsSums a m n))], if keep then [1, 1] else [1]⟩ := by
  have hnd : a.ndim = 2 := by rw [Arr.ndim, hs]; rfl
  have hc := sum_then_extreme _ 0 _ n (sumAx_abs_axis0 a m n hm hn hs hwf) (colAbsSums_length a m n) hn (-1) (Or.inr rfl)
  have hu := fun ord v => normX_two_axes_ok a ord ax0 ax1 keep 0 1 (hnd ▸ h0) (hnd ▸ h1) (by decide) (by rw [hnd]; decide)
    (by rw [hnd]; decide) v
  exact ⟨hu (.int 1) _ hc.1, hu (.int (-1)) _ hc.2⟩

/-- **matrix inf-norm and (-inf)-"norm"** over the axes `(0, 1)`: the greatest / least row sum of absolute values -/
theorem norm_matrix_inf (a : Arr Rat) (m n : Nat) (hm : 0 < m) (hn : 0 < n) (hs : a.shape = [m, n]) (hwf : a.WF)
    (ax0 ax1 : Int) (h0 : normAxis 2 ax0 = 0) (h1 : normAxis 2 ax1 = 1) (keep : Bool) :
    normX a (some .inf) (some [ax0, ax1]) keep
      = .ok ⟨[.rat (maxL (rowAbsSums a m n))], if keep then [1, 1] else [1]⟩ ∧
    normX a (some .negInf) (some [ax0, ax1]) keep
      = .ok ⟨[.rat (minL (rowAbsSums a m n))], if keep then [1, 1] else [1]⟩ := by
  have hnd : a.ndim = 2 := by rw [Arr.ndim, hs]; rfl
  have hr := sum_then_extreme _ 1 _ m (sumAx_abs_axis1 a m n hm hn hs hwf) (rowAbsSums_length a m n) hm 0 (Or.inl rfl)
  have hu := fun ord v => normX_two_axes_ok a ord ax0 ax1 keep 0 1 (hnd ▸ h0) (hnd ▸ h1) (by decide) (by rw [hnd]; decide)
    (by rw [hnd]; decide) v
  exact ⟨hu .inf _ hr.1, hu .negInf _ hr.2⟩

/-- **the axes given the other way round, `(1, 0)`** (row axis 1, column axis 0), are the norms of the transposed
matrix: order 1 / -1 take the extreme ROW sum, order inf / -inf the extreme COLUMN sum -/
theorem norm_matrix_swapped_axes (a : Arr Rat) (m n : Nat) (hm : 0 < m) (hn : 0 < n) (hs : a.shape = [m, n]) (hwf : a.WF)
    (ax0 ax1 : Int) (h0 : normAxis 2 ax0 = 1) (h1 : normAxis 2 ax1 = 0) (keep : Bool) :
    normX a (some (.int 1)) (some [ax0, ax1]) keep
      = .ok ⟨[.rat (maxL (rowAbsSums a m n))], if keep then [1, 1] else [1]⟩ ∧
    normX a (some (.int (-1))) (some [ax0, ax1]) keep
      = .ok ⟨[.rat (minL (rowAbsSums a m n))], if keep then [1, 1] else [1]⟩ ∧
    normX a (some .inf) (some [ax0, ax1]) keep
      = .ok ⟨[.rat (maxL (colAbsSums a m n))], if keep then [1, 1] else [1]⟩ ∧
    normX a (some .negInf) (some [ax0, ax1]) keep
      = .ok ⟨[.rat (minL (colAbsSums a m n))], if keep then [1, 1] else [1]⟩ := by
  have hnd : a.ndim = 2 := by rw [Arr.ndim, hs]; rfl
  have hr := sum_then_extreme _ 1 _ m (sumAx_abs_axis1 a m n hm hn hs hwf) (rowAbsSums_length a m n) hm 0 (Or.inl rfl)
  have hc := sum_then_extreme _ 0 _ n (sumAx_abs_axis0 a m n hm hn hs hwf) (colAbsSums_length a m n) hn (-1) (Or.inr rfl)
  have hu := fun ord v => normX_two_axes_ok a ord ax0 ax1 keep 1 0 (hnd ▸ h0) (hnd ▸ h1) (by decide) (by rw [hnd]; decide)
    (by rw [hnd]; decide) v
  exact ⟨hu (.int 1) _ hr.1, hu (.int (-1)) _ hr.2, hu .inf _ hc.1, hu .negInf _ hc.2⟩

/-- with an order other than `fro` and no axis, a rank-2 array takes the two-axis arm with the axes `(0, 1)` -/
theorem norm_matrix_axis_none (a : Arr Rat) (ord : Ord) (keep : Bool) (hnd : a.ndim = 2) (ho : ord ≠ .fro) :
    normX a (some ord) none keep = normX a (some ord) (some [0, 1]) keep := by
  rw [normX_axis_none, hnd, if_neg]
  · rfl
  · rintro (⟨_, h⟩ | ⟨h, _⟩)
    · exact ho h
    · exact absurd h (by decide)

/-- what "greatest" / "least" mean for the lists above: `maxL` / `minL` of a non-empty list is an element of it that
bounds all the others -/
theorem norm_matrix_extreme (l : List Rat) (hne : l ≠ []) :
    (maxL l ∈ l ∧ ∀ x ∈ l, x ≤ maxL l) ∧ (minL l ∈ l ∧ ∀ x ∈ l, minL l ≤ x) :=
  ⟨maxL_spec l hne, minL_spec l hne⟩

/-! ### refusals of `normX` (error values, never a norm of something else) -/

/-- `fro` and `nuc` are refused by the one-axis arm, whatever the array and the axis -/
theorem norm_vector_fro_nuc_refused (a : Arr Rat) (ax : Int) (keep : Bool) :
    normX a (some .fro) (some [ax]) keep = .err .ParameterError ∧
    normX a (some .nuc) (some [ax]) keep = .err .ParameterError := ⟨rfl, rfl⟩

/-- the two-axis arm implements the orders `1`, `-1`, `inf`, `-inf` only: `fro`, `nuc`, `2`, `-2` and every other integer
order are refused (no SVD and no Frobenius norm over two explicit axes; numpy computes those) — also when no order is
given (`None` means `fro` there) -/
theorem norm_matrix_order_refused (a : Arr Rat) (ord : Option Ord) (ax0 ax1 : Int) (keep : Bool)
    (ho : ord = none ∨ ord = some .fro ∨ ord = some .nuc ∨ ∃ v : Int, ord = some (.int v) ∧ v ≠ 1 ∧ v ≠ -1) :
    ∃ e, normX a ord (some [ax0, ax1]) keep = .err e := by
  have hm : normMatX a (ord.getD .fro) (normAxis a.ndim ax0) (normAxis a.ndim ax1) = .err .ParameterError := by
    rcases ho with rfl | rfl | rfl | ⟨v, rfl, h1, h2⟩
    · rfl
    · rfl
    · rfl
    · show (if v = 1 then _ else if v = -1 then _ else Res.err .ParameterError) = _
      rw [if_neg h1, if_neg h2]
  rw [normX_two_axes_eq, hm]
  refine Res.err_ite (fun _ => ⟨_, rfl⟩) fun _ => Res.err_ite (fun _ => ⟨_, rfl⟩) fun _ => Res.err_ite (fun _ => ⟨_, rfl⟩) fun _ => ?_
  cases keep <;> exact ⟨_, rfl⟩

/-- the same axis twice is refused; so is an axis outside the rank (mirror of `norm_two_axes_out_of_range` for `normX`) -/
theorem norm_two_axes_refused (a : Arr Rat) (ord : Option Ord) (ax0 ax1 : Int) (keep : Bool)
    (h : normAxis a.ndim ax0 = normAxis a.ndim ax1 ∨ normAxis a.ndim ax0 < 0 ∨ normAxis a.ndim ax0 ≥ a.ndim ∨
      normAxis a.ndim ax1 < 0 ∨ normAxis a.ndim ax1 ≥ a.ndim) :
    normX a ord (some [ax0, ax1]) keep = .err .ParameterError ∨
    normX a ord (some [ax0, ax1]) keep = .err .AxisOutOfBounds :=
  two_axes_checks_err (normAxis a.ndim ax0) (normAxis a.ndim ax1) a.ndim _ h

/-- no axis, three or more axes, or — without an axis argument — an order on an array of rank 0 or ≥ 3:
"improper number of dimensions" -/
theorem norm_axes_count_refused (a : Arr Rat) (ord : Option Ord) (keep : Bool) :
    normX a ord (some []) keep = .err .ParameterError ∧
    (∀ x y z rest, normX a ord (some (x :: y :: z :: rest)) keep = .err .ParameterError) ∧
    (∀ o, a.ndim = 0 ∨ a.ndim ≥ 3 → normX a (some o) none keep = .err .ParameterError) := by
  refine ⟨rfl, fun x y z rest => rfl, fun o h => ?_⟩
  rw [normX_axis_none, if_neg (by omega)]
  rcases h with h | h
  · rw [h]; rfl
  · obtain ⟨k, hk⟩ : ∃ k, a.ndim = k + 3 := ⟨a.ndim - 3, by omega⟩
    rw [hk, List.range_succ_eq_map, List.range_succ_eq_map, List.range_succ_eq_map]
    rfl

/-- an axis outside the rank is refused by the one-axis arm (orders `inf`, `-inf`, `0`, `1`: by `axis_in_bounds` of the
reduction; the other orders may already have been refused by `is_broadcastable`) -/
theorem norm_axis_out_of_range (a : Arr Rat) (ax : Int) (keep : Bool) (h : normalizeAxis a.ndim ax ≥ a.ndim) :
    normX a (some .inf) (some [ax]) keep = .err .AxisOutOfBounds ∧
    normX a (some .negInf) (some [ax]) keep = .err .AxisOutOfBounds ∧
    normX a (some (.int 0)) (some [ax]) keep = .err .AxisOutOfBounds ∧
    normX a (some (.int 1)) (some [ax]) keep = .err .AxisOutOfBounds := by
  have hr : ∀ (f : Rat → Rat) (body : Arr Rat → Res (Arr Rat)),
      ((mapArr f a).reduceAxis 0 0 (some ax) body).map symArr = .err .AxisOutOfBounds := fun f body => by
    rw [(C08.axis_out_of_range (mapArr f a) 0 0 ax h body none (fun x _ => body x)).1]; rfl
  exact ⟨hr _ _, hr _ _, hr _ _, hr _ _⟩

/-! ### arrays without elements -/

/-- **no element**: the default / Frobenius / two-norm forms are refused (`dot`, `multiply`, `float_power` go through
`is_broadcastable`, which rejects a zero-length axis), and so is every one-axis order ≥ 2 or < 0; `inf` / `-inf` along the
only axis of an empty vector are refused by `max` / `min` ("cannot be empty"), while the orders `0` and `1` SUM the empty
lane and answer `0` with shape `[1]` -/
theorem norm_empty (a : Arr Rat) (hwf : a.WF) (h0 : 0 ∈ a.shape) (keep : Bool) :
    normX a none none keep = .err .BroadcastShapeMismatch ∧
    (a.ndim = 2 → normX a (some .fro) none keep = .err .BroadcastShapeMismatch) ∧
    (∀ ax v, v ≠ 0 → v ≠ 1 → normX a (some (.int v)) (some [ax]) keep = .err .BroadcastShapeMismatch) ∧
    (a.shape = [0] → normX a (some .inf) (some [0]) keep = .err .ParameterError ∧
      normX a (some .negInf) (some [0]) keep = .err .ParameterError ∧
      normX a (some (.int 1)) (some [0]) keep = .ok ⟨[.rat 0], [1]⟩ ∧
      normX a (some (.int 0)) (some [0]) keep = .ok ⟨[.rat 0], [1]⟩) := by
  have he : a.elems = [] := elems_nil_of_zero_mem a hwf h0
  have hsx : normSimpleX a keep = .err .BroadcastShapeMismatch := if_pos (by rw [he]; rfl)
  have hg : bcastGuard a = .err .BroadcastShapeMismatch := if_pos h0
  refine ⟨hsx, fun h => ?_, fun ax v hv0 hv1 => ?_, fun hs => ?_⟩
  · rw [normX_axis_none, if_pos (Or.inl ⟨h, rfl⟩), hsx]
  · rw [normX_one_axis]
    show normVecX a (.int v) ax = _
    unfold normVecX
    dsimp only
    rw [if_neg hv0, if_neg hv1, hg]
    split <;> rfl
  · obtain ⟨el, sh⟩ := a
    subst hs; subst he
    refine ⟨?_, ?_, ?_, ?_⟩ <;> rw [normX_one_axis] <;> decide +kernel

/-! ### solve with a 0-dimensional right-hand side -/

/-- **a 0-dimensional right-hand side**: for a square matrix (`n ≥ 2`) the read `other.get_shape()[0]` is an index into an
empty shape — the call PANICS (before the singularity test; whatever the matrix); when the receiver is not a matrix or not
square the validation error comes first.  (That it is a panic and not an error value is a defect with respect to C09, not
C15; the tie compares the outcome class.) -/
theorem solve_zero_dim_rhs (a b : Arr Rat) (hb : b.shape = []) :
    (∀ n, 2 ≤ n → a.shape = [n, n] → solveArr a b = .panic) ∧
    (a.ndim ≠ 2 → solveArr a b = .err .UnsupportedDimension) := by
  constructor
  · intro n hn ha
    have hnd : ¬ a.ndim ≠ 2 := by rw [Arr.ndim, ha]; exact not_not.2 rfl
    unfold solveArr
    rw [if_neg hnd, ha, hb, isSquare2_ok n [] hn]
    rfl
  · intro h
    unfold solveArr
    rw [if_pos h]

/-! ### the general integer orders of the one-axis arm (`abs().float_power(p).sum(axis).float_power(1/p)`) -/

/-- **order `p ≥ 3` along an axis**: the `p`-th root (symbolic) of `Σ |x|^p` over the lane -/
theorem norm_axis_p (a : Arr Rat) (ax : Int) (keep : Bool) (p : Nat) (hp : 3 ≤ p) (hwf : a.WF) (hnz : 0 ∉ a.shape)
    (hax : normalizeAxis a.ndim ax < a.ndim) :
    ∃ r, normX a (some (.int p)) (some [ax]) keep = .ok r ∧
      r.shape = (if a.ndim > 1 then a.shape.eraseIdx (normalizeAxis a.ndim ax) else [1]) ∧ r.WF ∧
      ∀ c, inRange (a.shape.eraseIdx (normalizeAxis a.ndim ax)) c = true →
        r.get? (if a.ndim > 1 then c else [0]) =
          some (.root p (((laneOf a (normalizeAxis a.ndim ax) (c.insertIdx (normalizeAxis a.ndim ax) 0)).map fun x => |x| ^ p).sum)) := by
  obtain ⟨r, h1, h2, h3, h4⟩ := pow_arm_spec a ax (p : Int) (by omega) (by omega) (by omega) hwf hnz hax
  exact ⟨r, h1, h2, h3, fun c hc => by rw [h4 c hc, rootE_sumE_nat]⟩

/-- **negative order `-p` along an axis** (`p ≥ 1`): `0` when the lane holds a zero (`0^(-p) = +inf`, `inf^(-1/p) = 0` in the
IEEE arithmetic of the code), otherwise `(Σ |x|^(-p))^(-1/p) = (1 / Σ 1/|x|^p)^(1/p)` — an exact rational for `p = 1`
(the harmonic-type sum), a symbolic `p`-th root otherwise -/
theorem norm_axis_negative (a : Arr Rat) (ax : Int) (keep : Bool) (p : Nat) (hp : 1 ≤ p) (hwf : a.WF) (hnz : 0 ∉ a.shape)
    (hax : normalizeAxis a.ndim ax < a.ndim) :
    ∃ r, normX a (some (.int (-(p : Int)))) (some [ax]) keep = .ok r ∧
      r.shape = (if a.ndim > 1 then a.shape.eraseIdx (normalizeAxis a.ndim ax) else [1]) ∧ r.WF ∧
      ∀ c, inRange (a.shape.eraseIdx (normalizeAxis a.ndim ax)) c = true →
        r.get? (if a.ndim > 1 then c else [0]) =
          some (if (0 : Rat) ∈ laneOf a (normalizeAxis a.ndim ax) (c.insertIdx (normalizeAxis a.ndim ax) 0) then .rat 0
            else if p = 1 then
              .rat (1 / ((laneOf a (normalizeAxis a.ndim ax) (c.insertIdx (normalizeAxis a.ndim ax) 0)).map fun x => 1 / |x| ^ p).sum)
            else
              .root p (1 / ((laneOf a (normalizeAxis a.ndim ax) (c.insertIdx (normalizeAxis a.ndim ax) 0)).map fun x => 1 / |x| ^ p).sum)) := by
  have hneg : (-(p : Int)) < 0 := Int.neg_neg_of_pos (Int.natCast_pos.2 hp)
  obtain ⟨r, h1, h2, h3, h4⟩ := pow_arm_spec a ax (-(p : Int)) (ne_of_lt hneg) (ne_of_lt (hneg.trans Int.one_pos))
    (ne_of_lt (hneg.trans (by decide))) hwf hnz hax
  exact ⟨r, h1, h2, h3, fun c hc => by rw [h4 c hc, rootE_sumE_neg p hp]⟩

/-! ### non-vacuity of the `normX` theorems and what `normX` computes on concrete inputs -/

-- the hypotheses of the lane theorems hold for a `[2,3]` matrix and both spellings of its last axis
example : (⟨[1, -2, 3, -4, 5, -6], [2, 3]⟩ : Arr Rat).WF ∧ 0 ∉ ([2, 3] : List Nat) ∧
    normalizeAxis 2 (-1) < 2 ∧ normalizeAxis 2 (-1) = 1 ∧ normAxis 2 (-2) = 0 ∧ normAxis 2 (-1) = 1 := by decide
example : normX ⟨[1, -2, 3, -4, 5, -6], [2, 3]⟩ (some (.int 1)) (some [0]) false = .ok ⟨[.rat 5, .rat 7, .rat 9], [3]⟩ := by
  decide +kernel
example : normX ⟨[1, -2, 3, -4, 5, -6], [2, 3]⟩ (some .inf) (some [-1]) true = .ok ⟨[.rat 3, .rat 6], [2]⟩ := by decide +kernel
example : normX ⟨[1, -2, 3, -4, 5, -6], [2, 3]⟩ none (some [1]) false = .ok ⟨[.root 2 14, .root 2 77], [2]⟩ := by decide +kernel
example : normX ⟨[1, -2, 0, -4, 5, 0], [2, 3]⟩ (some (.int 0)) (some [0]) false = .ok ⟨[.rat 2, .rat 2, .rat 0], [3]⟩ := by
  decide +kernel
-- matrix norms: max column sum 9, max row sum 15; `keepdims` appends one unit axis
example : colAbsSums ⟨[1, -2, 3, -4, 5, -6], [2, 3]⟩ 2 3 = [5, 7, 9] ∧ rowAbsSums ⟨[1, -2, 3, -4, 5, -6], [2, 3]⟩ 2 3 = [6, 15] := by
  decide +kernel
example : normX ⟨[1, -2, 3, -4, 5, -6], [2, 3]⟩ (some (.int 1)) (some [0, 1]) true = .ok ⟨[.rat 9], [1, 1]⟩ := by decide +kernel
example : normX ⟨[1, -2, 3, -4, 5, -6], [2, 3]⟩ (some .inf) (some [-2, -1]) false = .ok ⟨[.rat 15], [1]⟩ := by decide +kernel
example : normX ⟨[1, -2, 3, -4, 5, -6], [2, 3]⟩ (some .negInf) none false = .ok ⟨[.rat 6], [1]⟩ := by decide +kernel
-- a stack: the sign trick on the second axis makes `(1, 2)` of a rank-3 array reduce the STACK axis second
-- (numpy: [6, 15], the 1-norm of each matrix; see fixes/C15-norm-keepdims-and-stack-axes.md)
example : normX ⟨[1, 2, 3, 4, 5, 6, 7, 9], [2, 2, 2]⟩ (some (.int 1)) (some [1, 2]) false = .ok ⟨[.rat 12, .rat 15], [2]⟩ := by
  decide +kernel
-- negative orders
example : normX ⟨[1, -2, 2], [3]⟩ (some (.int (-1))) none false = .ok ⟨[.rat (1 / 2)], [1]⟩ := by decide +kernel
example : normX ⟨[1, -2, 2], [3]⟩ (some (.int (-2))) (some [0]) false = .ok ⟨[.root 2 (2 / 3)], [1]⟩ := by decide +kernel
example : normX ⟨[1, -2, 0, 4], [2, 2]⟩ (some (.int (-2))) (some [1]) false = .ok ⟨[.root 2 (4 / 5), .rat 0], [2]⟩ := by
  decide +kernel
-- arrays without elements, 0-dimensional operands
example : normX ⟨[], [1, 0]⟩ (some (.int 1)) (some [1]) false = .ok ⟨[.rat 0], [1]⟩ := by decide +kernel
example : normX ⟨[], [2, 0]⟩ (some (.int 1)) (some [1]) false = .err .ShapeMustMatchValuesLength := by decide +kernel
example : normX ⟨[], [2, 0]⟩ (some (.int 1)) (some [0]) false = .err .ParameterError := by decide +kernel
example : normX ⟨[], [1, 0]⟩ (some .inf) (some [0, 1]) true = .ok ⟨[.rat 0], [1, 1]⟩ := by decide +kernel
example : normX ⟨[5], []⟩ (some (.int 3)) (some [0]) false = .ok ⟨[.root 3 125], [1]⟩ := by decide +kernel
example : normX ⟨[5], []⟩ (some (.int 2)) (some [0]) false = .err .AxisOutOfBounds := by decide +kernel
example : solveArr ⟨[1, 2, 3, 4], [2, 2]⟩ ⟨[5], []⟩ = .panic := by decide +kernel
example : solveArr ⟨[1, 2, 3, 4, 5, 6], [2, 3]⟩ ⟨[5], []⟩ = .err .MustBeEqual := by decide +kernel

end ArrModel.C15
