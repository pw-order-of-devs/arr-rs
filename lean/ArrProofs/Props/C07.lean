import ArrProofs.Lemmas.C07
import ArrProofs.Lemmas.GenCore
import ArrProofs.Lemmas.GenCoreAxis
/-!
# C07 — reshaping operations never reorder, drop or invent elements

Model under test: `ArrModel/Reshape.lean` (`reshape`, `ravel`) and `ArrModel/Manip.lean` (`resize`, `cycleTake`,
`atleast`, `expandDims`, `squeeze`, `create`).  All statements are for every rank, every length, every axis list
and every chain length.  Specification vocabulary (defined in `Lemmas/C07.lean`):
`insertAll sh ps` = insert a `1` at each position of `ps` in turn, `dropIdx P sh` = the entries of `sh` whose index
does not satisfy `P`.
-/
namespace ArrModel.C07
open ArrModel Arr
variable {α : Type}

/-! ## reshape, ravel -/

/-- **reshape** succeeds exactly when the element count matches, and then re-wraps the very same element list -/
theorem reshape_ok_iff (a : Arr α) (s : List Nat) (r : Arr α) :
    a.reshape s = .ok r ↔ s.prod = a.elems.length ∧ r = ⟨a.elems, s⟩ := Arr.reshape_eq_ok_iff

/-- … and otherwise it is the error `ShapeMustMatchValuesLength` (never a panic) -/
theorem reshape_err (a : Arr α) (s : List Nat) (h : s.prod ≠ a.elems.length) :
    a.reshape s = .err .ShapeMustMatchValuesLength := Arr.new_of_not_prod h

/-- **ravel** keeps the elements, the shape is `[len]`, the result is well formed -/
theorem ravel_spec (a : Arr α) : a.ravel.elems = a.elems ∧ a.ravel.shape = [a.elems.length] ∧ a.ravel.WF :=
  ⟨rfl, rfl, a.ravel_wf⟩

/-! ## every operation keeps the flat element list -/

theorem atleast_elems (a r : Arr α) (n : Nat) (h : a.atleast n = .ok r) : r.elems = a.elems :=
  (a.atleast_rewrap n r h).1

theorem expandDims_elems (a r : Arr α) (axes : List Int) (h : a.expandDims axes = .ok r) : r.elems = a.elems :=
  (a.expandDims_rewrap axes r h).1

theorem squeeze_elems (a r : Arr α) (axes : Option (List Int)) (h : a.squeeze axes = .ok r) :
    r.elems = a.elems :=
  (a.squeeze_rewrap axes r h).1

/-- the shapes `atleast` produces, rank by rank: `[d] ↦ [1,d]` / `[1,d,1]`, `[d0,d1] ↦ [d0,d1,1]`, `[] ↦ [1,1]` / `[1,1,1]` -/
theorem atleast_shapes (e : List α) :
    (∀ d, d = e.length → (⟨e, [d]⟩ : Arr α).atleast 2 = .ok ⟨e, [1, d]⟩ ∧ (⟨e, [d]⟩ : Arr α).atleast 3 = .ok ⟨e, [1, d, 1]⟩) ∧
    (∀ d0 d1, d0 * d1 = e.length → (⟨e, [d0, d1]⟩ : Arr α).atleast 3 = .ok ⟨e, [d0, d1, 1]⟩) ∧
    (e.length = 1 → (⟨e, []⟩ : Arr α).atleast 2 = .ok ⟨e, [1, 1]⟩ ∧ (⟨e, []⟩ : Arr α).atleast 3 = .ok ⟨e, [1, 1, 1]⟩) := by
  -- each call evaluates to `Arr.new e s` for the shape `s` shown; what is left is the element count of `s`
  refine ⟨fun d h => ⟨?_, ?_⟩, fun d0 d1 h => ?_, fun h => ⟨?_, ?_⟩⟩
  · exact Arr.new_of_prod (s := [1, d]) (by simp [h])
  · exact Arr.new_of_prod (s := [1, d, 1]) (by simp [h])
  · exact Arr.new_of_prod (s := [d0, d1, 1]) (by simp [h])
  · exact Arr.new_of_prod (s := [1, 1]) h.symm
  · exact Arr.new_of_prod (s := [1, 1, 1]) h.symm

/-- a rank that is already high enough is left alone; `n > 3` is refused -/
theorem atleast_noop (a : Arr α) (n : Nat) (hn : n ≤ 3) (h : n ≤ a.ndim) : a.atleast n = .ok a := by
  match n, hn with
  | 0, _ => rfl
  | 1, _ => rfl
  | 2, _ => exact if_pos h
  | 3, _ => exact if_pos h

theorem atleast_unsupported (a : Arr α) (n : Nat) (hn : 3 < n) : a.atleast n = .err .UnsupportedDimension := by
  match n, hn with
  | n + 4, _ => rfl

/-- **atleast(n)** on a well-formed array, `n ≤ 3`: succeeds, elements kept, well formed, and (for rank ≥ 1) the rank
is raised to `max rank n`.  (Rank 0 with `n = 1` is returned unchanged: `atleast_1d` tests `!ndim >= 1`, a bitwise
NOT, so it never reshapes.) -/
theorem atleast_ok (a : Arr α) (n : Nat) (hwf : a.WF) (hn : n ≤ 3) :
    ∃ r, a.atleast n = .ok r ∧ r.elems = a.elems ∧ r.WF ∧ (1 ≤ a.ndim → r.ndim = max a.ndim n) := by
  have key : ∃ r, a.atleast n = .ok r ∧ (1 ≤ a.ndim → r.ndim = max a.ndim n) := by
    have noop : n ≤ a.ndim → ∃ r, a.atleast n = .ok r ∧ (1 ≤ a.ndim → r.ndim = max a.ndim n) :=
      fun h => ⟨a, atleast_noop a n hn h, fun _ => (Nat.max_eq_left h).symm⟩
    obtain ⟨e, sh⟩ := a
    have hs := atleast_shapes e
    match n, sh, hn, hwf with
    | 0, _, _, _ => exact noop (Nat.zero_le _)
    | 1, [], _, _ => exact ⟨_, rfl, nofun⟩
    | 1, _ :: _, _, _ => exact noop (Nat.le_add_left 1 _)
    | 2, [], _, hwf => exact ⟨_, (hs.2.2 hwf).1, nofun⟩
    | 2, [d], _, hwf => exact ⟨_, (hs.1 d (by simpa [Arr.WF] using hwf.symm)).1, fun _ => rfl⟩
    | 2, _ :: _ :: _, _, _ => exact noop (Nat.le_add_left 2 _)
    | 3, [], _, hwf => exact ⟨_, (hs.2.2 hwf).2, nofun⟩
    | 3, [d], _, hwf => exact ⟨_, (hs.1 d (by simpa [Arr.WF] using hwf.symm)).2, fun _ => rfl⟩
    | 3, [d0, d1], _, hwf => exact ⟨_, hs.2.1 d0 d1 (by simpa [Arr.WF] using hwf.symm), fun _ => rfl⟩
    | 3, _ :: _ :: _ :: _, _, _ => exact noop (Nat.le_add_left 3 _)
  obtain ⟨r, h, hnd⟩ := key
  exact ⟨r, h, (a.atleast_rewrap n r h).1, (a.atleast_rewrap n r h).2 hwf, hnd⟩

/-! ## chains -/

/-- one reshaping step -/
inductive Step
  | reshape (s : List Nat)
  | ravel
  | atleast (n : Nat)
  | expand (axes : List Int)
  | squeeze (axes : Option (List Int))

/-- a step is the model's own operation -/
def Step.apply (a : Arr α) : Step → Res (Arr α)
  | .reshape s => a.reshape s
  | .ravel => .ok a.ravel
  | .atleast n => a.atleast n
  | .expand axes => a.expandDims axes
  | .squeeze axes => a.squeeze axes

/-- run a chain left to right; the first error / panic ends it -/
def run (a : Arr α) : List Step → Res (Arr α)
  | [] => .ok a
  | s :: rest => s.apply a >>= fun b => run b rest

theorem step_rewrap (a : Arr α) (s : Step) : Res.All a.Rewrap (s.apply a) := by
  cases s with
  | reshape s => exact a.reshape_rewrap s
  | ravel => exact .ok ⟨rfl, fun _ => a.ravel_wf⟩
  | atleast n => exact a.atleast_rewrap n
  | expand axes => exact a.expandDims_rewrap axes
  | squeeze axes => exact a.squeeze_rewrap axes

/-- every chain re-wraps the array it starts from; the element and well-formedness theorems below are its two halves -/
theorem run_rewrap (steps : List Step) : ∀ a : Arr α, Res.All a.Rewrap (run a steps) := by
  induction steps with
  | nil => exact fun a => .ok (.refl a)
  | cons s rest ih => exact fun a => .bind (step_rewrap a s) fun b hb => (ih b).imp fun _ => hb.trans

/-- **any chain** of reshape / ravel / atleast / expand_dims / squeeze returns exactly the same elements in the
same flat order -/
theorem run_elems (steps : List Step) : ∀ (a r : Arr α), run a steps = .ok r → r.elems = a.elems :=
  fun a r h => (run_rewrap steps a r h).1

/-- **… so any sequence of them that ends in the original shape is the identity** -/
theorem run_identity (steps : List Step) (a r : Arr α) (h : run a steps = .ok r) (hs : r.shape = a.shape) : r = a := by
  have he := run_elems steps a r h
  cases r; cases a; simp only at he hs; rw [he, hs]

theorem step_wf (a r : Arr α) (s : Step) (hwf : a.WF) (h : s.apply a = .ok r) : r.WF :=
  (step_rewrap a s r h).2 hwf

/-- chains keep the well-formedness invariant `len = ∏ shape` -/
theorem run_wf (steps : List Step) : ∀ (a r : Arr α), a.WF → run a steps = .ok r → r.WF :=
  fun a r hwf h => (run_rewrap steps a r h).2 hwf

/-! ## expand_dims -/

/-- the positions `expand_dims` inserts at: each request normalised against the *final* rank, sorted ascending -/
def expandPos (nd : Nat) (axes : List Int) : List Nat :=
  sortNat (axes.map (fun i => normalizeAxisDim nd i axes.length))

/-- negative requests count from the end of the result (rank `nd + n`), non-negative ones are taken as they are -/
theorem normalizeAxisDim_spec (nd n : Nat) (i : Int) :
    (0 ≤ i → (normalizeAxisDim nd i n : Int) = i) ∧
    (-((nd + n : Nat) : Int) ≤ i → i < 0 → (normalizeAxisDim nd i n : Int) = i + (nd + n : Nat)) := by
  unfold normalizeAxisDim
  constructor
  · intro h; rw [if_neg (by omega)]; omega
  · intro h1 h2
    rw [if_pos h2]
    simp only
    rw [if_neg (by omega)]
    omega

/-- **expand_dims, the accepted case** (`k`-th smallest request `≤ rank + k` — exactly what the code checks):
the elements are kept, the rank grows by the number of requests, the result has a `1` at every requested position,
and erasing the requested positions (largest first) gives back the old shape.  Repeated requests are allowed here. -/
theorem expandDims_spec (a : Arr α) (axes : List Int) (hwf : a.WF)
    (hpos : ∀ k (h : k < (expandPos a.ndim axes).length), (expandPos a.ndim axes)[k] ≤ a.ndim + k) :
    ∃ r, a.expandDims axes = .ok r ∧ r.elems = a.elems ∧ r.WF ∧ r.ndim = a.ndim + axes.length ∧
      (∀ i ∈ axes, r.shape[normalizeAxisDim a.ndim i axes.length]? = some 1) ∧
      (expandPos a.ndim axes).foldr (fun p s => s.eraseIdx p) r.shape = a.shape := by
  have hok : okPos a.ndim (expandPos a.ndim axes) := (okPos_iff _ _).2 hpos
  refine ⟨_, Arr.expandDims_ok a axes hwf hok, rfl, hwf.trans (insertAll_prod _ _).symm, ?_, ?_, erase_insertAll _ _⟩
  · exact (insertAll_length _ _ hok).trans (congrArg _ (length_sortNat_map _ axes))
  · exact fun i hi => insertAll_one _ _ _ (sortNat_sorted _) hok (.inl (mem_sortNat_map hi))

/-- **expand_dims with distinct positions inside the final rank** (the numpy contract) always succeeds, and the
result shape is the old shape with unit axes at exactly the requested positions: dropping the entries at the
requested indices gives the old shape back. -/
theorem expandDims_distinct (a : Arr α) (axes : List Int) (hwf : a.WF)
    (hnd : (axes.map (fun i => normalizeAxisDim a.ndim i axes.length)).Nodup)
    (hin : ∀ i ∈ axes, normalizeAxisDim a.ndim i axes.length < a.ndim + axes.length) :
    ∃ r, a.expandDims axes = .ok r ∧ r.elems = a.elems ∧ r.ndim = a.ndim + axes.length ∧
      (∀ i ∈ axes, r.shape[normalizeAxisDim a.ndim i axes.length]? = some 1) ∧
      dropIdx (fun p => decide (p ∈ axes.map (fun i => normalizeAxisDim a.ndim i axes.length))) r.shape = a.shape := by
  have hok : okPos a.ndim (expandPos a.ndim axes) := by
    refine okPos_of_strict_bounded _ _ (sortNat_strict hnd) fun p hp => ?_
    obtain ⟨i, hi, rfl⟩ := List.mem_map.1 (mem_sortNat.1 hp)
    rw [expandPos, length_sortNat_map]; exact hin i hi
  obtain ⟨r, h1, h2, _, h4, h5, h6⟩ := expandDims_spec a axes hwf ((okPos_iff _ _).1 hok)
  refine ⟨r, h1, h2, h4, h5, ?_⟩
  -- erasing largest first is a left fold over the reversed (strictly descending) positions
  rw [← h6, ← List.foldl_reverse]
  exact ((eraseFold_eq_dropIdx _ _ (sortNat_reverse_desc hnd)).trans (dropIdx_sortNat_reverse _ _)).symm

/-- **a request beyond the result rank is an error, never a panic** -/
theorem expandDims_out_of_range (a : Arr α) (axes : List Int)
    (h : ∃ i ∈ axes, a.ndim + axes.length ≤ normalizeAxisDim a.ndim i axes.length) :
    a.expandDims axes = .err .AxisOutOfBounds := by
  refine Arr.expandDims_err a axes fun hok => ?_
  obtain ⟨i, hi, hge⟩ := h
  have hm : normalizeAxisDim a.ndim i axes.length ∈ expandPos a.ndim axes := mem_sortNat_map hi
  obtain ⟨k, hk, hkv⟩ := List.mem_iff_getElem.1 hm
  have := (okPos_iff _ _).1 hok k hk
  have hl : (expandPos a.ndim axes).length = axes.length := length_sortNat_map _ axes
  change (expandPos a.ndim axes)[k] ≤ a.ndim + k at this
  omega

/-- `expand_dims` on a well-formed array never panics: it is the spec'd success or `AxisOutOfBounds` -/
theorem expandDims_total (a : Arr α) (axes : List Int) (hwf : a.WF) :
    (∃ r, a.expandDims axes = .ok r) ∨ a.expandDims axes = .err .AxisOutOfBounds := by
  by_cases hok : okPos a.ndim (expandPos a.ndim axes)
  · exact .inl ⟨_, Arr.expandDims_ok a axes hwf hok⟩
  · exact .inr (Arr.expandDims_err a axes hok)

/-! ## squeeze -/

/-- **squeeze(None)** drops every unit axis and nothing else; always succeeds on a well-formed array -/
theorem squeeze_none_shape (a : Arr α) (hwf : a.WF) :
    a.squeeze none = .ok ⟨a.elems, a.shape.filter (fun d => d != 1)⟩ :=
  Arr.reshape_of_prod hwf (prod_filter_ne_one _)

/-- **removing a named axis is allowed only when its length is one** (axes in range and named once each — the two
earlier checks of the code; see `squeeze_out_of_range`, `squeeze_repeated_axis`, and `squeeze_nonunit_is_error` for
the unconditional form) -/
theorem squeeze_rejects_nonunit (a : Arr α) (axes : List Int)
    (hin : ∀ i ∈ axes, normalizeAxis a.ndim i < a.ndim)
    (hnd : (axes.map (normalizeAxis a.ndim)).Nodup)
    (h : ∃ i ∈ axes, a.shape[normalizeAxis a.ndim i]? ≠ some 1) :
    a.squeeze (some axes) = .err .SqueezeShapeOfAxisMustBeOne := by
  obtain ⟨i, hi, hne⟩ := h
  have hlt := squeezePos_lt hin
  unfold Arr.squeeze
  simp only [if_neg (not_any_ge hlt), if_neg (not_not_intro (sortNat_reverse_nodup.2 hnd)), mapM'_idx_ok a.shape _ hlt,
    Res.bind_ok, if_pos ((any_ne_one_iff hlt).2 ⟨_, mem_squeezePos.2 ⟨i, hi, rfl⟩, hne⟩)]

/-- an axis named twice (also through two spellings, e.g. `0` and `-ndim`) is the error `MustBeUnique`, never a panic -/
theorem squeeze_repeated_axis (a : Arr α) (axes : List Int)
    (hin : ∀ i ∈ axes, normalizeAxis a.ndim i < a.ndim)
    (hnd : ¬ (axes.map (normalizeAxis a.ndim)).Nodup) :
    a.squeeze (some axes) = .err .MustBeUnique :=
  (if_neg (not_any_ge (squeezePos_lt hin))).trans (if_pos fun h => hnd (sortNat_reverse_nodup.1 h))

/-- a named axis outside the rank is an error, never a panic -/
theorem squeeze_out_of_range (a : Arr α) (axes : List Int) (h : ∃ i ∈ axes, a.ndim ≤ normalizeAxis a.ndim i) :
    a.squeeze (some axes) = .err .AxisOutOfBounds :=
  have ⟨i, hi, hge⟩ := h
  if_pos (List.any_eq_true.2 ⟨_, mem_squeezePos.2 ⟨i, hi, rfl⟩, decide_eq_true hge⟩)

/-- hence: whenever some named axis has a length other than one (or does not exist), `squeeze` is an error -/
theorem squeeze_nonunit_is_error (a : Arr α) (axes : List Int)
    (h : ∃ i ∈ axes, a.shape[normalizeAxis a.ndim i]? ≠ some 1) : ∃ e, a.squeeze (some axes) = .err e := by
  by_cases hout : ∃ i ∈ axes, a.ndim ≤ normalizeAxis a.ndim i
  · exact ⟨_, squeeze_out_of_range a axes hout⟩
  · have hin : ∀ i ∈ axes, normalizeAxis a.ndim i < a.ndim := fun i hi => Nat.lt_of_not_le fun hge => hout ⟨i, hi, hge⟩
    by_cases hnd : (axes.map (normalizeAxis a.ndim)).Nodup
    · exact ⟨_, squeeze_rejects_nonunit a axes hin hnd h⟩
    · exact ⟨_, squeeze_repeated_axis a axes hin hnd⟩

/-- **squeeze(Some(axes))**, distinct axes all of length one: succeeds, elements kept, and the shape is the old shape
without the entries at the named indices (all ranks, any number of axes, any order, negative spellings) -/
theorem squeeze_named_ok (a : Arr α) (axes : List Int) (hwf : a.WF)
    (hnd : (axes.map (normalizeAxis a.ndim)).Nodup)
    (h1 : ∀ i ∈ axes, a.shape[normalizeAxis a.ndim i]? = some 1) :
    a.squeeze (some axes)
      = .ok ⟨a.elems, dropIdx (fun p => decide (p ∈ axes.map (normalizeAxis a.ndim))) a.shape⟩ := by
  have hlt := squeezePos_lt (n := a.ndim) fun i hi => (List.getElem?_eq_some_iff.1 (h1 i hi)).1
  have hone : ∀ x ∈ (sortNat (axes.map (normalizeAxis a.ndim))).reverse, a.shape[x]? = some 1 :=
    fun _ hx => have ⟨i, hi, e⟩ := mem_squeezePos.1 hx; e ▸ h1 i hi
  have hunit := mt (any_ne_one_iff hlt).1 fun ⟨x, hx, hne⟩ => hne (hone x hx)
  have hf := remove_fold_ok _ a.shape (sortNat_reverse_desc hnd) hone
  unfold Arr.squeeze
  simp only [if_neg (not_any_ge hlt), if_neg (not_not_intro (sortNat_reverse_nodup.2 hnd)), mapM'_idx_ok a.shape _ hlt,
    Res.bind_ok, if_neg hunit, hf.1]
  rw [Arr.reshape_of_prod hwf hf.2, eraseFold_eq_dropIdx _ _ (sortNat_reverse_desc hnd), dropIdx_sortNat_reverse]

/-- single named axis: the shape is the old shape with that one position erased -/
theorem squeeze_single (a : Arr α) (i : Int) (hwf : a.WF) (h1 : a.shape[normalizeAxis a.ndim i]? = some 1) :
    a.squeeze (some [i]) = .ok ⟨a.elems, a.shape.eraseIdx (normalizeAxis a.ndim i)⟩ := by
  rw [squeeze_named_ok a [i] hwf (List.pairwise_singleton _ _) (by simpa using h1)]
  exact congrArg (fun s => Res.ok (Arr.mk a.elems s))
    (eraseFold_eq_dropIdx [normalizeAxis a.ndim i] a.shape (List.pairwise_singleton _ _)).symm

/-- `squeeze` on a well-formed array never panics (any axis list, repeated or out of range included) -/
theorem squeeze_total (a : Arr α) (axes : Option (List Int)) (hwf : a.WF) : a.squeeze axes ≠ .panic := by
  cases axes with
  | none => rw [squeeze_none_shape a hwf]; nofun
  | some axes =>
    by_cases h1 : ∃ i ∈ axes, a.shape[normalizeAxis a.ndim i]? ≠ some 1
    · obtain ⟨e, he⟩ := squeeze_nonunit_is_error a axes h1
      rw [he]; nofun
    · have h1 : ∀ i ∈ axes, a.shape[normalizeAxis a.ndim i]? = some 1 :=
        fun i hi => Decidable.byContradiction fun hne => h1 ⟨i, hi, hne⟩
      by_cases hnd : (axes.map (normalizeAxis a.ndim)).Nodup
      · rw [squeeze_named_ok a axes hwf hnd h1]; nofun
      · rw [squeeze_repeated_axis a axes (fun i hi => (List.getElem?_eq_some_iff.1 (h1 i hi)).1) hnd]; nofun

/-! ## resize, cycle_take -/

/-- **resize fills the target shape by cycling through the source elements in order** -/
theorem resize_at (a : Arr α) (s : List Nat) (hne : a.elems ≠ []) :
    ∃ r, a.resize s = .ok r ∧ r.shape = s ∧ r.WF ∧
      ∀ i, i < s.prod → r.elems[i]? = a.elems[i % a.elems.length]? :=
  ⟨⟨cycleTake a.elems s.prod, s⟩, Arr.new_of_prod (cycleTake_length _ hne _).symm, rfl, cycleTake_length _ hne _,
    fun _ hi => cycleTake_getElem? _ hne _ _ hi⟩

/-- resizing an empty source: only an empty target works (there is nothing to cycle through) -/
theorem resize_empty (a : Arr α) (s : List Nat) (he : a.elems = []) :
    (s.prod = 0 → a.resize s = .ok ⟨[], s⟩) ∧ (s.prod ≠ 0 → a.resize s = .err .ShapeMustMatchValuesLength) := by
  unfold Arr.resize Arr.reshape
  rw [he, cycleTake_nil]
  exact ⟨fun h => Arr.new_of_prod h, fun h => Arr.new_of_not_prod h⟩

/-- `cycle_take(n)`: a flat array of length `n` whose `i`-th element is source element `i mod len` -/
theorem cycleTake_at (a : Arr α) (n : Nat) (hne : a.elems ≠ []) :
    (a.cycleTakeArr n).shape = [n] ∧ (a.cycleTakeArr n).WF ∧
      ∀ i, i < n → (a.cycleTakeArr n).elems[i]? = a.elems[i % a.elems.length]? :=
  ⟨congrArg (fun k => [k]) (cycleTake_length _ hne n), Arr.flat_wf _, fun _ hi => cycleTake_getElem? _ hne _ _ hi⟩

/-! ## create(ndmin) -/

/-- **create with ndmin** left-pads the shape with ones up to rank `ndmin`, keeps the elements; a count mismatch is
the error `ShapeMustMatchValuesLength` whatever `ndmin` is -/
theorem create_ndmin_spec (elems : List α) (shape : List Nat) (ndmin : Option Nat) :
    (shape.prod = elems.length →
      (shape.length < ndmin.getD 0 →
        Arr.create elems shape ndmin = .ok ⟨elems, List.replicate (ndmin.getD 0 - shape.length) 1 ++ shape⟩ ∧
        (List.replicate (ndmin.getD 0 - shape.length) 1 ++ shape).length = ndmin.getD 0) ∧
      (ndmin.getD 0 ≤ shape.length → Arr.create elems shape ndmin = .ok ⟨elems, shape⟩)) ∧
    (shape.prod ≠ elems.length → Arr.create elems shape ndmin = .err .ShapeMustMatchValuesLength) := by
  refine ⟨fun hp => ⟨fun hlt => ⟨?_, ?_⟩, fun hge => ?_⟩, fun hp => ?_⟩
  · unfold Arr.create
    simp only [gt_iff_lt, hlt, if_true, Arr.new_of_prod hp, Res.bind_ok]
    exact Arr.new_of_prod (by rw [List.prod_append, prod_replicate_one, Nat.one_mul, hp])
  · simp only [List.length_append, List.length_replicate]; omega
  · unfold Arr.create
    simp only [gt_iff_lt, Nat.not_lt.2 hge, if_false, Arr.new_of_prod hp]
  · unfold Arr.create
    simp only [Arr.new_of_not_prod hp, Res.bind_err, ite_self]

/-! ## non-vacuity -/

example : (⟨[1, 2, 3, 4, 5, 6], [2, 3]⟩ : Arr Nat).reshape [3, 2] = .ok ⟨[1, 2, 3, 4, 5, 6], [3, 2]⟩ := by decide
example : (⟨[1, 2, 3, 4, 5, 6], [2, 3]⟩ : Arr Nat).reshape [4, 2] = .err .ShapeMustMatchValuesLength := by decide
example : (⟨[1, 2, 3], [3]⟩ : Arr Nat).atleast 3 = .ok ⟨[1, 2, 3], [1, 3, 1]⟩ := by decide
example : (⟨[1, 2, 3], [3]⟩ : Arr Nat).atleast 4 = .err .UnsupportedDimension := by decide
example : (⟨[1, 2, 3], [1, 3, 1]⟩ : Arr Nat).squeeze none = .ok ⟨[1, 2, 3], [3]⟩ := by decide
example : (⟨[1, 2, 3], [3]⟩ : Arr Nat).resize [2, 4] = .ok ⟨[1, 2, 3, 1, 2, 3, 1, 2], [2, 4]⟩ := by decide
example : Arr.create [1, 2, 3, 4] [2, 2] (some 4) = .ok (⟨[1, 2, 3, 4], [1, 1, 2, 2]⟩ : Arr Nat) := by decide
/-- a chain that ends in the original shape: reshape, ravel, atleast, squeeze(None), reshape back -/
example : run (⟨[1, 2, 3, 4, 5, 6], [2, 3]⟩ : Arr Nat)
    [.reshape [3, 2], .ravel, .atleast 3, .squeeze none, .reshape [2, 3]] = .ok ⟨[1, 2, 3, 4, 5, 6], [2, 3]⟩ := by decide
/-- the hypotheses of `expandDims_distinct` are satisfiable: `expand_dims([0, -1])` on shape `[2]` gives `[1, 2, 1]` -/
example : ∃ r, (⟨[7, 8], [2]⟩ : Arr Nat).expandDims [0, -1] = .ok r ∧ r.elems = [7, 8] ∧ r.ndim = 3 ∧
    r.shape[0]? = some 1 ∧ r.shape[2]? = some 1 ∧ dropIdx (fun p => decide (p ∈ [0, 2])) r.shape = [2] := by
  obtain ⟨r, h1, h2, h3, h4, h5⟩ := expandDims_distinct (⟨[7, 8], [2]⟩ : Arr Nat) [0, -1] (by decide)
    (by decide) (by decide)
  have h40 := h4 0 (by simp)
  have h41 := h4 (-1) (by simp)
  exact ⟨r, h1, h2, h3, h40, h41, h5⟩
/-- the hypotheses of `squeeze_named_ok` are satisfiable: squeezing axes `-1, 0` of `[1, 3, 1]` gives `[3]` -/
example : (⟨[1, 2, 3], [1, 3, 1]⟩ : Arr Nat).squeeze (some [-1, 0]) = .ok ⟨[1, 2, 3], [3]⟩ :=
  squeeze_named_ok (⟨[1, 2, 3], [1, 3, 1]⟩ : Arr Nat) [-1, 0] (by decide) (by decide) (by decide)
example : (⟨[1, 2, 3], [1, 3, 1]⟩ : Arr Nat).squeeze (some [1]) = .err .SqueezeShapeOfAxisMustBeOne :=
  squeeze_rejects_nonunit _ [1] (by decide) (by decide) (by decide)
/-- one axis under two spellings -/
example : (⟨[5], [1]⟩ : Arr Nat).squeeze (some [0, -1]) = .err .MustBeUnique :=
  squeeze_repeated_axis _ [0, -1] (by decide) (by decide)
example : (⟨[1, 2, 3], [1, 3, 1]⟩ : Arr Nat).squeeze (some [3]) = .err .AxisOutOfBounds :=
  squeeze_out_of_range _ [3] (by decide)
example : (⟨[7, 8], [2]⟩ : Arr Nat).expandDims [3] = .err .AxisOutOfBounds :=
  expandDims_out_of_range _ [3] (by decide)

/-! ## the same properties for the code as translated from the source

`ArrModel.Gen.Core.Array_reshape`, `Array_ravel`, `Array_atleast`, `Array_resize`, `Array_create` are regenerated from
`src/core/operations/manipulate.rs` / `create.rs` by `tools/rs2lean.py` on every run; `ArrProofs/Lemmas/GenCore.lean` proves
them equal to the hand-written model for all inputs, so the theorems above transfer. -/

open ArrModel.Gen.Core in
/-- **reshape (translated source)** succeeds exactly when the element count matches, and then re-wraps the very same element list -/
theorem gen_reshape_ok_iff (a : Arr α) (s : List Nat) (r : Arr α) :
    Array_reshape a s = .ok r ↔ s.prod = a.elems.length ∧ r = ⟨a.elems, s⟩ := by
  rw [reshape_eq]; exact reshape_ok_iff a s r

open ArrModel.Gen.Core in
theorem gen_reshape_err (a : Arr α) (s : List Nat) (h : s.prod ≠ a.elems.length) :
    Array_reshape a s = .err .ShapeMustMatchValuesLength := by
  rw [reshape_eq]; exact reshape_err a s h

open ArrModel.Gen.Core in
/-- **ravel (translated source)** always succeeds, keeps the elements, the shape is `[len]`, the result is well formed -/
theorem gen_ravel_spec (a : Arr α) :
    ∃ r, Array_ravel a = .ok r ∧ r.elems = a.elems ∧ r.shape = [a.elems.length] ∧ r.WF :=
  ⟨a.ravel, ravel_eq a, (ravel_spec a).1, (ravel_spec a).2.1, (ravel_spec a).2.2⟩

open ArrModel.Gen.Core in
/-- **atleast (translated source)** keeps the element list; (rank below `usize::MAX`, where `!ndim >= 1` holds) -/
theorem gen_atleast_elems (a r : Arr α) (n : Nat) (hr : a.ndim < Rs.USIZE - 1) (h : Array_atleast a n = .ok r) :
    r.elems = a.elems := by
  rw [atleast_eq a n hr] at h; exact atleast_elems a r n h

open ArrModel.Gen.Core in
theorem gen_atleast_ok (a : Arr α) (n : Nat) (hr : a.ndim < Rs.USIZE - 1) (hwf : a.WF) (hn : n ≤ 3) :
    ∃ r, Array_atleast a n = .ok r ∧ r.elems = a.elems ∧ r.WF ∧ (1 ≤ a.ndim → r.ndim = max a.ndim n) := by
  rw [atleast_eq a n hr]; exact atleast_ok a n hwf hn

open ArrModel.Gen.Core in
theorem gen_atleast_unsupported (a : Arr α) (n : Nat) (hr : a.ndim < Rs.USIZE - 1) (hn : 3 < n) :
    Array_atleast a n = .err .UnsupportedDimension := by
  rw [atleast_eq a n hr]; exact atleast_unsupported a n hn

open ArrModel.Gen.Core in
/-- **resize (translated source) fills the target shape by cycling through the source elements in order** -/
theorem gen_resize_at (a : Arr α) (s : List Nat) (hne : a.elems ≠ []) :
    ∃ r, Array_resize a s = .ok r ∧ r.shape = s ∧ r.WF ∧
      ∀ i, i < s.prod → r.elems[i]? = a.elems[i % a.elems.length]? := by
  rw [resize_eq]; exact resize_at a s hne

open ArrModel.Gen.Core in
theorem gen_resize_empty (a : Arr α) (s : List Nat) (he : a.elems = []) :
    (s.prod = 0 → Array_resize a s = .ok ⟨[], s⟩) ∧ (s.prod ≠ 0 → Array_resize a s = .err .ShapeMustMatchValuesLength) := by
  rw [resize_eq]; exact resize_empty a s he

open ArrModel.Gen.Core in
/-- **create with ndmin (translated source)** is the modelled `create`: left-pads the shape with ones, keeps the elements -/
theorem gen_create_eq (elems : List α) (shape : List Nat) (ndmin : Option Nat) :
    Array_create elems shape ndmin = Arr.create elems shape ndmin := create_eq elems shape ndmin

example : ArrModel.Gen.Core.Array_reshape (⟨[1, 2, 3, 4, 5, 6], [2, 3]⟩ : Arr Nat) [3, 2] = .ok ⟨[1, 2, 3, 4, 5, 6], [3, 2]⟩ := by decide
example : ArrModel.Gen.Core.Array_resize (⟨[1, 2, 3], [3]⟩ : Arr Nat) [2, 4] = .ok ⟨[1, 2, 3, 1, 2, 3, 1, 2], [2, 4]⟩ := by decide
example : ArrModel.Gen.Core.Array_atleast (⟨[1, 2, 3], [3]⟩ : Arr Nat) 3 = .ok ⟨[1, 2, 3], [1, 3, 1]⟩ := by decide

/-! ### `expand_dims`, `squeeze` as translated from `src/core/operations/axis.rs` -/

open ArrModel.Gen.Core in
/-- **expand_dims (translated source)** keeps the element list (through the equivalence up to the error variant) -/
theorem gen_expand_dims_elems (a r : Arr α) (axes : List Int) (h : Array_expand_dims a axes = .ok r) : r.elems = a.elems :=
  expandDims_elems a r axes (Res.sameClass_ok_left (h ▸ expand_dims_sim a axes))

open ArrModel.Gen.Core in
/-- … and on a well-formed array is the spec'd success or an error, never a panic -/
theorem gen_expand_dims_total (a : Arr α) (axes : List Int) (hwf : a.WF) :
    (∃ r, Array_expand_dims a axes = .ok r) ∨ ∃ e, Array_expand_dims a axes = .err e := by
  rcases expandDims_total a axes hwf with ⟨r, hr⟩ | he
  · exact .inl ⟨r, Res.sameClass_ok_right (hr ▸ expand_dims_sim a axes)⟩
  · exact .inr (Res.sameClass_err_right (he ▸ expand_dims_sim a axes))

open ArrModel.Gen.Core in
/-- **squeeze (translated source)** keeps the element list -/
theorem gen_squeeze_elems (a r : Arr α) (axes : Option (List Int)) (h : Array_squeeze a axes = .ok r) : r.elems = a.elems :=
  squeeze_elems a r axes (Res.sameClass_ok_left (h ▸ squeeze_sim a axes))

open ArrModel.Gen.Core in
theorem gen_squeeze_none_shape (a : Arr α) (hwf : a.WF) :
    Array_squeeze a none = .ok ⟨a.elems, a.shape.filter (fun d => d != 1)⟩ :=
  Res.sameClass_ok_right (squeeze_none_shape a hwf ▸ squeeze_sim a none)

open ArrModel.Gen.Core in
theorem gen_squeeze_total (a : Arr α) (axes : Option (List Int)) (hwf : a.WF) : Array_squeeze a axes ≠ .panic :=
  Res.sameClass_not_panic (squeeze_sim a axes) (squeeze_total a axes hwf)

example : ArrModel.Gen.Core.Array_squeeze (⟨[1, 2, 3], [1, 3, 1]⟩ : Arr Nat) none = .ok ⟨[1, 2, 3], [3]⟩ := by decide

end ArrModel.C07
