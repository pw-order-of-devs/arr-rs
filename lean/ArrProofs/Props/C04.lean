import ArrProofs.Lemmas.C04
import ArrProofs.Props.C03
/-!
# C04 — two-operand elementwise operations act positionwise on broadcast operands

Property theorems only (helpers in `ArrProofs/Lemmas/C04.lean`; the broadcast layer is C03's: `broadcast_at`, `zip_at`, …).
Model under test: `ArrModel/C04.lean` — one definition per lifting pattern of the Rust code, generic in the scalar
kernel `f` (so every theorem holds for every kernel, every element type):

* `zipWithB` (pattern B) — both operands stretched: add, subtract, multiply, power, float_power, logn, log_add_exp, log_add_exp2, atan2, hypot
* `divideLike` — zero-divisor guard then B: divide, true_divide, fmod, remainder, mod;  `floorDivideLike`: floor_divide
* `bitwiseLike` — extra `is_broadcastable` call then B: bitwise_and, bitwise_or, bitwise_xor, left_shift, right_shift
* `zipWithR` (pattern R) — only the argument stretched to the receiver: maximum, minimum, fmax, fmin, heaviside, copysign, nextafter, ldexp
* `zipWithRA` — `abs` of both operands, then R: gcd, lcm
* `clipLike`  — clip with both bounds given

Vocabulary (C03): `broadcastShape s t` — the broadcast shape (characterised axis by axis by `C03.broadcastShape_spec`);
`bsrc s c` — the source coordinate of result coordinate `c` in an operand of shape `s` (drop the added leading axes,
index 0 along unit axes); `a.get? c` — the element stored at coordinate `c`; `stretchable s t` — `s` can be stretched to `t`.

What is NOT proved here: anything about the scalar kernels (IEEE arithmetic, the f64 round trip, integer casts) —
their identity is tied natively and bit-exactly by `harness/src/bin/c04.rs`.
-/
namespace ArrModel.C04
open ArrModel Arr

variable {α β γ δ : Type}

/-! ## pattern B: both operands stretched -/

/-- **B, shape and values**: for every kernel `f`, when the operand shapes have the broadcast shape `fs` (no zero-length
axis — the code refuses those, `zipWithB_zero_axis`) the call succeeds, the result has exactly the shape `fs`, is well
formed, and the element at every in-range coordinate `c` is `f` applied to the element of `a` at `bsrc a.shape c` and the
element of `b` at `bsrc b.shape c`. -/
theorem zipWithB_spec (f : α → β → γ) (a : Arr α) (b : Arr β) (fs : List Nat) (ha : a.WF) (hb : b.WF)
    (hfs : broadcastShape a.shape b.shape = .ok fs) (hz : 0 ∉ fs) :
    ∃ r, zipWithB f a b = .ok r ∧ r.shape = fs ∧ r.WF ∧
      ∀ c, inRange fs c = true →
        ∃ x y, a.get? (bsrc a.shape c) = some x ∧ b.get? (bsrc b.shape c) = some y ∧ r.get? c = some (f x y) := by
  obtain ⟨br, h1, h2, h3, h4⟩ := C03.broadcast_at a b fs ha hb hfs hz
  refine ⟨mapped (fun t => f t.1 t.2) br, ?_, h2, mapped_wf _ br h3, fun c hc => ?_⟩
  · unfold zipWithB
    rw [h1]
    exact new_map_ok _ br h3
  · obtain ⟨x, y, hx, hy, hr⟩ := h4 c hc
    exact ⟨x, y, hx, hy, by rw [mapped_get, hr]; rfl⟩

/-- **B, rejection**: operands that disagree on an aligned axis where neither length is one are refused -/
theorem zipWithB_reject (f : α → β → γ) (a : Arr α) (b : Arr β) (k : Nat) (hka : k < a.shape.length) (hkb : k < b.shape.length)
    (h : fromEnd a.shape k ≠ fromEnd b.shape k ∧ fromEnd a.shape k ≠ 1 ∧ fromEnd b.shape k ≠ 1) :
    zipWithB f a b = .err .BroadcastShapeMismatch := by
  unfold zipWithB
  rw [C03.broadcast_reject a b k hka hkb h]; rfl

/-- **B, zero-length axes are refused** (so `0 ∉ fs` in `zipWithB_spec` is exactly the success region) -/
theorem zipWithB_zero_axis (f : α → β → γ) (a : Arr α) (b : Arr β) (fs : List Nat) (ha : a.WF)
    (hfs : broadcastShape a.shape b.shape = .ok fs) (hz : 0 ∈ fs) :
    zipWithB f a b = .err .BroadcastShapeMismatch := by
  unfold zipWithB
  rw [C03.broadcast_zero_axis a b fs ha hfs hz]; rfl

/-! ## pattern R: only the argument stretched, to the receiver's shape -/

/-- **R, shape and values**: when the argument's shape can be stretched to the receiver's, the call succeeds with the
receiver's shape, and the element at `c` is `f (a at c) (b at bsrc b.shape c)` -/
theorem zipWithR_spec (f : α → β → γ) (a : Arr α) (b : Arr β) (ha : a.WF) (hb : b.WF)
    (hs : stretchable b.shape a.shape = true) :
    ∃ r, zipWithR f a b = .ok r ∧ r.shape = a.shape ∧ r.WF ∧
      ∀ c, inRange a.shape c = true →
        ∃ x y, a.get? c = some x ∧ b.get? (bsrc b.shape c) = some y ∧ r.get? c = some (f x y) := by
  obtain ⟨z, h1, h2, h3, h4⟩ := C03.zip_at a b ha hb hs
  refine ⟨mapped (fun t => f t.1 t.2) z, ?_, h2, mapped_wf _ z h3, fun c hc => ?_⟩
  · unfold zipWithR
    rw [h1]
    exact map1_ok _ z h3
  · obtain ⟨x, y, hx, hy, hr⟩ := h4 c hc
    exact ⟨x, y, hx, hy, by rw [mapped_get, hr]; rfl⟩

/-- **R, the receiver's shape is the broadcast shape** of the pair whenever the argument can be stretched to it -/
theorem zipWithR_shape_is_broadcastShape (a : Arr α) (b : Arr β) (hs : stretchable b.shape a.shape = true) :
    broadcastShape a.shape b.shape = .ok a.shape :=
  broadcastShape_of_stretchable b.shape a.shape hs

/-- **R, rejection**: an argument of a different element count that cannot be stretched to the receiver's shape is
refused — the receiver is never stretched (`maximum([1], [1,2,3])` is an error, not truncated data) -/
theorem zipWithR_reject (f : α → β → γ) (a : Arr α) (b : Arr β) (hs : stretchable b.shape a.shape = false)
    (hp : b.shape.prod ≠ a.shape.prod) : zipWithR f a b = .err .BroadcastShapeMismatch := by
  unfold zipWithR
  rw [C03.zip_reject a b hs hp]; rfl

/-- **R agrees with B** wherever the argument is a stretch of the receiver's shape: the two lifting patterns
compute the same array -/
theorem zipWithR_eq_zipWithB (f : α → β → γ) (a : Arr α) (b : Arr β) (ha : a.WF) (hb : b.WF)
    (hs : stretchable b.shape a.shape = true) (hz : 0 ∉ a.shape) :
    zipWithR f a b = zipWithB f a b := by
  obtain ⟨r, h1, h2, h3, h4⟩ := zipWithR_spec f a b ha hb hs
  obtain ⟨r', g1, g2, g3, g4⟩ := zipWithB_spec f a b a.shape ha hb (broadcastShape_of_stretchable _ _ hs) hz
  rw [h1, g1]
  congr 1
  apply Arr.ext_get r r' h3 g3 (by rw [h2, g2])
  intro c hc
  rw [h2] at hc
  obtain ⟨x, y, hx, hy, hr⟩ := h4 c hc
  obtain ⟨x', y', hx', hy', hr'⟩ := g4 c hc
  rw [bsrc_of_inRange _ _ hc, hx] at hx'
  rw [hy] at hy'
  cases hx'; cases hy'
  rw [hr, hr']

/-! ## commutativity -/

/-- **commutativity on equally shaped arrays (B)**: a kernel that commutes on scalars commutes on arrays — for all
arrays, well formed or not -/
theorem zipWith_comm (f : α → α → γ) (hf : ∀ x y, f x y = f y x) (a b : Arr α) (hs : a.shape = b.shape) :
    zipWithB f a b = zipWithB f b a := by
  unfold zipWithB
  cases hib : isBroadcastable a.shape b.shape
  · rw [broadcast_of_not_broadcastable a b hib, broadcast_of_not_broadcastable b a (by rw [isBroadcastable_comm, hib])]
  · rw [broadcast_of_shape_eq a b hib hs, broadcast_of_shape_eq b a (by rw [isBroadcastable_comm, hib]) hs.symm, ← hs]
    unfold Arr.new
    rw [List.length_zip, List.length_zip, Nat.min_comm b.elems.length a.elems.length]
    split
    · rw [Res.bind_ok, Res.bind_ok, map_zip_comm f hf a.elems b.elems]
    · rfl

/-- **commutativity on equally shaped arrays (R)** -/
theorem zipWithR_comm (f : α → α → γ) (hf : ∀ x y, f x y = f y x) (a b : Arr α) (ha : a.WF) (hb : b.WF)
    (hs : a.shape = b.shape) (hz : 0 ∉ a.shape) :
    zipWithR f a b = zipWithR f b a := by
  have hst := stretchable_self a.shape hz
  rw [zipWithR_eq_zipWithB f a b ha hb (by rw [← hs]; exact hst) hz,
    zipWithR_eq_zipWithB f b a hb ha (by rw [← hs]; exact hst) (by rw [← hs]; exact hz)]
  exact zipWith_comm f hf a b hs

/-- **commutativity on every pair of well-formed operands (B)**, whatever their shapes: same result or same refusal -/
theorem zipWithB_comm (f : α → α → γ) (hf : ∀ x y, f x y = f y x) (a b : Arr α) (ha : a.WF) (hb : b.WF) :
    zipWithB f a b = zipWithB f b a := by
  rcases broadcastShape_ok_or_err a.shape b.shape with ⟨fs, hfs⟩ | herr
  · have hfs' := broadcastShape_comm_ok _ _ _ hfs
    by_cases hz : 0 ∈ fs
    · rw [zipWithB_zero_axis f a b fs ha hfs hz, zipWithB_zero_axis f b a fs hb hfs' hz]
    · obtain ⟨r, h1, h2, h3, h4⟩ := zipWithB_spec f a b fs ha hb hfs hz
      obtain ⟨r', g1, g2, g3, g4⟩ := zipWithB_spec f b a fs hb ha hfs' hz
      rw [h1, g1]
      congr 1
      apply Arr.ext_get r r' h3 g3 (by rw [h2, g2])
      intro c hc
      rw [h2] at hc
      obtain ⟨x, y, hx, hy, hr⟩ := h4 c hc
      obtain ⟨y', x', hy', hx', hr'⟩ := g4 c hc
      rw [hx] at hx'; rw [hy] at hy'
      cases hx'; cases hy'
      rw [hr, hr', hf]
  · have herr' : broadcastShape b.shape a.shape = .err .BroadcastShapeMismatch := by
      rw [← broadcastShape_comm]; exact herr
    unfold zipWithB
    rw [broadcast_err_of_shape_err a b _ herr, broadcast_err_of_shape_err b a _ herr']

/-! ## the division family refuses a divisor array that contains zero -/

/-- **refusal**: a zero anywhere in the divisor array ⇒ `ParameterError`, whatever the shapes (the guard runs first) -/
theorem divide_refuses_zero (isZero : β → Bool) (f : α → β → γ) (a : Arr α) (b : Arr β)
    (h : ∃ y ∈ b.elems, isZero y = true) : divideLike isZero f a b = .err .ParameterError := by
  unfold divideLike
  rw [if_pos (List.any_eq_true.2 h)]

/-- without a zero in the divisor array the guarded operation is pattern B (so `zipWithB_spec` describes it) -/
theorem divide_no_zero (isZero : β → Bool) (f : α → β → γ) (a : Arr α) (b : Arr β)
    (h : ∀ y ∈ b.elems, isZero y = false) : divideLike isZero f a b = zipWithB f a b := by
  unfold divideLike
  rw [if_neg]
  rw [List.any_eq_true]
  rintro ⟨y, hy, hy'⟩
  rw [h y hy] at hy'; cases hy'

/-- `floor_divide` refuses the same divisors (the error of `divide` passes through `floor`) -/
theorem floorDivide_refuses_zero (isZero : β → Bool) (f : α → β → γ) (post : γ → δ) (a : Arr α) (b : Arr β)
    (h : ∃ y ∈ b.elems, isZero y = true) : floorDivideLike isZero f post a b = .err .ParameterError := by
  unfold floorDivideLike
  rw [divide_refuses_zero isZero f a b h]; rfl

/-- **floor_divide, shape and values**: without a zero divisor, the element at `c` is `post (f x y)` of the two
broadcast sources -/
theorem floorDivide_spec (isZero : β → Bool) (f : α → β → γ) (post : γ → δ) (a : Arr α) (b : Arr β) (fs : List Nat)
    (ha : a.WF) (hb : b.WF) (hnz : ∀ y ∈ b.elems, isZero y = false)
    (hfs : broadcastShape a.shape b.shape = .ok fs) (hz : 0 ∉ fs) :
    ∃ r, floorDivideLike isZero f post a b = .ok r ∧ r.shape = fs ∧ r.WF ∧
      ∀ c, inRange fs c = true →
        ∃ x y, a.get? (bsrc a.shape c) = some x ∧ b.get? (bsrc b.shape c) = some y ∧ r.get? c = some (post (f x y)) := by
  obtain ⟨q, h1, h2, h3, h4⟩ := zipWithB_spec f a b fs ha hb hfs hz
  refine ⟨mapped post q, ?_, h2, mapped_wf _ q h3, fun c hc => ?_⟩
  · unfold floorDivideLike
    rw [divide_no_zero isZero f a b hnz, h1]
    exact map1_ok post q h3
  · obtain ⟨x, y, hx, hy, hr⟩ := h4 c hc
    exact ⟨x, y, hx, hy, by rw [mapped_get, hr]; rfl⟩

/-! ## bitwise logic and shifts: the extra `is_broadcastable` call is redundant -/

/-- the extra check of the bitwise family agrees with `broadcast`'s own first check: the pattern *is* pattern B, for
all inputs (so `zipWithB_spec`, `zipWithB_reject`, `zipWithB_comm` hold for bitwise_and/or/xor and the shifts) -/
theorem bitwiseLike_eq_zipWithB (f : α → β → γ) (a : Arr α) (b : Arr β) : bitwiseLike f a b = zipWithB f a b := by
  unfold bitwiseLike
  split
  · rename_i h
    unfold zipWithB
    rw [broadcast_of_not_broadcastable a b (by simpa using h)]; rfl
  · rfl

/-! ## gcd / lcm: `abs` of both operands, then R -/

/-- **RA, shape and values**: the element at `c` is `f (g (a at c)) (h (b at bsrc b.shape c))` -/
theorem zipWithRA_spec (g : α → α) (h : β → β) (f : α → β → γ) (a : Arr α) (b : Arr β) (ha : a.WF) (hb : b.WF)
    (hs : stretchable b.shape a.shape = true) :
    ∃ r, zipWithRA g h f a b = .ok r ∧ r.shape = a.shape ∧ r.WF ∧
      ∀ c, inRange a.shape c = true →
        ∃ x y, a.get? c = some x ∧ b.get? (bsrc b.shape c) = some y ∧ r.get? c = some (f (g x) (h y)) := by
  obtain ⟨r, h1, h2, h3, h4⟩ := zipWithR_spec f (mapped g a) (mapped h b) (mapped_wf g a ha) (mapped_wf h b hb) hs
  refine ⟨r, ?_, h2, h3, fun c hc => ?_⟩
  · unfold zipWithRA
    rw [map1_ok g a ha, map1_ok h b hb]
    exact h1
  · obtain ⟨x', y', hx, hy, hr⟩ := h4 c hc
    rw [mapped_get] at hx hy
    change (b.get? (bsrc b.shape c)).map h = some y' at hy
    obtain ⟨x, hx1, rfl⟩ := Option.map_eq_some_iff.1 hx
    obtain ⟨y, hy1, rfl⟩ := Option.map_eq_some_iff.1 hy
    exact ⟨x, y, hx1, hy1, hr⟩

/-! ## clip with both bounds -/

/-- **clip, shape and values**: both bounds stretchable to the receiver ⇒ receiver-shaped result whose element at `c`
is `f (a at c) (lo at bsrc lo.shape c) (hi at bsrc hi.shape c)` -/
theorem clipLike_spec (f : α → β → β → γ) (a : Arr α) (lo hi : Arr β) (ha : a.WF) (hlo : lo.WF) (hhi : hi.WF)
    (hs1 : stretchable lo.shape a.shape = true) (hs2 : stretchable hi.shape a.shape = true) (hz : 0 ∉ a.shape) :
    ∃ r, clipLike f a lo hi = .ok r ∧ r.shape = a.shape ∧ r.WF ∧
      ∀ c, inRange a.shape c = true →
        ∃ x l h, a.get? c = some x ∧ lo.get? (bsrc lo.shape c) = some l ∧ hi.get? (bsrc hi.shape c) = some h ∧
          r.get? c = some (f x l h) := by
  obtain ⟨lo', l1, l2, l3, l4⟩ := C03.broadcastTo_stretch lo a.shape hlo hs1
  obtain ⟨hi', k1, k2, k3, k4⟩ := C03.broadcastTo_stretch hi a.shape hhi hs2
  have hself := stretchable_self a.shape hz
  obtain ⟨bd, b1, b2, b3, b4⟩ := C03.zip_at lo' hi' l3 k3 (by rw [l2, k2]; exact hself)
  obtain ⟨z, z1, z2, z3, z4⟩ := C03.zip_at a bd ha b3 (by rw [b2, l2]; exact hself)
  refine ⟨mapped (fun t => f t.1 t.2.1 t.2.2) z, ?_, z2, mapped_wf _ z z3, fun c hc => ?_⟩
  · unfold clipLike
    rw [l1, Res.bind_ok, k1, Res.bind_ok, b1, Res.bind_ok, z1]
    exact map1_ok _ z z3
  · obtain ⟨x, p, hx, hp, hr⟩ := z4 c hc
    rw [b2, l2, bsrc_of_inRange _ _ hc] at hp
    obtain ⟨l, h, hl, hh, hb⟩ := b4 c (by rw [l2]; exact hc)
    rw [k2, bsrc_of_inRange _ _ hc] at hh
    rw [hp] at hb; cases hb
    refine ⟨x, l, h, hx, ?_, ?_, by rw [mapped_get, hr]; rfl⟩
    · rw [← l4 c hc]; exact hl
    · rw [← k4 c hc]; exact hh

/-! ### non-vacuity: concrete instances meeting the hypotheses, and the conclusions observed on them -/
-- B on shapes [3] and [2,1] (both operands stretched), kernel = subtraction
example : broadcastShape [3] [2, 1] = .ok [2, 3] ∧ 0 ∉ [2, 3] ∧
    zipWithB (fun x y : Int => x - y) ⟨[10, 20, 30], [3]⟩ ⟨[1, 2], [2, 1]⟩ = .ok ⟨[9, 19, 29, 8, 18, 28], [2, 3]⟩ := by decide +kernel
example : bsrc [3] [1, 2] = [2] ∧ bsrc [2, 1] [1, 2] = [1, 0] := by decide +kernel
-- B rejection: [2,3] against [2]
example : fromEnd [2, 3] 0 ≠ fromEnd [2] 0 ∧ fromEnd [2, 3] 0 ≠ 1 ∧ fromEnd [2] 0 ≠ 1 ∧
    zipWithB (fun x y : Int => x + y) ⟨[1, 2, 3, 4, 5, 6], [2, 3]⟩ ⟨[1, 2], [2]⟩ = .err .BroadcastShapeMismatch := by decide +kernel
-- R: the argument [3] is stretched to the receiver [2,3]; the receiver [1] is NOT stretched to the argument [3]
example : stretchable [3] [2, 3] = true ∧
    zipWithR (fun x y : Int => max x y) ⟨[1, 5, 3, 9, 0, 2], [2, 3]⟩ ⟨[2, 4, 1], [3]⟩ = .ok ⟨[2, 5, 3, 9, 4, 2], [2, 3]⟩ := by decide +kernel
example : stretchable [3] [1] = false ∧ [3].prod ≠ [1].prod ∧
    zipWithR (fun x y : Int => max x y) ⟨[1], [1]⟩ ⟨[1, 2, 3], [3]⟩ = .err .BroadcastShapeMismatch := by decide +kernel
-- the region C03 leaves open (same count, not a stretch): R reshapes the argument, B broadcasts — they differ there
example : stretchable [1, 3] [3, 1] = false ∧
    zipWithR (fun x y : Int => x + y) ⟨[1, 2, 3], [3, 1]⟩ ⟨[10, 20, 30], [1, 3]⟩ = .ok ⟨[11, 22, 33], [3, 1]⟩ ∧
    zipWithB (fun x y : Int => x + y) ⟨[1, 2, 3], [3, 1]⟩ ⟨[10, 20, 30], [1, 3]⟩
      = .ok ⟨[11, 21, 31, 12, 22, 32, 13, 23, 33], [3, 3]⟩ := by decide +kernel
-- commutativity needs the kernel to commute: subtraction does not, and the arrays differ
example : zipWithB (fun x y : Int => x - y) ⟨[1, 2], [2]⟩ ⟨[5, 7], [2]⟩ ≠ zipWithB (fun x y : Int => x - y) ⟨[5, 7], [2]⟩ ⟨[1, 2], [2]⟩ := by decide +kernel
example : zipWithB (fun x y : Int => x * y) ⟨[1, 2, 3], [3]⟩ ⟨[5, 7], [2, 1]⟩ = zipWithB (fun x y : Int => x * y) ⟨[5, 7], [2, 1]⟩ ⟨[1, 2, 3], [3]⟩ := by decide +kernel
-- refusal: a zero in the divisor array, compatible or incompatible shapes
example : divideLike (fun y : Int => y == 0) (fun x y : Int => x / y) ⟨[6, 8], [2]⟩ ⟨[2, 0], [2]⟩ = .err .ParameterError ∧
    divideLike (fun y : Int => y == 0) (fun x y : Int => x / y) ⟨[6, 8], [2]⟩ ⟨[2, 0, 1], [3]⟩ = .err .ParameterError ∧
    divideLike (fun y : Int => y == 0) (fun x y : Int => x / y) ⟨[6, 8], [2]⟩ ⟨[2], [1]⟩ = .ok ⟨[3, 4], [2]⟩ := by decide +kernel
example : floorDivideLike (fun y : Int => y == 0) (fun x y : Int => x * 10 / y) (fun q : Int => q / 10) ⟨[7, 9], [2]⟩ ⟨[2], [1]⟩
    = .ok ⟨[3, 4], [2]⟩ := by decide +kernel
-- `bitwiseXorPinned` builds its result with the receiver's shape, `bitwiseLike` with the broadcast shape:
-- on [3] ^ [2,1] and on [1,3] ^ [1,1,3]
example : bitwiseXorPinned (fun x y : Nat => x ^^^ y) ⟨[1, 2, 3], [3]⟩ ⟨[7, 8], [2, 1]⟩ = .err .ShapeMustMatchValuesLength ∧
    bitwiseLike (fun x y : Nat => x ^^^ y) ⟨[1, 2, 3], [3]⟩ ⟨[7, 8], [2, 1]⟩ = .ok ⟨[6, 5, 4, 9, 10, 11], [2, 3]⟩ ∧
    bitwiseXorPinned (fun x y : Nat => x ^^^ y) ⟨[1, 2, 3], [1, 3]⟩ ⟨[4, 5, 6], [1, 1, 3]⟩ = .ok ⟨[5, 7, 5], [1, 3]⟩ ∧
    bitwiseLike (fun x y : Nat => x ^^^ y) ⟨[1, 2, 3], [1, 3]⟩ ⟨[4, 5, 6], [1, 1, 3]⟩ = .ok ⟨[5, 7, 5], [1, 1, 3]⟩ := by decide +kernel
-- RA (absolute values of both operands first) and clip
example : stretchable [2] [2, 2] = true ∧
    zipWithRA (fun x : Int => (x.natAbs : Int)) (fun y : Int => (y.natAbs : Int)) (fun x y : Int => x + 100 * y)
      ⟨[-12, 18, -7, 0], [2, 2]⟩ ⟨[-8, 27], [2]⟩ = .ok ⟨[812, 2718, 807, 2700], [2, 2]⟩ := by decide +kernel
example : stretchable [1] [2, 2] = true ∧ stretchable [2] [2, 2] = true ∧
    clipLike (fun x l h : Int => if x < l then l else if x > h then h else x) ⟨[-5, 3, 8, 20], [2, 2]⟩ ⟨[0], [1]⟩ ⟨[5, 10], [2]⟩
      = .ok ⟨[0, 3, 5, 10], [2, 2]⟩ := by decide +kernel

end ArrModel.C04
