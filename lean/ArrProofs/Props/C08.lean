import ArrProofs.Lemmas.C08Empty
import ArrProofs.Lemmas.C08Kernels
import ArrProofs.Props.C10
/-!
# C08 — axis-wise reductions and scans equal the 1-D operation on every lane

Model under test: `ArrModel/AlongAxis.lean` (`applyAlongAxis` = `apply_along_axis`, `axis.rs:163-183`: move the axis
last, ravel, `split` into lanes, apply the 1-D body, flatten, reshape, move the axis back with the `axis == 0` arm),
`ArrModel/Split.lean`, `ArrModel/Axis.lean`, the per-operation wrappers of `ArrModel/C08.lean`
(`reduceAxis` for sum/prod/max/min and the NaN forms, `countAxis` for count_nonzero/argmax/argmin with `keepdims`,
`scanAxis` for cumsum/cumprod and the NaN forms) and the 1-D kernels of `ArrModel/C08Kernels.lean`.

* The lane theorems (`along_axis_spec` to `axis_out_of_range`).  The 1-D body `f1` is an arbitrary parameter; the only
  hypothesis is the length of its output on a lane (one element for reductions, the lane length for scans).
  `laneOf a axis c` = the elements of `a` at `c` with coordinate `axis` replaced by `0, 1, …` (`laneOf_getElem?`,
  `laneOf_length`).  They hold for every rank, every axis, every axis length ≥ 1 (`0 ∉ a.shape`).
* What the model does on arrays WITH a zero-length axis (`along_axis_empty_axis`, `reduce_empty_axis`, …), and the statements
  that hold for every well-formed array (`along_axis_total`, `axis_ops_never_panic`); `f1` is still arbitrary.
* The 1-D kernels themselves, over an element structure `Elem α` (`sum_prod_left_fold` to `nanInt_of_int`), and the lane
  theorems with the kernels as 1-D bodies (`reduce_kernel_spec`, `scan_kernel_spec`, `count_kernel_spec`, `kernel_none_axis`,
  `kernel_ops_never_panic`).
-/
namespace ArrModel.C08
open ArrModel Arr
variable {α β : Type}

/-- **the lane theorem** (central lemma, all axes of all ranks): `apply_along_axis` with a lane function producing
`m` elements per lane gives shape `shape[axis := m]`, and the element at `c` is element `c[axis]` of the lane function
applied to the lane through `c`. -/
theorem along_axis_spec (a : Arr α) (zero : α) (zb : β) (axis m : Nat) (f : Arr α → Res (Arr β))
    (hwf : a.WF) (hax : axis < a.ndim) (hnz : 0 ∉ a.shape)
    (hf : ∀ lane : List α, lane.length = a.shape.getD axis 0 → ∃ r, f (Arr.flat lane) = .ok r ∧ r.elems.length = m) :
    ∃ r, a.applyAlongAxis zero zb axis f = .ok r ∧ r.shape = a.shape.set axis m ∧ r.WF ∧
      ∀ c, inRange r.shape c = true →
        (laneOf a axis c).length = a.shape.getD axis 0 ∧
        (∀ j, j < a.shape.getD axis 0 → (laneOf a axis c)[j]? = a.get? (c.set axis j)) ∧
        ∃ y, f (Arr.flat (laneOf a axis c)) = .ok y ∧ r.get? c = y.elems[c.getD axis 0]? := by
  obtain ⟨r, h1, h2, h3, h4⟩ := applyAlongAxis_spec a zero zb axis m f hwf hax hnz hf
  refine ⟨r, h1, h2, h3, ?_⟩
  intro c hc
  have hc' : inRange (a.shape.set axis m) c = true := by rw [← h2]; exact hc
  exact ⟨laneOf_length a axis m c hwf hc', fun j hj => laneOf_getElem? a axis m c hwf hc' j hj, h4 c hc⟩

/-- **reductions** (sum, prod, max, min, nan-forms): the result shape is the input shape without the axis
(`[1]` when the input has rank 1), and the value at every position `c` of the remaining axes is the single element the
1-D operation returns on the lane through that position. -/
theorem reduce_spec (a : Arr α) (zero : α) (zb : β) (ax : Int) (f1 : Arr α → Res (Arr β))
    (hwf : a.WF) (hnz : 0 ∉ a.shape) (hax : normalizeAxis a.ndim ax < a.ndim)
    (hf : ∀ lane : List α, lane.length = a.shape.getD (normalizeAxis a.ndim ax) 0 →
      ∃ y, f1 (Arr.flat lane) = .ok y ∧ y.elems.length = 1) :
    ∃ r, a.reduceAxis zero zb (some ax) f1 = .ok r ∧
      r.shape = (if a.ndim > 1 then a.shape.eraseIdx (normalizeAxis a.ndim ax) else [1]) ∧ r.WF ∧
      ∀ c, inRange (a.shape.eraseIdx (normalizeAxis a.ndim ax)) c = true →
        ∃ y v, f1 (Arr.flat (laneOf a (normalizeAxis a.ndim ax) (c.insertIdx (normalizeAxis a.ndim ax) 0))) = .ok y ∧
          y.elems = [v] ∧ r.get? (if a.ndim > 1 then c else [0]) = some v := by
  simp only [Arr.reduceAxis]
  generalize normalizeAxis a.ndim ax = axis at *
  obtain ⟨r, h1, h2, h3, h4, h5⟩ := applyAlongAxis_single a zero zb axis f1 hwf hax hnz hf
  have hrnd : r.ndim = a.ndim := by rw [Arr.ndim, h2, List.length_set]; rfl
  rw [h1, Res.bind_ok, hrnd]
  by_cases hnd : a.ndim > 1
  · simp only [if_pos hnd]
    refine ⟨⟨r.elems, _⟩, ?_, rfl, h4, fun c hc => ?_⟩
    · rw [removeAxis_reshape r _ _ (by rw [h2, List.length_set]; exact hax), h2, List.eraseIdx_set_eq, Arr.new_of_prod h4.symm]
    · obtain ⟨y, v, e1, e2, e3, _⟩ := h5 c hc
      exact ⟨y, v, e1, e2, e3⟩
  · simp only [if_neg hnd]
    -- rank 1: the only axis is 0, the result `[v]` of shape `[1]` is kept
    have h0 : axis = 0 := by omega
    subst h0
    obtain ⟨n, hn⟩ : ∃ n, a.shape = [n] := List.length_eq_one_iff.1 (by have : a.shape.length = a.ndim := rfl; omega)
    have hrs : r.shape = [1] := by rw [h2, hn]; rfl
    refine ⟨r, Arr.reshape_of_prod h3 rfl, hrs, h3, fun c hc => ?_⟩
    obtain ⟨y, v, e1, e2, e3, _⟩ := h5 c hc
    refine ⟨y, v, e1, e2, ?_⟩
    rw [hn] at hc e3
    cases c with
    | nil => rw [Arr.get?, hrs]; exact e3
    | cons _ _ => cases hc

/-- **count / position queries** (count_nonzero, argmax, argmin): with `keepdims = Some(true)` the axis is kept
with length 1, otherwise it is removed; the value at every position of the remaining axes is the single element the
1-D query returns on the lane through that position. -/
theorem count_spec (a : Arr α) (zero : α) (zb : β) (ax : Int) (kd : Option Bool) (f1 : Arr α → Option Bool → Res (Arr β))
    (hwf : a.WF) (hnz : 0 ∉ a.shape) (hax : normalizeAxis a.ndim ax < a.ndim)
    (hf : ∀ lane : List α, lane.length = a.shape.getD (normalizeAxis a.ndim ax) 0 →
      ∃ y, f1 (Arr.flat lane) kd = .ok y ∧ y.elems.length = 1) :
    ∃ r, a.countAxis zero zb (some ax) kd f1 = .ok r ∧
      r.shape = (if kd = some true then a.shape.set (normalizeAxis a.ndim ax) 1 else a.shape.eraseIdx (normalizeAxis a.ndim ax)) ∧
      r.WF ∧
      ∀ c, inRange (a.shape.eraseIdx (normalizeAxis a.ndim ax)) c = true →
        ∃ y v, f1 (Arr.flat (laneOf a (normalizeAxis a.ndim ax) (c.insertIdx (normalizeAxis a.ndim ax) 0))) kd = .ok y ∧
          y.elems = [v] ∧ r.get? (if kd = some true then c.insertIdx (normalizeAxis a.ndim ax) 0 else c) = some v := by
  simp only [Arr.countAxis]
  generalize normalizeAxis a.ndim ax = axis at *
  obtain ⟨r, h1, h2, h3, h4, h5⟩ := applyAlongAxis_single a zero zb axis (fun arr => f1 arr kd) hwf hax hnz hf
  rw [h1, Res.bind_ok]
  by_cases hkd : kd = some true
  · simp only [if_pos hkd]
    refine ⟨r, rfl, h2, h3, fun c hc => ?_⟩
    obtain ⟨y, v, e1, e2, _, e4⟩ := h5 c hc
    exact ⟨y, v, e1, e2, e4⟩
  · simp only [if_neg hkd]
    refine ⟨⟨r.elems, _⟩, ?_, rfl, h4, fun c hc => ?_⟩
    · rw [removeAxis_reshape r _ _ hax, Arr.new_of_prod h4.symm]
    · obtain ⟨y, v, e1, e2, e3, _⟩ := h5 c hc
      exact ⟨y, v, e1, e2, e3⟩

/-- **scans** (cumsum, cumprod, nan-forms): the shape is kept and every lane is replaced by the output of the 1-D
scan on that lane. -/
theorem scan_spec (a : Arr α) (zero : α) (zb : β) (ax : Int) (f1 : Arr α → Res (Arr β))
    (hwf : a.WF) (hnz : 0 ∉ a.shape) (hax : normalizeAxis a.ndim ax < a.ndim)
    (hf : ∀ lane : List α, lane.length = a.shape.getD (normalizeAxis a.ndim ax) 0 →
      ∃ y, f1 (Arr.flat lane) = .ok y ∧ y.elems.length = lane.length) :
    ∃ r, a.scanAxis zero zb (some ax) f1 = .ok r ∧ r.shape = a.shape ∧ r.WF ∧
      ∀ c, inRange a.shape c = true →
        ∃ y v, f1 (Arr.flat (laneOf a (normalizeAxis a.ndim ax) c)) = .ok y ∧
          y.elems[c.getD (normalizeAxis a.ndim ax) 0]? = some v ∧ r.get? c = some v := by
  obtain ⟨r, h1, h2, h3, h4⟩ := applyAlongAxis_spec a zero zb (normalizeAxis a.ndim ax) (a.shape.getD (normalizeAxis a.ndim ax) 0)
    f1 hwf hax hnz (fun lane hl => (hf lane hl).imp fun _ h => ⟨h.1, h.2.trans hl⟩)
  rw [set_getD_self] at h2
  refine ⟨r, h1, h2, h3, fun c hc => ?_⟩
  obtain ⟨y, e1, e2⟩ := h4 c (h2 ▸ hc)
  have hl := laneOf_length a _ (a.shape.getD (normalizeAxis a.ndim ax) 0) c hwf (by rw [set_getD_self]; exact hc)
  obtain ⟨y', e3, e4⟩ := hf _ hl
  rw [e1] at e3; cases e3
  have hj : c.getD (normalizeAxis a.ndim ax) 0 < y.elems.length := by
    rw [e4, hl]; exact inRange_getD_lt _ _ _ hc hax
  exact ⟨y, _, e1, List.getElem?_eq_getElem hj, e2.trans (List.getElem?_eq_getElem hj)⟩

/-- **a negative axis denotes the same axis counted from the end** -/
theorem normalize_neg_axis (nd k : Nat) (hk : k < nd) : normalizeAxis nd ((k : Int) - (nd : Int)) = k := by
  have := C06.normalize_neg nd ((k : Int) - (nd : Int)) (by omega) (by omega)
  omega

theorem neg_axis_reduce (a : Arr α) (zero : α) (zb : β) (k : Nat) (hk : k < a.ndim) (f1 : Arr α → Res (Arr β)) :
    a.reduceAxis zero zb (some ((k : Int) - (a.ndim : Int))) f1 = a.reduceAxis zero zb (some (k : Int)) f1 := by
  simp only [Arr.reduceAxis, normalize_neg_axis a.ndim k hk, show normalizeAxis a.ndim (k : Int) = k from normalizeAxis_ofNat _ _]

theorem neg_axis_count (a : Arr α) (zero : α) (zb : β) (k : Nat) (hk : k < a.ndim) (kd : Option Bool)
    (f1 : Arr α → Option Bool → Res (Arr β)) :
    a.countAxis zero zb (some ((k : Int) - (a.ndim : Int))) kd f1 = a.countAxis zero zb (some (k : Int)) kd f1 := by
  simp only [Arr.countAxis, normalize_neg_axis a.ndim k hk, show normalizeAxis a.ndim (k : Int) = k from normalizeAxis_ofNat _ _]

theorem neg_axis_scan (a : Arr α) (zero : α) (zb : β) (k : Nat) (hk : k < a.ndim) (f1 : Arr α → Res (Arr β)) :
    a.scanAxis zero zb (some ((k : Int) - (a.ndim : Int))) f1 = a.scanAxis zero zb (some (k : Int)) f1 :=
  congrArg (a.applyAlongAxis zero zb · f1) ((normalize_neg_axis a.ndim k hk).trans (normalizeAxis_ofNat _ _).symm)

/-- **with no axis the operation acts on the flattened array**: a reduction is the 1-D body on the array itself (the
1-D bodies fold over `elements` only), a scan is the 1-D body on `ravel`.  (These two arms are the definitions of the
wrappers; that the real code takes them is established by the differential tie.) -/
theorem none_axis (a : Arr α) (zero : α) (zb : β) (f1 : Arr α → Res (Arr β)) (kd : Option Bool)
    (g1 : Arr α → Option Bool → Res (Arr β)) :
    a.reduceAxis zero zb none f1 = f1 a ∧ a.countAxis zero zb none kd g1 = g1 a kd ∧
    a.scanAxis zero zb none f1 = f1 (Arr.flat a.elems) := ⟨rfl, rfl, rfl⟩

/-- every axis number outside `-rank .. rank-1` (inside the `isize` range) normalises to something `≥ rank` … -/
theorem normalize_out_of_range (nd : Nat) (ax : Int) (hnd : nd < 2 ^ 63) (hlo : -(2 ^ 63 : Int) ≤ ax)
    (h : ax ≥ nd ∨ ax < -(nd : Int)) : normalizeAxis nd ax ≥ nd := by
  unfold normalizeAxis USIZE
  rcases h with h | h
  · rw [if_neg (by omega)]; omega
  · rw [if_pos (by omega)]
    simp only
    rw [if_pos (by omega)]
    omega

/-- … and **an out-of-range axis is refused with an error** by all three families (never a panic, never data) -/
theorem axis_out_of_range (a : Arr α) (zero : α) (zb : β) (ax : Int) (h : normalizeAxis a.ndim ax ≥ a.ndim)
    (f1 : Arr α → Res (Arr β)) (kd : Option Bool) (g1 : Arr α → Option Bool → Res (Arr β)) :
    a.reduceAxis zero zb (some ax) f1 = .err .AxisOutOfBounds ∧
    a.countAxis zero zb (some ax) kd g1 = .err .AxisOutOfBounds ∧
    a.scanAxis zero zb (some ax) f1 = .err .AxisOutOfBounds :=
  ⟨congrArg (· >>= _) (applyAlongAxis_axis_err a zero zb _ f1 h), congrArg (· >>= _) (applyAlongAxis_axis_err a zero zb _ _ h),
    applyAlongAxis_axis_err a zero zb _ f1 h⟩

/-! ### non-vacuity: a `[2,3,2,2]` array, axis 1 (a middle axis of a rank-4 array: moving it last and moving it back are different permutations) -/
example : sample.WF ∧ 0 ∉ sample.shape ∧ normalizeAxis sample.ndim 1 < sample.ndim ∧ normalizeAxis sample.ndim (-3) = 1 := by decide
-- the hypotheses on the 1-D bodies are satisfiable (sum returns one element, cumsum as many as the lane has)
example : ∀ lane : List Nat, ∃ y, sumBody (Arr.flat lane) = .ok y ∧ y.elems.length = 1 := fun _ => ⟨_, rfl, rfl⟩
example : ∀ lane : List Nat, ∃ y, cumsumBody (Arr.flat lane) = .ok y ∧ y.elems.length = lane.length :=
  fun _ => ⟨_, rfl, by simp [Arr.flat]⟩
example : ∀ (lane : List Nat) kd, ∃ y, countBody (Arr.flat lane) kd = .ok y ∧ y.elems.length = 1 := by
  intro lane kd
  refine ⟨Arr.single ((Arr.flat lane).elems.filter (· != 0)).length, ?_, rfl⟩
  exact keepdimsTail_one kd _
-- so the theorems apply to the sample:
example := reduce_spec sample 0 0 1 sumBody (by decide) (by decide) (by decide) (fun _ _ => ⟨_, rfl, rfl⟩)
example := scan_spec sample 0 0 (-3) cumsumBody (by decide) (by decide) (by decide) (fun _ _ => ⟨_, rfl, by simp [Arr.flat]⟩)
-- and what they describe, computed by the model:
example : laneOf sample 1 [1, 0, 1, 0] = [14, 18, 22] := by decide +kernel
example : sample.reduceAxis 0 0 (some 1) sumBody = .ok ⟨[12, 15, 18, 21, 48, 51, 54, 57], [2, 2, 2]⟩ := by decide +kernel
example : sample.reduceAxis 0 0 (some (-3)) sumBody = sample.reduceAxis 0 0 (some 1) sumBody := by decide +kernel
example : sample.scanAxis 0 0 (some 1) cumsumBody =
    .ok ⟨[0, 1, 2, 3, 4, 6, 8, 10, 12, 15, 18, 21, 12, 13, 14, 15, 28, 30, 32, 34, 48, 51, 54, 57], [2, 3, 2, 2]⟩ := by decide +kernel
example : sample.countAxis 0 0 (some 1) (some true) countBody = .ok ⟨[2, 3, 3, 3, 3, 3, 3, 3], [2, 1, 2, 2]⟩ := by decide +kernel
example : sample.countAxis 0 0 (some 1) none countBody = .ok ⟨[2, 3, 3, 3, 3, 3, 3, 3], [2, 2, 2]⟩ := by decide +kernel
example : (⟨[5, 6, 7], [3]⟩ : Arr Nat).reduceAxis 0 0 (some 0) sumBody = .ok ⟨[18], [1]⟩ := by decide +kernel
example : sample.reduceAxis 0 0 (some 4) sumBody = .err .AxisOutOfBounds ∧
    sample.reduceAxis 0 0 (some (-5)) sumBody = .err .AxisOutOfBounds := by decide +kernel

/-! ### arrays with a zero-length axis, and the total statements (proofs in `Lemmas/C08Empty.lean`)

The theorems above assume `0 ∉ a.shape`.  What follows says what the MODEL does on every well-formed array that HAS a
zero-length axis (such an array has no elements), for every rank and every axis, and closes with statements that hold for
EVERY well-formed array.  `rest = a.shape.eraseIdx axis` are the other axes.
* another axis is empty (`0 ∈ rest`): `parts = rest.prod = 0`, `split(0, None)` refuses: `Err(ParameterError)`;
* only the processed axis is empty: `parts > 0`, the moved array is empty, `split` returns the single empty piece, the
  1-D body is applied ONCE to the empty lane `Arr.flat []`; its answer `y` is reshaped to `rest ++ [y.len]`, which fits
  exactly when `rest.prod = 1 ∨ y.len = 0`; an error of the body on the empty lane (max / min / argmax / argmin) is passed on.
That the real crate does the same on these arrays is established by the zero-length stream of the differential tie. -/

/-- **another axis has length 0**: `apply_along_axis` answers `Err(ParameterError)` whatever the lane function -/
theorem along_axis_other_axis_empty (a : Arr α) (zero : α) (zb : β) (axis : Nat) (f : Arr α → Res (Arr β))
    (hwf : a.WF) (hax : axis < a.ndim) (h0 : 0 ∈ a.shape.eraseIdx axis) :
    a.applyAlongAxis zero zb axis f = .err .ParameterError :=
  applyAlongAxis_other_zero a zero zb axis f hwf hax h0

/-- **only the processed axis has length 0**: the complete outcome in terms of `f (Arr.flat [])` -/
theorem along_axis_empty_axis (a : Arr α) (zero : α) (zb : β) (axis : Nat) (f : Arr α → Res (Arr β))
    (hwf : a.WF) (hax : axis < a.ndim) (hrest : 0 ∉ a.shape.eraseIdx axis) (hn : a.shape.getD axis 0 = 0) :
    a.applyAlongAxis zero zb axis f = f (Arr.flat []) >>= fun y =>
      if (a.shape.eraseIdx axis).prod = 1 ∨ y.elems.length = 0 then .ok ⟨y.elems, a.shape.set axis y.elems.length⟩
      else .err .ShapeMustMatchValuesLength :=
  applyAlongAxis_axis_zero a zero zb axis f hwf hax hrest hn

/-- the two cases are exhaustive: a shape containing 0 has the zero on another axis, or only on the processed one -/
theorem empty_axis_cases (a : Arr α) (axis : Nat) (hax : axis < a.ndim) (h0 : 0 ∈ a.shape) :
    0 ∈ a.shape.eraseIdx axis ∨ (0 ∉ a.shape.eraseIdx axis ∧ a.shape.getD axis 0 = 0) :=
  zero_mem_cases a.shape axis hax h0

/-- **total statement for `apply_along_axis`**: EVERY well-formed array (with or without zero-length axes), every axis
(in range or not), every lane function that never panics — no assumption on the lengths it returns —: the answer is `Ok`
with a well-formed array of the same rank, or `Err`; never a panic -/
theorem along_axis_total (a : Arr α) (zero : α) (zb : β) (axis : Nat) (f : Arr α → Res (Arr β))
    (hwf : a.WF) (hf : ∀ x, f x ≠ .panic) :
    ((∃ r, a.applyAlongAxis zero zb axis f = .ok r ∧ r.WF ∧ r.ndim = a.ndim) ∨
     (∃ e, a.applyAlongAxis zero zb axis f = .err e)) ∧ a.applyAlongAxis zero zb axis f ≠ .panic :=
  ⟨applyAlongAxis_total a zero zb axis f hwf hf, applyAlongAxis_never_panics a zero zb axis f hwf hf⟩

/-- **all three families refuse when another axis is empty** -/
theorem axis_ops_other_axis_empty (a : Arr α) (zero : α) (zb : β) (ax : Int) (hwf : a.WF)
    (hax : normalizeAxis a.ndim ax < a.ndim) (h0 : 0 ∈ a.shape.eraseIdx (normalizeAxis a.ndim ax))
    (f1 : Arr α → Res (Arr β)) (kd : Option Bool) (g1 : Arr α → Option Bool → Res (Arr β)) :
    a.reduceAxis zero zb (some ax) f1 = .err .ParameterError ∧
    a.countAxis zero zb (some ax) kd g1 = .err .ParameterError ∧
    a.scanAxis zero zb (some ax) f1 = .err .ParameterError :=
  ⟨congrArg (· >>= _) (applyAlongAxis_other_zero a zero zb _ f1 hwf hax h0),
    congrArg (· >>= _) (applyAlongAxis_other_zero a zero zb _ _ hwf hax h0), applyAlongAxis_other_zero a zero zb _ f1 hwf hax h0⟩

/-- **reductions along an empty axis** (the other axes non-empty): the 1-D body is asked once, on the empty lane; at
rank 1 its answer is the result; at rank > 1 the answer is kept only when it has one element and all other axes have
length 1 (otherwise the reshape refuses with `ShapeMustMatchValuesLength`); an error of the body is passed on -/
theorem reduce_empty_axis (a : Arr α) (zero : α) (zb : β) (ax : Int) (f1 : Arr α → Res (Arr β))
    (hwf : a.WF) (hax : normalizeAxis a.ndim ax < a.ndim)
    (hrest : 0 ∉ a.shape.eraseIdx (normalizeAxis a.ndim ax)) (hn : a.shape.getD (normalizeAxis a.ndim ax) 0 = 0) :
    a.reduceAxis zero zb (some ax) f1 = f1 (Arr.flat []) >>= fun y =>
      if a.ndim > 1 then
        (if (a.shape.eraseIdx (normalizeAxis a.ndim ax)).prod = 1 ∧ y.elems.length = 1
         then .ok ⟨y.elems, a.shape.eraseIdx (normalizeAxis a.ndim ax)⟩ else .err .ShapeMustMatchValuesLength)
      else .ok ⟨y.elems, [y.elems.length]⟩ := by
  simp only [Arr.reduceAxis]
  generalize normalizeAxis a.ndim ax = axis at *
  rw [applyAlongAxis_axis_zero a zero zb axis f1 hwf hax hrest hn, Res.bind_assoc]
  congr 1
  funext y
  have hnd : (⟨y.elems, a.shape.set axis y.elems.length⟩ : Arr β).ndim = a.ndim := List.length_set
  by_cases h1 : a.ndim > 1
  · rw [if_pos h1]
    refine fit_bind_new y _ _ (prod_pos_of_not_mem _ hrest) _ ?_
    rw [hnd, if_pos h1, removeAxis_reshape _ _ _ (by rw [List.length_set]; exact hax), List.eraseIdx_set_eq]
  · -- rank 1: `rest = []`, the answer is kept with shape `[y.len]`
    obtain ⟨n, hs⟩ : ∃ n, a.shape = [n] := List.length_eq_one_iff.1 (by have : a.shape.length = a.ndim := rfl; omega)
    have h0 : axis = 0 := by omega
    subst h0
    rw [if_neg h1, if_pos (Or.inl (by rw [hs]; rfl)), Res.bind_ok, if_neg (by rw [hnd]; exact h1), hs]
    exact Arr.new_of_prod (List.prod_singleton)

/-- **count / position queries along an empty axis**: with `keepdims = Some(true)` the answer of the 1-D query on the
empty lane is kept along the axis when it fits; otherwise the axis is removed, which fits only a one-element answer
when all other axes have length 1 -/
theorem count_empty_axis (a : Arr α) (zero : α) (zb : β) (ax : Int) (kd : Option Bool) (g1 : Arr α → Option Bool → Res (Arr β))
    (hwf : a.WF) (hax : normalizeAxis a.ndim ax < a.ndim)
    (hrest : 0 ∉ a.shape.eraseIdx (normalizeAxis a.ndim ax)) (hn : a.shape.getD (normalizeAxis a.ndim ax) 0 = 0) :
    a.countAxis zero zb (some ax) kd g1 = g1 (Arr.flat []) kd >>= fun y =>
      if kd = some true then
        (if (a.shape.eraseIdx (normalizeAxis a.ndim ax)).prod = 1 ∨ y.elems.length = 0
         then .ok ⟨y.elems, a.shape.set (normalizeAxis a.ndim ax) y.elems.length⟩ else .err .ShapeMustMatchValuesLength)
      else
        (if (a.shape.eraseIdx (normalizeAxis a.ndim ax)).prod = 1 ∧ y.elems.length = 1
         then .ok ⟨y.elems, a.shape.eraseIdx (normalizeAxis a.ndim ax)⟩ else .err .ShapeMustMatchValuesLength) := by
  simp only [Arr.countAxis]
  generalize normalizeAxis a.ndim ax = axis at *
  rw [applyAlongAxis_axis_zero a zero zb axis (fun arr => g1 arr kd) hwf hax hrest hn, Res.bind_assoc]
  congr 1
  funext y
  by_cases hkd : kd = some true
  · simp only [if_pos hkd]
    exact Res.bind_pure _
  · simp only [if_neg hkd]
    exact fit_bind_new y _ _ (prod_pos_of_not_mem _ hrest) _ (removeAxis_reshape _ _ _ hax)

/-- **scans along an empty axis**: the answer of the 1-D scan on the empty lane, kept along the axis when it fits; in
particular a scan that returns the empty lane for the empty lane returns the (empty) array unchanged -/
theorem scan_empty_axis (a : Arr α) (zero : α) (zb : β) (ax : Int) (f1 : Arr α → Res (Arr β))
    (hwf : a.WF) (hax : normalizeAxis a.ndim ax < a.ndim)
    (hrest : 0 ∉ a.shape.eraseIdx (normalizeAxis a.ndim ax)) (hn : a.shape.getD (normalizeAxis a.ndim ax) 0 = 0) :
    (a.scanAxis zero zb (some ax) f1 = f1 (Arr.flat []) >>= fun y =>
      if (a.shape.eraseIdx (normalizeAxis a.ndim ax)).prod = 1 ∨ y.elems.length = 0
      then .ok ⟨y.elems, a.shape.set (normalizeAxis a.ndim ax) y.elems.length⟩ else .err .ShapeMustMatchValuesLength) ∧
    (∀ y, f1 (Arr.flat []) = .ok y → y.elems = [] → a.scanAxis zero zb (some ax) f1 = .ok ⟨[], a.shape⟩) := by
  have h := applyAlongAxis_axis_zero a zero zb (normalizeAxis a.ndim ax) f1 hwf hax hrest hn
  refine ⟨h, fun y hy he => ?_⟩
  rw [show a.scanAxis zero zb (some ax) f1 = _ from h, hy, Res.bind_ok, he, List.length_nil, if_pos (Or.inr rfl), ← hn, set_getD_self]

/-- **no axis, empty array**: a reduction / query is the 1-D body on the array, which has no elements; a scan is the
1-D body on the empty flat array -/
theorem none_axis_empty (a : Arr α) (zero : α) (zb : β) (hwf : a.WF) (h0 : 0 ∈ a.shape)
    (f1 : Arr α → Res (Arr β)) (kd : Option Bool) (g1 : Arr α → Option Bool → Res (Arr β)) :
    a.elems = [] ∧ a.reduceAxis zero zb none f1 = f1 ⟨[], a.shape⟩ ∧ a.countAxis zero zb none kd g1 = g1 ⟨[], a.shape⟩ kd ∧
    a.scanAxis zero zb none f1 = f1 (Arr.flat []) := by
  have he := elems_nil_of_zero_mem a hwf h0
  have ha := eq_mk_nil_of_zero_mem a hwf h0
  refine ⟨he, ?_, ?_, ?_⟩
  · show f1 a = _; rw [← ha]
  · show g1 a kd = _; rw [← ha]
  · show f1 a.ravel = _; rw [Arr.ravel, he]

/-- **the three families never panic**: EVERY well-formed array (zero-length axes or not), every axis argument (none,
in range, out of range, either spelling), `keepdims` anything, 1-D bodies that never panic themselves -/
theorem axis_ops_never_panic (a : Arr α) (zero : α) (zb : β) (axis : Option Int) (kd : Option Bool)
    (f1 : Arr α → Res (Arr β)) (g1 : Arr α → Option Bool → Res (Arr β)) (hwf : a.WF)
    (hf : ∀ x, f1 x ≠ .panic) (hg : ∀ x k, g1 x k ≠ .panic) :
    a.reduceAxis zero zb axis f1 ≠ .panic ∧ a.countAxis zero zb axis kd g1 ≠ .panic ∧ a.scanAxis zero zb axis f1 ≠ .panic := by
  cases axis with
  | none => exact ⟨hf a, hg a kd, hf _⟩
  | some ax =>
    refine ⟨?_, ?_, applyAlongAxis_never_panics a zero zb _ f1 hwf hf⟩
    · refine Res.bind_ne_panic (applyAlongAxis_never_panics a zero zb _ f1 hwf hf) fun r hr => ?_
      obtain ⟨hax, _, hnd⟩ := applyAlongAxis_ok a zero zb _ f1 hwf hf r hr
      refine Res.ite_ne_panic (fun _ => ?_) (fun _ => Arr.reshape_ne_panic _ _)
      rw [removeAxis_reshape r _ _ (hnd ▸ hax)]
      exact Arr.new_ne_panic _ _
    · refine Res.bind_ne_panic (applyAlongAxis_never_panics a zero zb _ _ hwf fun x => hg x kd) fun r hr => ?_
      obtain ⟨hax, _, _⟩ := applyAlongAxis_ok a zero zb _ _ hwf (fun x => hg x kd) r hr
      refine Res.ite_ne_panic (fun _ => nofun) (fun _ => ?_)
      rw [removeAxis_reshape r _ _ hax]
      exact Arr.new_ne_panic _ _

/-! ### non-vacuity of the zero-length statements: shapes `[2,0]`, `[0,3]`, `[2,0,3]` (and `[1,0]`, `[0]`, where a reduction fits) -/
example : (⟨[], [2, 0]⟩ : Arr Nat).WF ∧ (⟨[], [0, 3]⟩ : Arr Nat).WF ∧ (⟨[], [2, 0, 3]⟩ : Arr Nat).WF := by decide
-- `[2,0]` axis 1: only the processed axis is empty; `[2,0]` axis 0 / `[0,3]` axis 1 / `[2,0,3]` axes 0, 2: another axis is empty
example : 0 ∉ ([2, 0] : List Nat).eraseIdx 1 ∧ ([2, 0] : List Nat).getD 1 0 = 0 := by decide
example : 0 ∈ ([2, 0] : List Nat).eraseIdx 0 ∧ 0 ∈ ([0, 3] : List Nat).eraseIdx 1 ∧ 0 ∈ ([2, 0, 3] : List Nat).eraseIdx 0
    ∧ 0 ∈ ([2, 0, 3] : List Nat).eraseIdx 2 ∧ 0 ∉ ([2, 0, 3] : List Nat).eraseIdx 1 := by decide
-- the sample bodies never panic, so the total statements apply to them
example : (∀ x, sumBody x ≠ .panic) ∧ (∀ x, cumsumBody x ≠ .panic) :=
  ⟨(fun _ h => nomatch h), (fun _ h => nomatch h)⟩
example := along_axis_total (⟨[], [2, 0, 3]⟩ : Arr Nat) 0 0 1 sumBody (by decide) (fun _ h => nomatch h)
example := reduce_empty_axis (⟨[], [2, 0]⟩ : Arr Nat) 0 0 1 sumBody (by decide) (by decide) (by decide) (by decide)
-- what the model answers, by evaluation:
example : (⟨[], [2, 0]⟩ : Arr Nat).reduceAxis 0 0 (some 1) sumBody = .err .ShapeMustMatchValuesLength := by decide +kernel
example : (⟨[], [2, 0]⟩ : Arr Nat).reduceAxis 0 0 (some 0) sumBody = .err .ParameterError := by decide +kernel
example : (⟨[], [0, 3]⟩ : Arr Nat).reduceAxis 0 0 (some 0) sumBody = .err .ShapeMustMatchValuesLength := by decide +kernel
example : (⟨[], [0, 3]⟩ : Arr Nat).reduceAxis 0 0 (some (-1)) sumBody = .err .ParameterError := by decide +kernel
example : (⟨[], [2, 0, 3]⟩ : Arr Nat).reduceAxis 0 0 (some 1) sumBody = .err .ShapeMustMatchValuesLength := by decide +kernel
example : (⟨[], [2, 0, 3]⟩ : Arr Nat).reduceAxis 0 0 (some 2) sumBody = .err .ParameterError := by decide +kernel
example : (⟨[], [1, 0]⟩ : Arr Nat).reduceAxis 0 0 (some 1) sumBody = .ok ⟨[0], [1]⟩ := by decide +kernel
example : (⟨[], [0]⟩ : Arr Nat).reduceAxis 0 0 (some 0) sumBody = .ok ⟨[0], [1]⟩ := by decide +kernel
example : (⟨[], [1, 0]⟩ : Arr Nat).countAxis 0 0 (some 1) (some true) countBody = .ok ⟨[0], [1, 1]⟩ := by decide +kernel
example : (⟨[], [2, 0]⟩ : Arr Nat).scanAxis 0 0 (some 1) cumsumBody = .ok ⟨[], [2, 0]⟩ := by decide +kernel
example : (⟨[], [2, 0, 3]⟩ : Arr Nat).scanAxis 0 0 (some 1) cumsumBody = .ok ⟨[], [2, 0, 3]⟩ := by decide +kernel
example : (⟨[], [2, 0, 3]⟩ : Arr Nat).scanAxis 0 0 (some 0) cumsumBody = .err .ParameterError := by decide +kernel
example : (⟨[], [0, 3]⟩ : Arr Nat).scanAxis 0 0 none cumsumBody = .ok ⟨[], [0]⟩ := by decide +kernel

/-! ## the 1-D kernels (`ArrModel/C08Kernels.lean`): what the `axis = None` arms compute, for lanes of EVERY length

`Elem α` carries the operations the Rust arms use (`zero`, `one`, `+`, `*`, `<`, `>`, `==`, `is_nan`, `N::from(NAN)`); `Elem.int` is
the instance of the integer types (no NaN), `Elem.nanInt` integers plus one NaN with the IEEE rules.  Laws are hypotheses:
`IsMonoid` (associative, neutral element), `Elem.LawfulOrd` (one linear order, no NaN), `Elem.NanLaws` (NaN absorbs `+` / `*`,
`NaN != x`); every one of them has an instance below. -/
section kernels
open ArrModel.C08K
variable {E : Elem α}

/-- **sum / prod are LEFT folds from `zero` / `one`**: the empty lane gives the initial value, one more element at the END
applies the operation once more on the right -/
theorem sum_prod_left_fold (E : Elem α) :
    sumK E [] = E.zero ∧ prodK E [] = E.one ∧
    (∀ xs x, sumK E (xs ++ [x]) = E.add (sumK E xs) x) ∧ (∀ xs x, prodK E (xs ++ [x]) = E.mul (prodK E xs) x) ∧
    (∀ xs, sumK E xs = xs.foldl E.add E.zero) ∧ (∀ xs, prodK E xs = xs.foldl E.mul E.one) :=
  ⟨rfl, rfl, fun xs x => by simp [sumK], fun xs x => by simp [prodK], fun _ => rfl, fun _ => rfl⟩

/-- concatenated lanes, no law assumed: the fold over the second part continues from the total of the first -/
theorem sum_prod_append (E : Elem α) (xs ys : List α) :
    sumK E (xs ++ ys) = ys.foldl E.add (sumK E xs) ∧ prodK E (xs ++ ys) = ys.foldl E.mul (prodK E xs) :=
  ⟨by simp [sumK], by simp [prodK]⟩

/-- concatenated lanes in a monoid: the total is the total of the parts -/
theorem sum_append_monoid (E : Elem α) (h : IsMonoid E.add E.zero) (xs ys : List α) :
    sumK E (xs ++ ys) = E.add (sumK E xs) (sumK E ys) := foldl_append_monoid h xs ys

theorem prod_append_monoid (E : Elem α) (h : IsMonoid E.mul E.one) (xs ys : List α) :
    prodK E (xs ++ ys) = E.mul (prodK E xs) (prodK E ys) := foldl_append_monoid h xs ys

/-- on the integer instance `sum` is the sum of the list -/
theorem sum_int (xs : List Int) : sumK Elem.int xs = xs.sum := by
  have := foldl_add_int xs 0
  simpa [sumK, Elem.int] using this

/-- **running totals** (cumsum, cumprod and their NaN forms): the answer has the lane's length, its `i`-th entry is what the
corresponding reduction (sum, prod, nansum, nanprod) gives on the first `i + 1` elements, and its last entry is the
reduction of the whole lane -/
theorem scan_kernel_running (E : Elem α) (op : ScanOp) (xs : List α) :
    (op.kernel E xs).length = xs.length ∧
    (∀ i, i < xs.length → ∃ v, (op.kernel E xs)[i]? = some v ∧ op.total.kernel E (xs.take (i + 1)) = .ok v) ∧
    (xs ≠ [] → ∃ v, (op.kernel E xs).getLast? = some v ∧ op.total.kernel E xs = .ok v) ∧
    (∀ ys, op.kernel E (xs ++ ys) = op.kernel E xs ++ runAcc (op.step E) (xs.foldl (op.step E) (op.init E)) ys) := by
  refine ⟨ScanOp.kernel_length E op xs, ?_, ?_, ?_⟩
  · intro i hi
    exact ⟨_, by rw [ScanOp.kernel_eq_runAcc, runAcc_getElem?, if_pos hi], ScanOp.total_kernel E op _⟩
  · intro hne
    exact ⟨_, by rw [ScanOp.kernel_eq_runAcc, runAcc_getLast?, if_neg hne], ScanOp.total_kernel E op _⟩
  · intro ys
    simp only [ScanOp.kernel_eq_runAcc, runAcc_append]

/-- cumsum spelled out: entry `i` is the sum of the first `i + 1` elements; the last entry is the sum -/
theorem cumsum_entries (E : Elem α) (xs : List α) :
    (cumsumK E xs).length = xs.length ∧ (∀ i, i < xs.length → (cumsumK E xs)[i]? = some (sumK E (xs.take (i + 1)))) ∧
    (xs ≠ [] → (cumsumK E xs).getLast? = some (sumK E xs)) ∧
    (cumprodK E xs).length = xs.length ∧ (∀ i, i < xs.length → (cumprodK E xs)[i]? = some (prodK E (xs.take (i + 1)))) ∧
    (xs ≠ [] → (cumprodK E xs).getLast? = some (prodK E xs)) := by
  refine ⟨runAcc_length _ _ _, fun i hi => ?_, fun hne => ?_, runAcc_length _ _ _, fun i hi => ?_, fun hne => ?_⟩
  · simp only [cumsumK, runAcc_getElem?, if_pos hi, sumK]
  · simp only [cumsumK, runAcc_getLast?, if_neg hne, sumK]
  · simp only [cumprodK, runAcc_getElem?, if_pos hi, prodK]
  · simp only [cumprodK, runAcc_getLast?, if_neg hne, prodK]

/-- **max / min on a non-empty lane of a linear order**: the answer is an element of the lane and bounds every element -/
theorem max_min_spec (E : Elem α) (h : E.LawfulOrd) (xs : List α) (hne : xs ≠ []) :
    (∃ m, maxK E xs = .ok m ∧ m ∈ xs ∧ ∀ y ∈ xs, E.le y m = true) ∧
    (∃ m, minK E xs = .ok m ∧ m ∈ xs ∧ ∀ y ∈ xs, E.le m y = true) :=
  ⟨maxK_lawful h.cmp xs hne, minK_lawful h xs hne⟩

/-- **the empty lane**: `max` / `min` / `argmax` / `argmin` answer `Err(ParameterError)` (no panic); `nanmax` / `nanmin` have no
emptiness test and answer `N::from(NAN)` (`0` on the integer types); the folds answer their initial value, the scans the
empty lane, `count_nonzero` zero -/
theorem empty_lane (E : Elem α) :
    maxK E [] = .err .ParameterError ∧ minK E [] = .err .ParameterError ∧
    CntOp.kernel E .argmax [] = .err .ParameterError ∧ CntOp.kernel E .argmin [] = .err .ParameterError ∧
    nanmaxK E [] = .ok E.nan ∧ nanminK E [] = .ok E.nan ∧
    sumK E [] = E.zero ∧ nansumK E [] = E.zero ∧ prodK E [] = E.one ∧ nanprodK E [] = E.one ∧
    (∀ op : ScanOp, op.kernel E [] = []) ∧ countK E [] = 0 :=
  ⟨rfl, rfl, rfl, rfl, rfl, rfl, rfl, rfl, rfl, rfl, fun op => by cases op <;> rfl, rfl⟩

/-- **argmax / argmin report the FIRST position of the extreme** (linear order, non-empty lane) -/
theorem arg_first_extreme (E : Elem α) (h : E.cmp.Lawful) (xs : List α) (hne : xs ≠ []) :
    (∃ p m, CntOp.kernel E .argmax xs = .ok p ∧ xs[p]? = some m ∧ (∀ y ∈ xs, E.le y m = true) ∧ ∀ q, q < p → xs[q]? ≠ some m) ∧
    (∃ p m, CntOp.kernel E .argmin xs = .ok p ∧ xs[p]? = some m ∧ (∀ y ∈ xs, E.le m y = true) ∧ ∀ q, q < p → xs[q]? ≠ some m) := by
  have hemp : ¬ xs.isEmpty = true := fun he => hne (List.isEmpty_iff.1 he)
  obtain ⟨p, m, h1, h2⟩ := C10.argmax_spec h xs hne
  obtain ⟨p', m', h1', h2'⟩ := C10.argmin_spec h xs hne
  exact ⟨⟨p, m, (if_neg hemp).trans h1, h2⟩, ⟨p', m', (if_neg hemp).trans h1', h2'⟩⟩

/-- **count_nonzero** = the number of elements that are `!=` zero; additive over concatenation; with a lawful `==` the number
of elements different from zero -/
theorem count_nonzero_kernel (E : Elem α) (xs ys : List α) :
    countK E xs = xs.countP (fun e => !E.beq e E.zero) ∧ countK E (xs ++ ys) = countK E xs + countK E ys ∧
    countK E xs ≤ xs.length ∧
    ((∀ a b, E.beq a b = true ↔ a = b) → ∀ [DecidableEq α], countK E xs = (xs.filter (fun e => decide (e ≠ E.zero))).length) := by
  refine ⟨by simp [countK, List.countP_eq_length_filter], by simp [countK], List.length_filter_le _ _, ?_⟩
  intro hb _
  unfold countK
  congr 1
  apply List.filter_congr
  intro x _
  by_cases hx : x = E.zero
  · simp [hx, (hb E.zero E.zero).2 rfl]
  · have : E.beq x E.zero = false := by
      cases hbx : E.beq x E.zero with
      | false => rfl
      | true => exact absurd ((hb _ _).1 hbx) hx
    simp [hx, this]

/-- **NaN-ignoring folds and scans = the plain form on the lane with every NaN REPLACED** by zero (sums) / one (products) -
exactly what the closures do; no law assumed -/
theorem nan_forms_replace (E : Elem α) (xs : List α) :
    nansumK E xs = sumK E (xs.map E.nanToZero) ∧ nanprodK E xs = prodK E (xs.map E.nanToOne) ∧
    nancumsumK E xs = cumsumK E (xs.map E.nanToZero) ∧ nancumprodK E xs = cumprodK E (xs.map E.nanToOne) :=
  ⟨foldl_replace_eq_map _ _ _ _, foldl_replace_eq_map _ _ _ _, runAcc_replace_eq_map _ _ _ _, runAcc_replace_eq_map _ _ _ _⟩

/-- in a monoid, replacing by the neutral element is leaving out: **nansum / nanprod = sum / prod of the lane with the NaNs
REMOVED** -/
theorem nan_forms_remove (E : Elem α) (ha : IsMonoid E.add E.zero) (hm : IsMonoid E.mul E.one) (xs : List α) :
    nansumK E xs = sumK E (xs.filter (fun x => !E.isNan x)) ∧ nanprodK E xs = prodK E (xs.filter (fun x => !E.isNan x)) :=
  ⟨foldl_replace_eq_filter ha E.isNan xs E.zero, foldl_replace_eq_filter hm E.isNan xs E.one⟩

/-- **nanmax / nanmin**: a lane that is not all NaN gives max / min of the lane with the NaNs removed; an all-NaN lane
(the empty lane included) gives `N::from(NAN)` -/
theorem nan_extrema (E : Elem α) (xs : List α) :
    (xs.all E.isNan = false → nanmaxK E xs = maxK E (xs.filter (fun i => !E.isNan i)) ∧
      nanminK E xs = minK E (xs.filter (fun i => !E.isNan i))) ∧
    (xs.all E.isNan = true → nanmaxK E xs = .ok E.nan ∧ nanminK E xs = .ok E.nan) :=
  ⟨fun h => ⟨nanmaxK_eq E xs h, nanminK_eq E xs h⟩, fun h => ⟨if_pos h, if_pos h⟩⟩

/-- **the plain forms and NaN**: sum / prod are NaN exactly when the lane contains a NaN (and so is every running total from the
first NaN on); nansum / nanprod never are; max / min of a lane containing a NaN answer `N::from(NAN)`; argmax / argmin answer
the position of the FIRST NaN; count_nonzero counts a NaN -/
theorem nan_propagation (E : Elem α) (h : E.NanLaws) (xs : List α) :
    E.isNan (sumK E xs) = xs.any E.isNan ∧ E.isNan (prodK E xs) = xs.any E.isNan ∧
    (∀ i, i < xs.length → ∃ v, (cumsumK E xs)[i]? = some v ∧ E.isNan v = (xs.take (i + 1)).any E.isNan) ∧
    E.isNan (nansumK E xs) = false ∧ E.isNan (nanprodK E xs) = false ∧
    (xs.any E.isNan = true → maxK E xs = .ok E.nan ∧ minK E xs = .ok E.nan) ∧
    (∀ i, xs.findIdx? E.isNan = some i → CntOp.kernel E .argmax xs = .ok i ∧ CntOp.kernel E .argmin xs = .ok i) ∧
    (∀ x, E.isNan x = true → countK E (x :: xs) = countK E xs + 1) := by
  have hz : ∀ x, E.isNan (E.nanToZero x) = false := Elem.isNan_replace E h.zero_not_nan
  have ho : ∀ x, E.isNan (E.nanToOne x) = false := Elem.isNan_replace E h.one_not_nan
  have hany : ∀ (g : α → α), (∀ x, E.isNan (g x) = false) → (xs.map g).any E.isNan = false := by
    intro g hg; rw [List.any_eq_false]; intro y hy
    obtain ⟨x, _, rfl⟩ := List.mem_map.1 hy
    simp [hg x]
  refine ⟨?_, ?_, ?_, ?_, ?_, ?_, ?_, ?_⟩
  · simp [sumK, isNan_foldl E.isNan E.add h.add_nan, h.zero_not_nan]
  · simp [prodK, isNan_foldl E.isNan E.mul h.mul_nan, h.one_not_nan]
  · intro i hi
    refine ⟨(xs.take (i + 1)).foldl (fun acc x => E.add acc x) E.zero, by simp only [cumsumK, runAcc_getElem?, if_pos hi], ?_⟩
    simp [isNan_foldl E.isNan (fun acc x => E.add acc x) h.add_nan, h.zero_not_nan]
  · rw [(nan_forms_replace E xs).1]
    simp [sumK, isNan_foldl E.isNan E.add h.add_nan, h.zero_not_nan, hany _ hz]
  · rw [(nan_forms_replace E xs).2.1]
    simp [prodK, isNan_foldl E.isNan E.mul h.mul_nan, h.one_not_nan, hany _ ho]
  · exact fun hn => ⟨extremeK_of_nan E _ xs hn, extremeK_of_nan E _ xs hn⟩
  · intro i hi
    have hemp : ¬ xs.isEmpty = true := fun he => by rw [List.isEmpty_iff.1 he] at hi; cases hi
    exact ⟨(if_neg hemp).trans (C10.argExtreme_nan E.cmp true xs i hi), (if_neg hemp).trans (C10.argExtreme_nan E.cmp false xs i hi)⟩
  · intro x hx
    simp [countK, h.beq_nan x E.zero hx]

/-- a NaN-free lane of the NaN-tagged instance behaves like the integer instance (sums and products) -/
theorem nanInt_of_int (xs : List Int) :
    sumK Elem.nanInt (xs.map some) = some (sumK Elem.int xs) ∧ prodK Elem.nanInt (xs.map some) = some (prodK Elem.int xs) :=
  ⟨foldl_nanInt_some (· + ·) Elem.nanInt.add (fun _ _ => rfl) xs 0, foldl_nanInt_some (· * ·) Elem.nanInt.mul (fun _ _ => rfl) xs 1⟩

/-! ### composed with the lane theorems: what `op(axis)` returns, in terms of the kernels -/

/-- **reductions along an axis** (sum, prod, nansum, nanprod, max/amax, min/amin, nanmax, nanmin; every rank, every axis, every
axis length >= 1, every element structure): the value at every position of the remaining axes is the KERNEL of the operation
on the lane through that position - e.g. for `sum` the left fold `((zero + l0) + l1) + …` of that lane -/
theorem reduce_kernel_spec (E : Elem α) (op : RedOp) (a : Arr α) (ax : Int)
    (hwf : a.WF) (hnz : 0 ∉ a.shape) (hax : normalizeAxis a.ndim ax < a.ndim) :
    ∃ r, reduceOp E op a (some ax) = .ok r ∧
      r.shape = (if a.ndim > 1 then a.shape.eraseIdx (normalizeAxis a.ndim ax) else [1]) ∧ r.WF ∧
      ∀ c, inRange (a.shape.eraseIdx (normalizeAxis a.ndim ax)) c = true →
        ∃ v, op.kernel E (laneOf a (normalizeAxis a.ndim ax) (c.insertIdx (normalizeAxis a.ndim ax) 0)) = .ok v ∧
          r.get? (if a.ndim > 1 then c else [0]) = some v := by
  have hpos : 0 < a.shape.getD (normalizeAxis a.ndim ax) 0 := getD_mem_pos _ _ hax hnz
  have hbody : ∀ lane : List α, lane.length = a.shape.getD (normalizeAxis a.ndim ax) 0 →
      ∃ v, op.kernel E lane = .ok v ∧ op.lane E (Arr.flat lane) = .ok (Arr.single v) := by
    intro lane hl
    obtain ⟨v, hv⟩ := RedOp.kernel_ok E op lane (length_pos_ne_nil lane _ hl hpos)
    exact ⟨v, hv, RedOp.lane_flat E op lane v hv⟩
  obtain ⟨r, h1, h2, h3, h4⟩ := reduce_spec a E.zero E.zero ax (op.lane E) hwf hnz hax
    (fun lane hl => by obtain ⟨v, _, hv⟩ := hbody lane hl; exact ⟨_, hv, rfl⟩)
  exact ⟨r, h1, h2, h3, fun c hc => kernel_of_single (hbody _ (laneOf_reduced_length a _ c hwf hax hc)) (h4 c hc)⟩

/-- **scans along an axis** (cumsum, cumprod, nancumsum, nancumprod): the shape is kept and the value at coordinate `c` is the
corresponding reduction (sum, prod, nansum, nanprod) of the first `c[axis] + 1` elements of the lane through `c` -/
theorem scan_kernel_spec (E : Elem α) (op : ScanOp) (a : Arr α) (ax : Int)
    (hwf : a.WF) (hnz : 0 ∉ a.shape) (hax : normalizeAxis a.ndim ax < a.ndim) :
    ∃ r, scanOp E op a (some ax) = .ok r ∧ r.shape = a.shape ∧ r.WF ∧
      ∀ c, inRange a.shape c = true →
        ∃ v, (op.kernel E (laneOf a (normalizeAxis a.ndim ax) c))[c.getD (normalizeAxis a.ndim ax) 0]? = some v ∧
          op.total.kernel E ((laneOf a (normalizeAxis a.ndim ax) c).take (c.getD (normalizeAxis a.ndim ax) 0 + 1)) = .ok v ∧
          r.get? c = some v := by
  obtain ⟨r, h1, h2, h3, h4⟩ := scan_spec a E.zero E.zero ax (op.lane E) hwf hnz hax
    (fun lane _ => ⟨_, ScanOp.lane_flat E op lane, by simp⟩)
  refine ⟨r, h1, h2, h3, ?_⟩
  intro c hc
  obtain ⟨y, v, e1, e2, e3⟩ := h4 c hc
  rw [ScanOp.lane_flat] at e1
  cases e1
  refine ⟨v, e2, ?_, e3⟩
  simp only at e2
  have hk : c.getD (normalizeAxis a.ndim ax) 0 < (laneOf a (normalizeAxis a.ndim ax) c).length := by
    have := (List.getElem?_eq_some_iff.1 e2).1
    simpa using this
  rw [ScanOp.kernel_eq_runAcc, runAcc_getElem?, if_pos hk] at e2
  rw [ScanOp.total_kernel]
  exact congrArg Res.ok (Option.some.inj e2)

/-- **count_nonzero / argmax / argmin along an axis** with `keepdims`: the value at every position of the remaining axes is the
kernel on the lane through it - the number of elements `!=` zero, resp. (linear order) the first position of the extreme -/
theorem count_kernel_spec (E : Elem α) (op : CntOp) (a : Arr α) (ax : Int) (kd : Option Bool)
    (hop : op = .countNonzero ∨ E.cmp.Lawful)
    (hwf : a.WF) (hnz : 0 ∉ a.shape) (hax : normalizeAxis a.ndim ax < a.ndim) :
    ∃ r, countOp E op a (some ax) kd = .ok r ∧
      r.shape = (if kd = some true then a.shape.set (normalizeAxis a.ndim ax) 1 else a.shape.eraseIdx (normalizeAxis a.ndim ax)) ∧
      r.WF ∧
      ∀ c, inRange (a.shape.eraseIdx (normalizeAxis a.ndim ax)) c = true →
        ∃ v, op.kernel E (laneOf a (normalizeAxis a.ndim ax) (c.insertIdx (normalizeAxis a.ndim ax) 0)) = .ok v ∧
          r.get? (if kd = some true then c.insertIdx (normalizeAxis a.ndim ax) 0 else c) = some v := by
  have hpos : 0 < a.shape.getD (normalizeAxis a.ndim ax) 0 := getD_mem_pos _ _ hax hnz
  have hbody : ∀ lane : List α, lane.length = a.shape.getD (normalizeAxis a.ndim ax) 0 →
      ∃ v, op.kernel E lane = .ok v ∧ op.lane E (Arr.flat lane) kd = .ok (Arr.single v) := by
    intro lane hl
    obtain ⟨v, hv⟩ := CntOp.kernel_ok E op hop lane (length_pos_ne_nil lane _ hl hpos)
    exact ⟨v, hv, CntOp.lane_flat E op lane kd v hv⟩
  obtain ⟨r, h1, h2, h3, h4⟩ := count_spec a E.zero (0 : Nat) ax kd (op.lane E) hwf hnz hax
    (fun lane hl => by obtain ⟨v, _, hv⟩ := hbody lane hl; exact ⟨_, hv, rfl⟩)
  exact ⟨r, h1, h2, h3, fun c hc => kernel_of_single (hbody _ (laneOf_reduced_length a _ c hwf hax hc)) (h4 c hc)⟩

/-- **no axis**: the kernel on the whole buffer (reductions: `[1]`-shaped; scans: the running values of the flattened array;
count family on a rank-1 array or without `keepdims = Some(true)`: `[1]`-shaped) -/
theorem kernel_none_axis (E : Elem α) (a : Arr α) :
    (∀ op : RedOp, reduceOp E op a none = (op.kernel E a.elems >>= fun v => .ok ⟨[v], [1]⟩)) ∧
    (∀ op : ScanOp, scanOp E op a none = .ok ⟨op.kernel E a.elems, [a.elems.length]⟩) ∧
    (∀ kd, kd ≠ some true → countOp E .countNonzero a none kd = .ok ⟨[countK E a.elems], [1]⟩) :=
  ⟨fun _ => rfl, fun op => ScanOp.lane_flat E op a.elems, fun _ hk => if_neg hk⟩

/-- the kernel-backed reductions and scans never panic, whatever the element structure, the array, the axis argument -/
theorem kernel_ops_never_panic (E : Elem α) (a : Arr α) (hwf : a.WF) (axis : Option Int) (rop : RedOp) (sop : ScanOp) :
    reduceOp E rop a axis ≠ .panic ∧ scanOp E sop a axis ≠ .panic :=
  ⟨(axis_ops_never_panic a E.zero E.zero axis none (rop.lane E) (fun x _ => rop.lane E x) hwf (RedOp.lane_ne_panic E rop)
      (fun x _ => RedOp.lane_ne_panic E rop x)).1,
    (axis_ops_never_panic a E.zero E.zero axis none (sop.lane E) (fun x _ => sop.lane E x) hwf (ScanOp.lane_ne_panic E sop)
      (fun x _ => ScanOp.lane_ne_panic E sop x)).2.2⟩

/-! ### non-vacuity of the kernel section: the laws have instances, the hypotheses are satisfiable, the definitions compute -/
example : Elem.int.LawfulOrd ∧ IsMonoid Elem.int.add Elem.int.zero ∧ IsMonoid Elem.int.mul Elem.int.one ∧ Elem.int.NanLaws :=
  ⟨Elem.int_lawfulOrd, Elem.int_add_monoid, Elem.int_mul_monoid, Elem.int_nanLaws⟩
example : IsMonoid Elem.nanInt.add Elem.nanInt.zero ∧ IsMonoid Elem.nanInt.mul Elem.nanInt.one ∧ Elem.nanInt.NanLaws :=
  ⟨Elem.nanInt_add_monoid, Elem.nanInt_mul_monoid, Elem.nanInt_nanLaws⟩
example : ([some 1, none, some 3] : List (Option Int)).all Elem.nanInt.isNan = false ∧
    ([none, none] : List (Option Int)).all Elem.nanInt.isNan = true ∧ ([some 1, none] : List (Option Int)).any Elem.nanInt.isNan = true ∧
    ([some 1, none, none] : List (Option Int)).findIdx? Elem.nanInt.isNan = some 1 := by decide
example : ∀ a b : Int, Elem.int.beq a b = true ↔ a = b := fun a b => by simp [Elem.int]
example : sampleI.WF ∧ 0 ∉ sampleI.shape ∧ normalizeAxis sampleI.ndim (-2) < sampleI.ndim := by decide
example := reduce_kernel_spec Elem.int .max sampleI (-2) (by decide) (by decide) (by decide)
example := count_kernel_spec Elem.int .argmax sampleI 1 none (Or.inr Elem.int_lawfulOrd.cmp) (by decide) (by decide) (by decide)
example := count_kernel_spec Elem.nanInt .countNonzero sampleN 1 none (Or.inl rfl) (by decide) (by decide) (by decide)
example : reduceOp Elem.int .sum sampleI (some 1) = .ok ⟨[2, 9, 12, 9], [2, 2]⟩ ∧
    reduceOp Elem.int .max sampleI (some (-2)) = .ok ⟨[4, 9, 5, 6], [2, 2]⟩ ∧
    reduceOp Elem.int .min sampleI (some 0) = .ok ⟨[2, -1, 4, 1, -5, 0], [3, 2]⟩ ∧
    reduceOp Elem.int .prod sampleI none = .ok ⟨[0], [1]⟩ := by decide +kernel
example : scanOp Elem.int .cumsum sampleI (some 1) = .ok ⟨[3, -1, 7, 0, 2, 9, 2, 6, 7, 9, 12, 9], [2, 3, 2]⟩ ∧
    scanOp Elem.int .cumprod sampleI none = .ok ⟨[3, -3, -12, -12, 60, 540, 1080, 6480, 32400, 97200, 486000, 0], [12]⟩ := by
  decide +kernel
example : countOp Elem.int .countNonzero sampleI (some 1) (some true) = .ok ⟨[3, 3, 3, 2], [2, 1, 2]⟩ ∧
    countOp Elem.int .argmax sampleI (some 1) none = .ok ⟨[1, 2, 1, 0], [2, 2]⟩ ∧
    countOp Elem.int .argmin sampleI (some 2) (some false) = .ok ⟨[1, 1, 0, 0, 1, 1], [2, 3]⟩ := by decide +kernel
example : reduceOp Elem.nanInt .sum sampleN (some 1) = .ok ⟨[some 2, none, none, none], [2, 2]⟩ ∧
    reduceOp Elem.nanInt .nansum sampleN (some 1) = .ok ⟨[some 2, some 10, some 10, some 6], [2, 2]⟩ ∧
    reduceOp Elem.nanInt .max sampleN (some 1) = .ok ⟨[some 4, none, none, none], [2, 2]⟩ ∧
    reduceOp Elem.nanInt .nanmin sampleN (some 1) = .ok ⟨[some (-5), some 1, some 5, some 0], [2, 2]⟩ ∧
    scanOp Elem.nanInt .nancumprod sampleN (some 1) =
      .ok ⟨[some 3, some 1, some 12, some 1, some (-60), some 9, some 1, some 6, some 5, some 6, some 25, some 0], [2, 3, 2]⟩ ∧
    countOp Elem.nanInt .argmax sampleN (some 1) none = .ok ⟨[1, 0, 0, 1], [2, 2]⟩ ∧
    countOp Elem.nanInt .countNonzero sampleN (some 1) none = .ok ⟨[3, 3, 3, 2], [2, 2]⟩ := by decide +kernel
example : reduceOp Elem.int .max ⟨[], [0]⟩ (some 0) = .err .ParameterError ∧ reduceOp Elem.int .nanmax ⟨[], [0]⟩ (some 0) = .ok ⟨[0], [1]⟩ ∧
    reduceOp Elem.nanInt .nanmax ⟨[], [0]⟩ none = .ok ⟨[none], [1]⟩ ∧ countOp Elem.int .argmin ⟨[], [0]⟩ none none = .err .ParameterError ∧
    scanOp Elem.int .cumsum ⟨[], [2, 0]⟩ (some 1) = .ok ⟨[], [2, 0]⟩ := by decide +kernel

end kernels

end ArrModel.C08
