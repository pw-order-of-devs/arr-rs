import ArrProofs.Lemmas.C20
import ArrProofs.Lemmas.C20Int
/-!
# C20 — operator overloads equal the native scalar operators at every position

Property theorems only (helpers in `ArrProofs/Lemmas/C20.lean`, `C20Int.lean`).  Model under test: `ArrModel/C20.lean`
(`binop`, `scalarop`, `assignop`, `assignScalar`, `unop`, `bitop`, `bitScalar`, `bitAssign`, `bitAssignScalar`,
`opEq`, `opNe`, `opPartialCmp`, `opLt`, `opLe`, `opGt`, `opGe`), which transcribes `impl_op!`, `Neg`,
`impl_bitwise_ops!`, `Not`, `PartialEq`, `PartialOrd` statement by statement.

All theorems hold for every element type, every scalar function `f`/`g`/`eq`/`pcmp`, every shape (no bound on
rank or length).  `f` stands for the native scalar operator.  For the INTEGER element types and `bool` the native
operator itself is modelled (`ArrModel/C20Int.lean`, second half of this file: every width, every value, both
builds); for the float types it stays a parameter that the tie evaluates natively and bit-exactly.
-/
namespace ArrModel.C20
open ArrModel Arr

variable {α : Type}

/-! ## array ∘ array (`impl_op!`) -/

/-- **complete characterisation of `a op b`**: a value is produced exactly for equal shapes (whose product
matches the zipped length), and it is the receiver's shape with the zipped elements. -/
theorem binop_ok_iff (f : α → α → α) (a b r : Arr α) :
    binop f a b = .ok r ↔
      a.shape = b.shape ∧ a.shape.prod = min a.elems.length b.elems.length ∧
      r = ⟨List.zipWith f a.elems b.elems, a.shape⟩ := by
  unfold binop
  by_cases hs : a.shape = b.shape
  · rw [if_neg (by simpa using hs), newUnwrap_ok_iff]; simp [hs]
  · rw [if_pos hs]; simp [hs]

/-- **`a op b` on well-formed equally shaped arrays**: the receiver's shape, a well-formed result, and at
every position the scalar operator applied to the two elements at that position. -/
theorem binop_at (f : α → α → α) (a b : Arr α) (ha : a.WF) (hb : b.WF) (hs : a.shape = b.shape) :
    ∃ r, binop f a b = .ok r ∧ r.shape = a.shape ∧ r.WF ∧ r.elems.length = a.elems.length ∧
      ∀ (i : Nat) (x y : α), a.elems[i]? = some x → b.elems[i]? = some y → r.elems[i]? = some (f x y) :=
  ⟨_, binop_eq f a b ha hb hs, rfl, zip_reading f a b ha hb hs⟩

/-- the same, read through coordinates (`get? c = elems[ravel shape c]?`, C02): the element of the result at
coordinate `c` is `f` of the operands' elements at coordinate `c`. -/
theorem binop_at_coord (f : α → α → α) (a b r : Arr α) (h : binop f a b = .ok r) (c : List Nat) (x y : α)
    (hx : a.get? c = some x) (hy : b.get? c = some y) : r.get? c = some (f x y) := by
  obtain ⟨hs, -, rfl⟩ := (binop_ok_iff f a b r).1 h
  unfold Arr.get? at *
  rw [← hs] at hy
  exact getElem?_zipWith_some f _ _ _ x y hx hy

/-- a panic is the only refusal (`a op b` has no `Result`) -/
theorem binop_never_err (f : α → α → α) (a b : Arr α) (e : Err) : binop f a b ≠ .err e := by
  unfold binop; split
  · simp
  · exact newUnwrap_ne_err _ _ e

/-! ## array ∘ scalar -/

/-- **`a op s`** returns `Ok` of the receiver's shape with `f · s` at every position -/
theorem scalarop_at (f : α → α → α) (a : Arr α) (s : α) (ha : a.WF) :
    ∃ r, scalarop f a s = .ok r ∧ r.shape = a.shape ∧ r.WF ∧ r.elems.length = a.elems.length ∧
      ∀ (i : Nat) (x : α), a.elems[i]? = some x → r.elems[i]? = some (f x s) :=
  ⟨_, scalarop_eq f a s ha, rfl, map_reading (fun x => f x s) a ha⟩

/-- the scalar forms never panic, whatever the receiver -/
theorem scalarop_never_panics (f : α → α → α) (a : Arr α) (s : α) : scalarop f a s ≠ .panic := by
  by_cases ha : a.WF
  · rw [scalarop_eq f a s ha]; exact nofun
  · rw [scalarop, mapArr_err _ _ ha]; exact nofun

/-! ## compound assignment -/

/-- **`a op= b` leaves the receiver equal to what `a op b` returns** (both refuse — panic — on different
shapes), given that the scalar compound assignment `g` agrees with the scalar operator `f`. -/
theorem assign_eq_plain (f g : α → α → α) (hg : ∀ x y, g x y = f x y) (a b : Arr α) (ha : a.WF) (hb : b.WF) :
    assignop g a b = binop f a b := by
  by_cases hs : a.shape = b.shape
  · rw [show g = f from funext fun x => funext (hg x), binop_eq f a b ha hb hs,
      assignop_eq f a b (Nat.le_of_eq (length_eq_of_shape ha hb hs)) hs]
  · rw [assignop, binop, if_pos hs, if_pos hs]

/-- per position: the state after `a op= b` holds `g x y` -/
theorem assignop_at (g : α → α → α) (a b : Arr α) (ha : a.WF) (hb : b.WF) (hs : a.shape = b.shape) :
    ∃ r, assignop g a b = .ok r ∧ r.shape = a.shape ∧ r.WF ∧
      ∀ (i : Nat) (x y : α), a.elems[i]? = some x → b.elems[i]? = some y → r.elems[i]? = some (g x y) := by
  obtain ⟨r, h, h1, h2, -, h4⟩ := binop_at g a b ha hb hs
  exact ⟨r, by rw [assign_eq_plain g g (fun _ _ => rfl) a b ha hb, h], h1, h2, h4⟩

/-- **`a op= s` leaves the receiver equal to what `a op s` returns** -/
theorem assignScalar_eq_plain (f g : α → α → α) (hg : ∀ x y, g x y = f x y) (a : Arr α) (s : α) (ha : a.WF) :
    assignScalar g a s = scalarop f a s := by
  rw [scalarop_eq f a s ha, assignScalar, show g = f from funext fun x => funext (hg x)]

/-! ## negation / logical not -/

/-- **`-a`, `!a`**: receiver's shape, `f` at every position -/
theorem unop_at (f : α → α) (a : Arr α) (ha : a.WF) :
    ∃ r, unop f a = .ok r ∧ r.shape = a.shape ∧ r.WF ∧ r.elems.length = a.elems.length ∧
      ∀ (i : Nat) (x : α), a.elems[i]? = some x → r.elems[i]? = some (f x) :=
  ⟨_, unop_eq f a ha, rfl, map_reading f a ha⟩

/-! ## bit operators (`impl_bitwise_ops!`) -/

theorem bitop_ok_iff (f : α → α → α) (a b r : Arr α) :
    bitop f a b = .ok r ↔ a.shape = b.shape ∧ r = ⟨List.zipWith f a.elems b.elems, a.shape⟩ := by
  unfold bitop
  by_cases hs : a.shape = b.shape
  · rw [if_neg (by simpa using hs)]; simp [hs, eq_comm]
  · rw [if_pos hs]; simp [hs]

/-- **`a & b`, `a | b`, `a ^ b`**: although the result is built by a struct literal (no validation), it is
well-formed, has the receiver's shape and holds `f x y` at every position. -/
theorem bitop_at (f : α → α → α) (a b : Arr α) (ha : a.WF) (hb : b.WF) (hs : a.shape = b.shape) :
    ∃ r, bitop f a b = .ok r ∧ r.shape = a.shape ∧ r.WF ∧ r.elems.length = a.elems.length ∧
      ∀ (i : Nat) (x y : α), a.elems[i]? = some x → b.elems[i]? = some y → r.elems[i]? = some (f x y) :=
  ⟨_, bitop_eq f a b hs, rfl, zip_reading f a b ha hb hs⟩

/-- on well-formed operands the bit operators and the arithmetic operators are the same lifting -/
theorem bitop_eq_binop (f : α → α → α) (a b : Arr α) (ha : a.WF) (hb : b.WF) : bitop f a b = binop f a b := by
  by_cases hs : a.shape = b.shape
  · rw [bitop_eq f a b hs, binop_eq f a b ha hb hs]
  · rw [bitop, binop, if_pos hs, if_pos hs]

theorem bitScalar_at (f : α → α → α) (a : Arr α) (s : α) (ha : a.WF) :
    ∃ r, bitScalar f a s = .ok r ∧ r.shape = a.shape ∧ r.WF ∧ r.elems.length = a.elems.length ∧
      ∀ (i : Nat) (x : α), a.elems[i]? = some x → r.elems[i]? = some (f x s) :=
  ⟨_, rfl, rfl, map_reading (fun x => f x s) a ha⟩

/-- **`a &= b` etc. leave the receiver equal to `a & b`** (same scalar function in the code: `*a = a.op(b)`) -/
theorem bitAssign_eq_plain (f : α → α → α) (a b : Arr α) (ha : a.WF) (hb : b.WF) :
    bitAssign f a b = bitop f a b := by
  rw [bitop_eq_binop f a b ha hb]
  exact assign_eq_plain f f (fun _ _ => rfl) a b ha hb

theorem bitAssignScalar_eq_plain (f : α → α → α) (a : Arr α) (s : α) :
    bitAssignScalar f a s = bitScalar f a s := rfl

/-! ## differently shaped operands are rejected -/

/-- **no operator combines or compares differently shaped arrays**: every two-array form refuses (by
panicking — an operator cannot return `Result`; the suite's `#[should_panic]` cases pin this refusal). -/
theorem mismatch_rejected (f : α → α → α) (eq : α → α → Bool) (pcmp : α → α → Option Ordering)
    (a b : Arr α) (hs : a.shape ≠ b.shape) :
    binop f a b = .panic ∧ assignop f a b = .panic ∧ bitop f a b = .panic ∧ bitAssign f a b = .panic ∧
    opEq eq a b = .panic ∧ opNe eq a b = .panic ∧ opPartialCmp pcmp a b = .panic ∧
    opLt pcmp a b = .panic ∧ opLe pcmp a b = .panic ∧ opGt pcmp a b = .panic ∧ opGe pcmp a b = .panic := by
  simp [binop, assignop, bitop, bitAssign, opEq, opNe, opPartialCmp, opLt, opLe, opGt, opGe, hs, Res.map]

/-- conversely a value (or a truth value) is only ever produced for equal shapes -/
theorem value_only_for_equal_shapes (f : α → α → α) (eq : α → α → Bool) (pcmp : α → α → Option Ordering)
    (a b : Arr α) :
    ((∃ r, binop f a b = .ok r) → a.shape = b.shape) ∧ ((∃ r, assignop f a b = .ok r) → a.shape = b.shape) ∧
    ((∃ r, bitop f a b = .ok r) → a.shape = b.shape) ∧ ((∃ v, opEq eq a b = .ok v) → a.shape = b.shape) ∧
    ((∃ v, opLt pcmp a b = .ok v) → a.shape = b.shape) := by
  by_cases hs : a.shape = b.shape
  · simp [hs]
  · have h := mismatch_rejected f eq pcmp a b hs
    simp [h.1, h.2.1, h.2.2.1, h.2.2.2.2.1, h.2.2.2.2.2.2.2.1]

/-! ## equality -/

/-- **`a == b` is true exactly when all elements are equal** (equal shapes, well-formed) -/
theorem eq_iff_all (eq : α → α → Bool) (a b : Arr α) (ha : a.WF) (hb : b.WF) (hs : a.shape = b.shape) :
    ∃ v, opEq eq a b = .ok v ∧
      (v = true ↔ ∀ (i : Nat) (x y : α), a.elems[i]? = some x → b.elems[i]? = some y → eq x y = true) :=
  ⟨_, by rw [opEq, if_neg (not_not_intro hs)], all_zip_iff eq a.elems b.elems⟩

/-- with a lawful scalar `==`: `a == b` iff the arrays are the same value -/
theorem eq_iff_same [BEq α] [LawfulBEq α] (a b : Arr α) (ha : a.WF) (hb : b.WF) (hs : a.shape = b.shape) :
    opEq (· == ·) a b = .ok true ↔ a = b := by
  have hl := length_eq_of_shape ha hb hs
  obtain ⟨ae, sh⟩ := a
  obtain ⟨be, _⟩ := b
  cases hs
  rw [opEq, if_neg (not_not_intro rfl), Res.ok.injEq, all_zip_beq_iff ae be hl, Arr.mk.injEq, and_iff_left rfl]

/-- `a != b` is the negation -/
theorem ne_eq_not_eq (eq : α → α → Bool) (a b : Arr α) : opNe eq a b = (opEq eq a b).map (!·) := rfl

/-! ## ordering: lexicographic on the flat element sequences -/

/-- **`a < b`**: true exactly when at the first position whose elements do not compare `Equal` the receiver's
element is `Less` (equal shapes ⇒ equal lengths, so no prefix case). -/
theorem lt_lex (pcmp : α → α → Option Ordering) (a b : Arr α) (ha : a.WF) (hb : b.WF) (hs : a.shape = b.shape) :
    ∃ v, opLt pcmp a b = .ok v ∧ (v = true ↔ FirstAt pcmp (some .lt) a.elems b.elems) := by
  refine ⟨_, by rw [opLt, opPartialCmp_eq pcmp a b hs]; rfl, ?_⟩
  rw [beq_iff_eq, slicePartialCmp_first_iff pcmp _ (by decide) _ _ (length_eq_of_shape ha hb hs)]

theorem gt_lex (pcmp : α → α → Option Ordering) (a b : Arr α) (ha : a.WF) (hb : b.WF) (hs : a.shape = b.shape) :
    ∃ v, opGt pcmp a b = .ok v ∧ (v = true ↔ FirstAt pcmp (some .gt) a.elems b.elems) := by
  refine ⟨_, by rw [opGt, opPartialCmp_eq pcmp a b hs]; rfl, ?_⟩
  rw [beq_iff_eq, slicePartialCmp_first_iff pcmp _ (by decide) _ _ (length_eq_of_shape ha hb hs)]

/-- **`a <= b`**: lexicographically less, or all positions `Equal` -/
theorem le_lex (pcmp : α → α → Option Ordering) (a b : Arr α) (ha : a.WF) (hb : b.WF) (hs : a.shape = b.shape) :
    ∃ v, opLe pcmp a b = .ok v ∧
      (v = true ↔ FirstAt pcmp (some .lt) a.elems b.elems ∨ AllEq pcmp a.elems b.elems) := by
  have hl := length_eq_of_shape ha hb hs
  refine ⟨_, by rw [opLe, opPartialCmp_eq pcmp a b hs]; rfl, ?_⟩
  rw [Bool.or_eq_true, beq_iff_eq, beq_iff_eq, slicePartialCmp_first_iff pcmp _ (by decide) _ _ hl,
    slicePartialCmp_eq_iff pcmp _ _ hl]

theorem ge_lex (pcmp : α → α → Option Ordering) (a b : Arr α) (ha : a.WF) (hb : b.WF) (hs : a.shape = b.shape) :
    ∃ v, opGe pcmp a b = .ok v ∧
      (v = true ↔ FirstAt pcmp (some .gt) a.elems b.elems ∨ AllEq pcmp a.elems b.elems) := by
  have hl := length_eq_of_shape ha hb hs
  refine ⟨_, by rw [opGe, opPartialCmp_eq pcmp a b hs]; rfl, ?_⟩
  rw [Bool.or_eq_true, beq_iff_eq, beq_iff_eq, slicePartialCmp_first_iff pcmp _ (by decide) _ _ hl,
    slicePartialCmp_eq_iff pcmp _ _ hl]

/-- **`partial_cmp`** answers `None` exactly when the first non-`Equal` position is incomparable (NaN) -/
theorem partialCmp_none_iff (pcmp : α → α → Option Ordering) (a b : Arr α) (ha : a.WF) (hb : b.WF)
    (hs : a.shape = b.shape) :
    opPartialCmp pcmp a b = .ok none ↔ FirstAt pcmp none a.elems b.elems := by
  rw [opPartialCmp_eq pcmp a b hs, Res.ok.injEq,
    slicePartialCmp_first_iff pcmp none (by decide) _ _ (length_eq_of_shape ha hb hs)]

/-- for integer elements this is Lean's own lexicographic order `<` on `List Int` -/
theorem lt_int_iff (a b : Arr Int) (hs : a.shape = b.shape) :
    opLt (fun x y => some (compare x y)) a b = .ok (decide (a.elems < b.elems)) := by
  rw [opLt, opPartialCmp_eq _ a b hs]
  exact congrArg Res.ok (Bool.eq_iff_iff.2 (by rw [beq_iff_eq, decide_eq_true_iff, slicePartialCmp_int_lt]))

/-! ## non-vacuity -/

example : (⟨[1, 2, 3, 4, 5, 6], [2, 3]⟩ : Arr Int).WF := by decide +kernel
example : binop (· - ·) (⟨[1, 2, 3, 4, 5, 6], [2, 3]⟩ : Arr Int) ⟨[6, 5, 4, 3, 2, 1], [2, 3]⟩
    = .ok ⟨[-5, -3, -1, 1, 3, 5], [2, 3]⟩ := by decide +kernel
example : binop (· - ·) (⟨[1, 2, 3, 4, 5, 6], [2, 3]⟩ : Arr Int) ⟨[6, 5, 4, 3, 2, 1], [3, 2]⟩ = .panic := by decide +kernel
example : assignop (· - ·) (⟨[1, 2, 3, 4, 5, 6], [2, 3]⟩ : Arr Int) ⟨[6, 5, 4, 3, 2, 1], [2, 3]⟩
    = .ok ⟨[-5, -3, -1, 1, 3, 5], [2, 3]⟩ := by decide +kernel
example : scalarop (· * ·) (⟨[1, 2, 3, 4, 5, 6], [2, 3]⟩ : Arr Int) 2 = .ok ⟨[2, 4, 6, 8, 10, 12], [2, 3]⟩ := by decide +kernel
example : unop (- ·) (⟨[1, -2], [1, 2]⟩ : Arr Int) = .ok ⟨[-1, 2], [1, 2]⟩ := by decide +kernel
example : opLt Flt.pcmp ⟨[some 1, some 2, some 3, some 0], [2, 2]⟩ ⟨[some 1, some 2, some 4, some 0], [2, 2]⟩ = .ok true := by decide +kernel
example : opLe Flt.pcmp ⟨[some 1, none], [2]⟩ ⟨[some 1, none], [2]⟩ = .ok false := by decide +kernel
example : FirstAt Flt.pcmp (some .lt) [some 1, some 2, some 3] [some 1, some 2, some 4] :=
  ⟨2, some 3, some 4, rfl, rfl, by decide, by decide, by
    intro j hj u v hu hv
    match j, hj with
    | 0, _ => simp at hu hv; subst hu hv; decide
    | 1, _ => simp at hu hv; subst hu hv; decide⟩
/-- without well-formedness the compound form and the plain form really differ (the hypothesis is needed) -/
example : assignop (· + ·) (⟨[1, 2, 3], [2]⟩ : Arr Int) ⟨[1], [2]⟩ ≠ binop (· + ·) ⟨[1, 2, 3], [2]⟩ ⟨[1], [2]⟩ := by decide +kernel

/-! # the NATIVE integer operators (`ArrModel/C20Int.lean`) — every width, every value

Scalars are `BitVec w` read through `IntTy.val` (two's complement for the signed types); `Build.harness` is the build
`./check` executes (`overflow-checks = true`), `Build.release` a plain release build (wrap-around).  `scalarBin … = none`
means: the operator panics. -/

section native
variable (ty : IntTy) (bld : Build)

/-! ## the array theorems instantiate to the native scalars -/

/-- **`a op b` with the native operator**: on well-formed equally shaped arrays the integer-valued model is the native
operator at every position — a value exactly when no position panics. -/
theorem iBinop_native (op : BinOp) (a b : IArr ty) (ha : a.WF) (hb : b.WF) (hs : a.shape = b.shape) :
    (∀ r, iBinop ty bld op a b = .ok r → r.shape = a.shape ∧
      ∀ (i : Nat) (x y : BitVec ty.w), a.elems[i]? = some x → b.elems[i]? = some y →
        ∃ v, scalarBin ty bld op x y = some v ∧ r.elems[i]? = some v) ∧
    (iBinop ty bld op a b = .panic ↔
      ∃ (i : Nat) (x y : BitVec ty.w), a.elems[i]? = some x ∧ b.elems[i]? = some y ∧ scalarBin ty bld op x y = none) ∧
    (∀ e, iBinop ty bld op a b ≠ .err e) := by
  rw [iBinop_eq ty bld op a b ha hb hs]
  refine ⟨fun r hr => ?_, by rw [liftOpt_eq_panic_iff, zipOpt_none_iff], liftOpt_ne_err _ _⟩
  obtain ⟨vs, hz, rfl⟩ := liftOpt_eq_ok_iff.1 hr
  exact ⟨rfl, zipOpt_some_getElem _ _ _ _ hz⟩

/-- **instance of `binop_at` with `f :=` the fixed-width operator**: whenever the native call returns, its value is the
generic model `binop` run with the wrapping machine operator `wrapBin` — the receiver's shape and
`wrapBin op x y` at every position. -/
theorem iBinop_eq_binop_wrap (op : BinOp) (a b r : IArr ty) (ha : a.WF) (hb : b.WF)
    (h : iBinop ty bld op a b = .ok r) : binop (wrapBin ty.signed op) a b = .ok r := by
  by_cases hs : a.shape = b.shape
  · rw [iBinop_eq ty bld op a b ha hb hs] at h
    obtain ⟨vs, hz, rfl⟩ := liftOpt_eq_ok_iff.1 h
    rw [binop_eq _ a b ha hb hs, zipOpt_some_eq _ _ (scalarBin_some ty bld op) _ _ _ hz]
  · rw [(iForms_mismatch ty bld op a b hs).1] at h
    cases h

/-- without overflow checks `+ - * & | ^` are total: the native call IS `binop` at the wrapping operator -/
theorem iBinop_release_eq_binop (op : BinOp) (h1 : op ≠ .div) (h2 : op ≠ .rem) (a b : IArr ty) (ha : a.WF) (hb : b.WF) :
    iBinop ty Build.release op a b = binop (wrapBin ty.signed op) a b := by
  by_cases hs : a.shape = b.shape
  · rw [iBinop_eq ty _ op a b ha hb hs, binop_eq _ a b ha hb hs,
      show scalarBin ty Build.release op = fun x y => some (wrapBin ty.signed op x y) from
        funext fun x => funext (release_total ty op h1 h2 x),
      zipOpt_total, liftOpt_some]
  · rw [(iForms_mismatch ty _ op a b hs).1, binop, if_pos hs]

/-- **`a op= b` equals `a op b`** for the native integer operators, in every build (also when they panic) -/
theorem iAssign_eq_iBinop (op : BinOp) (a b : IArr ty) (ha : a.WF) (hb : b.WF) :
    iAssign ty bld op a b = iBinop ty bld op a b := by
  by_cases hs : a.shape = b.shape
  · rw [iAssign_eq ty bld op a b ha hb hs, iBinop_eq ty bld op a b ha hb hs]; rfl
  · rw [(iForms_mismatch ty bld op a b hs).1, (iForms_mismatch ty bld op a b hs).2.1]

/-- **`a op= s` equals `a op s`** -/
theorem iAssignScalar_eq_iScalar (op : BinOp) (a : IArr ty) (s : BitVec ty.w) (ha : a.WF) :
    iAssignScalar ty bld op a s = iScalar ty bld op a s := by
  rw [iAssignScalar_eq, iScalar_eq ty bld op a s ha]; rfl

/-- `a &= b` equals `a & b`, `a &= s` equals `a & s` (likewise `|`, `^`) -/
theorem iBitAssign_eq_iBitop (op : BinOp) (a b : IArr ty) (ha : a.WF) (hb : b.WF) :
    iBitAssign ty bld op a b = iBitop ty bld op a b ∧
    ∀ s, iBitAssignScalar ty bld op a s = iBitScalar ty bld op a s := by
  refine ⟨?_, fun s => rfl⟩
  by_cases hs : a.shape = b.shape
  · rw [iBitAssign_eq ty bld op a b ha hb hs, iBitop_eq ty bld op a b ha hb hs]
  · rw [(iForms_mismatch ty bld op a b hs).2.2.1, (iForms_mismatch ty bld op a b hs).2.2.2]

/-- the scalar compound assignment IS the scalar operator (`x op= y` ≡ `x = x op y` on a primitive integer) -/
theorem scalarAsg_eq_scalarBin (op : BinOp) (x y : BitVec ty.w) : scalarAsg ty bld op x y = scalarBin ty bld op x y := rfl

/-- **`a op s`**: the native operator against the scalar at every position; a panic exactly when a position panics -/
theorem iScalar_native (op : BinOp) (a : IArr ty) (s : BitVec ty.w) (ha : a.WF) :
    (∀ r, iScalar ty bld op a s = .ok r → r.shape = a.shape ∧
      ∀ (i : Nat) (x : BitVec ty.w), a.elems[i]? = some x → ∃ v, scalarBin ty bld op x s = some v ∧ r.elems[i]? = some v) ∧
    (iScalar ty bld op a s = .panic ↔ ∃ x ∈ a.elems, scalarBin ty bld op x s = none) := by
  rw [iScalar_eq ty bld op a s ha]
  refine ⟨fun r hr => ?_, by rw [liftOpt_eq_panic_iff, allSome_eq_none_iff, List.mem_map]⟩
  obtain ⟨vs, hz, rfl⟩ := liftOpt_eq_ok_iff.1 hr
  exact ⟨rfl, fun i x hx => allSome_getElem hz (by rw [List.getElem?_map, hx]; rfl)⟩

/-- **`-a`, `!a`**: the native unary operator at every position; `-a` panics (overflow checks) exactly when `MIN` occurs -/
theorem iUnop_native (un : UnOp) (a : IArr ty) (ha : a.WF) :
    iUnop ty bld un a = liftOpt a.shape (allSome (a.elems.map (scalarUn ty bld un))) ∧
    (ty.signed = true → (iUnop ty Build.harness .neg a = .panic ↔ BitVec.intMin ty.w ∈ a.elems)) ∧
    iUnop ty bld .not a = .ok ⟨a.elems.map (~~~ ·), a.shape⟩ := by
  refine ⟨iUnop_eq ty bld un a ha, fun hsg => ?_, ?_⟩
  · have hneg : ∀ x, scalarUn ty Build.harness .neg x = none ↔ x = BitVec.intMin ty.w := fun x => by
      simp [scalarUn, unPanics, hsg, Build.harness]
    rw [iUnop_eq ty _ _ a ha, liftOpt_eq_panic_iff, allSome_eq_none_iff, List.mem_map]
    simp only [hneg, exists_eq_right]
  · rw [iUnop_eq ty _ _ a ha, show a.elems.map (scalarUn ty bld .not) = (a.elems.map (~~~ ·)).map some from
      (List.map_map ..).symm, allSome_map_some, liftOpt_some]

/-- **`a & b`, `a | b`, `a ^ b` never panic on equal shapes**: they are `bitop` at the machine operator, in every build -/
theorem iBitop_eq_bitop (op : BinOp) (hop : op = .and ∨ op = .or ∨ op = .xor) (a b : IArr ty) (ha : a.WF) (hb : b.WF) :
    iBitop ty bld op a b = bitop (wrapBin ty.signed op) a b := by
  by_cases hs : a.shape = b.shape
  · rw [iBitop_eq ty bld op a b ha hb hs, bitop_eq _ a b hs,
      show scalarBin ty bld op = fun x y => some (wrapBin ty.signed op x y) by
        rcases hop with rfl | rfl | rfl <;> rfl,
      zipOpt_total, liftOpt_some]
  · rw [(iForms_mismatch ty bld op a b hs).2.2.1, bitop, if_pos hs]

/-! ## overflow: the checked build computes the mathematical result or panics; the release build wraps -/

/-- **`+ - *` with overflow checks**: a value is the exact mathematical result; a panic happens exactly when that result is
not representable. -/
theorem checked_arith_exact (x y : BitVec ty.w) :
    (∀ v, scalarBin ty Build.harness .add x y = some v → ty.val v = ty.val x + ty.val y) ∧
    (∀ v, scalarBin ty Build.harness .sub x y = some v → ty.val v = ty.val x - ty.val y) ∧
    (∀ v, scalarBin ty Build.harness .mul x y = some v → ty.val v = ty.val x * ty.val y) ∧
    (scalarBin ty Build.harness .add x y = none ↔ ¬ (ty.minVal ≤ ty.val x + ty.val y ∧ ty.val x + ty.val y ≤ ty.maxVal)) ∧
    (scalarBin ty Build.harness .sub x y = none ↔ ¬ (ty.minVal ≤ ty.val x - ty.val y ∧ ty.val x - ty.val y ≤ ty.maxVal)) ∧
    (scalarBin ty Build.harness .mul x y = none ↔ ¬ (ty.minVal ≤ ty.val x * ty.val y ∧ ty.val x * ty.val y ≤ ty.maxVal)) :=
  ⟨checked_value ty .add (.inl rfl) x y, checked_value ty .sub (.inr (.inl rfl)) x y,
    checked_value ty .mul (.inr (.inr rfl)) x y, checked_none_iff ty .add (.inl rfl) x y,
    checked_none_iff ty .sub (.inr (.inl rfl)) x y, checked_none_iff ty .mul (.inr (.inr rfl)) x y⟩

/-- the two builds agree wherever the checked build returns; the release build never panics on `+ - * & | ^ << >>` -/
theorem builds_agree (op : BinOp) (x y : BitVec ty.w) :
    (∀ v, scalarBin ty Build.harness op x y = some v → scalarBin ty Build.release op x y = some v) ∧
    (op ≠ .div → op ≠ .rem → scalarBin ty Build.release op x y = some (wrapBin ty.signed op x y)) :=
  ⟨harness_some_release ty op x y, fun h1 h2 => release_total ty op h1 h2 x y⟩

/-- **wrap-around is arithmetic modulo `2^w`** (release build): the result is congruent to the mathematical one -/
theorem wrap_mod (x y : BitVec ty.w) :
    ty.val (wrapBin ty.signed .add x y) % (2 : Int) ^ ty.w = (ty.val x + ty.val y) % (2 : Int) ^ ty.w ∧
    ty.val (wrapBin ty.signed .sub x y) % (2 : Int) ^ ty.w = (ty.val x - ty.val y) % (2 : Int) ^ ty.w ∧
    ty.val (wrapBin ty.signed .mul x y) % (2 : Int) ^ ty.w = (ty.val x * ty.val y) % (2 : Int) ^ ty.w ∧
    ty.val (wrapUn .neg x) % (2 : Int) ^ ty.w = (- ty.val x) % (2 : Int) ^ ty.w := by
  refine ⟨val_add_emod ty x y, ?_, val_mul_emod ty x y, ?_⟩
  · -- `(x - y) + y = x`, so the difference is determined by the sum
    have h := val_add_emod ty (x - y) y
    rw [BitVec.sub_add_cancel] at h
    rw [Int.sub_emod, h, ← Int.sub_emod, Int.add_sub_cancel]
    rfl
  · -- `-x + x = 0`
    have h := val_add_emod ty (-x) x
    rw [BitVec.add_left_neg, val_zero] at h
    rw [← Int.zero_sub, Int.sub_emod, h, ← Int.sub_emod, Int.add_sub_cancel]
    rfl

/-! ## algebra of the native operators -/

/-- **`+` and `*` commute and are associative modulo `2^w`; `a - b + b = a`; `-(-a) = a`** (release build) -/
theorem wrap_ring (s : Bool) {w : Nat} (a b c : BitVec w) :
    wrapBin s .add a b = wrapBin s .add b a ∧ wrapBin s .mul a b = wrapBin s .mul b a ∧
    wrapBin s .add (wrapBin s .add a b) c = wrapBin s .add a (wrapBin s .add b c) ∧
    wrapBin s .mul (wrapBin s .mul a b) c = wrapBin s .mul a (wrapBin s .mul b c) ∧
    wrapBin s .add (wrapBin s .sub a b) b = a ∧ wrapUn .neg (wrapUn .neg a) = a :=
  ⟨BitVec.add_comm a b, BitVec.mul_comm a b, BitVec.add_assoc a b c, BitVec.mul_assoc a b c,
    BitVec.sub_add_cancel a b, BitVec.neg_neg⟩

/-- **bit operators**: `!(!a) = a`, `a ^ a = 0`, `a & a = a`, `a | a = a`, De Morgan (both), commutativity — every build -/
theorem bit_algebra (s : Bool) {w : Nat} (a b : BitVec w) :
    wrapUn .not (wrapUn .not a) = a ∧ wrapBin s .xor a a = 0 ∧ wrapBin s .and a a = a ∧ wrapBin s .or a a = a ∧
    wrapUn .not (wrapBin s .and a b) = wrapBin s .or (wrapUn .not a) (wrapUn .not b) ∧
    wrapUn .not (wrapBin s .or a b) = wrapBin s .and (wrapUn .not a) (wrapUn .not b) ∧
    wrapBin s .and a b = wrapBin s .and b a ∧ wrapBin s .or a b = wrapBin s .or b a ∧ wrapBin s .xor a b = wrapBin s .xor b a :=
  ⟨BitVec.not_not, BitVec.xor_self, BitVec.and_self, BitVec.or_self, BitVec.not_and, BitVec.not_or,
    BitVec.and_comm a b, BitVec.or_comm a b, BitVec.xor_comm a b⟩

/-- **in the overflow-checks build** `+`, `*` still commute — including WHEN they panic —, `a - b + b = a` whenever `a - b`
is defined (the addition then cannot overflow), `-(-a) = a` whenever `-a` is defined, and the associativity laws hold
whenever both sides are defined. -/
theorem checked_algebra (a b c : BitVec ty.w) :
    scalarBin ty bld .add a b = scalarBin ty bld .add b a ∧ scalarBin ty bld .mul a b = scalarBin ty bld .mul b a ∧
    (∀ d, scalarBin ty Build.harness .sub a b = some d → scalarBin ty Build.harness .add d b = some a) ∧
    (∀ n, scalarUn ty Build.harness .neg a = some n → scalarUn ty Build.harness .neg n = some a) ∧
    (∀ u v p q, scalarBin ty bld .add a b = some u → scalarBin ty bld .add u c = some p →
      scalarBin ty bld .add b c = some v → scalarBin ty bld .add a v = some q → p = q) ∧
    (∀ u v p q, scalarBin ty bld .mul a b = some u → scalarBin ty bld .mul u c = some p →
      scalarBin ty bld .mul b c = some v → scalarBin ty bld .mul a v = some q → p = q) := by
  refine ⟨?_, ?_, ?_, ?_, ?_, ?_⟩
  · rw [scalarBin, scalarBin, wrapBin, wrapBin, binPanics, binPanics, BitVec.add_comm a b, Int.add_comm (ty.val a)]
  · rw [scalarBin, scalarBin, wrapBin, wrapBin, binPanics, binPanics, BitVec.mul_comm a b, Int.mul_comm (ty.val a)]
  · intro d hd
    have hv : ty.val d = ty.val a - ty.val b := checked_value ty .sub (.inr (.inl rfl)) a b d hd
    -- the sum is the value of `a`, hence representable
    have hr : ty.inRange (ty.val d + ty.val b) = true := by
      rw [show ty.val d + ty.val b = ty.val a by omega]; exact val_inRange ty a
    refine (scalarBin_eq_some_iff ty _).2 ⟨by simp [binPanics, hr], ?_⟩
    rw [scalarBin_some ty _ _ a b d hd]
    exact (BitVec.sub_add_cancel a b).symm
  · intro n hn
    obtain ⟨hs, hne, hn', -⟩ := neg_value ty a n hn
    subst hn'
    have : -a ≠ BitVec.intMin ty.w := fun h => hne (BitVec.neg_eq_intMin.1 h)
    simp [scalarUn, unPanics, hs, this, wrapUn, Build.harness]
  · intro u v p q h1 h2 h3 h4
    rw [scalarBin_some ty bld _ _ _ _ h2, scalarBin_some ty bld _ _ _ _ h1, scalarBin_some ty bld _ _ _ _ h4,
      scalarBin_some ty bld _ _ _ _ h3]
    exact BitVec.add_assoc a b c
  · intro u v p q h1 h2 h3 h4
    rw [scalarBin_some ty bld _ _ _ _ h2, scalarBin_some ty bld _ _ _ _ h1, scalarBin_some ty bld _ _ _ _ h4,
      scalarBin_some ty bld _ _ _ _ h3]
    exact BitVec.mul_assoc a b c

/-! ## division and remainder -/

/-- **`x / 0` and `x % 0` panic for every `x`, in every build; `MIN / -1` and `MIN % -1` too (signed)** — and these are
the ONLY panics of `/` and `%`. -/
theorem div_rem_panics (x y : BitVec ty.w) :
    scalarBin ty bld .div x 0 = none ∧ scalarBin ty bld .rem x 0 = none ∧
    (ty.signed = true → scalarBin ty bld .div (BitVec.intMin ty.w) (BitVec.allOnes ty.w) = none ∧
      scalarBin ty bld .rem (BitVec.intMin ty.w) (BitVec.allOnes ty.w) = none) ∧
    (scalarBin ty bld .div x y = none ↔ y = 0 ∨ (ty.signed = true ∧ x = BitVec.intMin ty.w ∧ y = BitVec.allOnes ty.w)) ∧
    (scalarBin ty bld .rem x y = none ↔ y = 0 ∨ (ty.signed = true ∧ x = BitVec.intMin ty.w ∧ y = BitVec.allOnes ty.w)) := by
  have hd := fun x y => (scalarBin_eq_none_iff ty bld).trans (divPanics_iff ty bld .div (.inl rfl) x y)
  have hr := fun x y => (scalarBin_eq_none_iff ty bld).trans (divPanics_iff ty bld .rem (.inr rfl) x y)
  exact ⟨(hd x 0).2 (.inl rfl), (hr x 0).2 (.inl rfl),
    fun h => ⟨(hd _ _).2 (.inr ⟨h, rfl, rfl⟩), (hr _ _).2 (.inr ⟨h, rfl, rfl⟩)⟩, hd x y, hr x y⟩

/-- **`MIN / -1` is the only overflowing division**: for a non-zero divisor the truncated quotient of the operands' values is
representable unless the operands are `MIN` and `-1` of a signed type (where it is `2^(w-1) = MAX + 1`). -/
theorem div_overflow_only (hw : 0 < ty.w) (x y : BitVec ty.w) (hy : y ≠ 0) :
    ty.inRange ((ty.val x).tdiv (ty.val y)) = false ↔
      (ty.signed = true ∧ x = BitVec.intMin ty.w ∧ y = BitVec.allOnes ty.w) := by
  constructor
  · intro h
    by_cases hp : ty.signed = true ∧ x = BitVec.intMin ty.w ∧ y = BitVec.allOnes ty.w
    · exact hp
    · -- the division does not panic, so the quotient is the value of a bit pattern
      have hq : scalarBin ty Build.release .div x y = some (wrapBin ty.signed .div x y) :=
        (scalarBin_eq_some_iff ty _).2 ⟨Bool.eq_false_iff.2 fun hpan =>
          ((divPanics_iff ty _ .div (.inl rfl) x y).1 hpan).elim hy hp, rfl⟩
      rw [← div_value ty Build.release x y _ hq, val_inRange] at h
      cases h
  · rintro ⟨hs, rfl, rfl⟩
    have h1 : ty.val (BitVec.intMin ty.w) = -(2 : Int) ^ (ty.w - 1) := by
      rw [val_signed hs]; exact BitVec.toInt_intMin_of_pos hw
    have h2 : ty.val (BitVec.allOnes ty.w) = -1 := by
      rw [val_signed hs]; simp [BitVec.toInt_allOnes, hw]
    rw [h1, h2, Int.tdiv_neg, Int.tdiv_one, Int.neg_neg]
    exact Bool.eq_false_iff.2 fun hr => by rw [inRange_signed hs] at hr; omega

/-- **Rust's truncating division**: the quotient is the quotient of the values rounded toward zero, the remainder has the
sign of the dividend and is smaller than the divisor in absolute value, and `(a / b) * b + a % b = a` — on the values
and on the bit patterns — whenever `/` is defined (`%` is then defined too). -/
theorem div_rem_spec (x y q : BitVec ty.w) (hq : scalarBin ty bld .div x y = some q) :
    ∃ r, scalarBin ty bld .rem x y = some r ∧
      ty.val q = (ty.val x).tdiv (ty.val y) ∧ ty.val r = (ty.val x).tmod (ty.val y) ∧
      ty.val q * ty.val y + ty.val r = ty.val x ∧
      (0 ≤ ty.val x → 0 ≤ ty.val r) ∧ (ty.val x ≤ 0 → ty.val r ≤ 0) ∧ (ty.val r).natAbs < (ty.val y).natAbs ∧
      wrapBin ty.signed .add (wrapBin ty.signed .mul q y) r = x := by
  have hnp : ¬ (y = 0 ∨ (ty.signed = true ∧ x = BitVec.intMin ty.w ∧ y = BitVec.allOnes ty.w)) := fun h => by
    rw [(scalarBin_eq_none_iff ty bld).2 ((divPanics_iff ty bld .div (.inl rfl) x y).2 h)] at hq
    cases hq
  have hr : scalarBin ty bld .rem x y = some (wrapBin ty.signed .rem x y) :=
    (scalarBin_eq_some_iff ty bld).2
      ⟨Bool.eq_false_iff.2 fun h => hnp ((divPanics_iff ty bld .rem (.inr rfl) x y).1 h), rfl⟩
  have hy0 : ty.val y ≠ 0 := fun h0 => hnp (.inl ((val_inj ty y 0).1 (h0.trans (val_zero ty).symm)))
  have vq := div_value ty bld x y q hq
  have vr := rem_value ty bld x y _ hr
  have hsum : ty.val q * ty.val y + ty.val (wrapBin ty.signed .rem x y) = ty.val x := by
    rw [vq, vr, Int.mul_comm]; exact Int.mul_tdiv_add_tmod _ _
  refine ⟨_, hr, vq, vr, hsum, ?_, ?_, ?_, ?_⟩
  · intro h; rw [vr]; exact Int.tmod_nonneg _ h
  · intro h; rw [vr]
    have := Int.tmod_nonneg (ty.val y) (a := -ty.val x) (by omega)
    rw [Int.neg_tmod] at this; omega
  · rw [vr, Int.natAbs_tmod]; exact Nat.mod_lt _ (by omega)
  · -- both sides denote the same value modulo 2^w, hence the same bit pattern
    have hm : ty.val (wrapBin ty.signed .mul q y) % (2 : Int) ^ ty.w = (ty.val q * ty.val y) % (2 : Int) ^ ty.w :=
      val_mul_emod ty q y
    refine eq_of_val_emod_eq ty ((val_add_emod ty _ _).trans ?_)
    rw [Int.add_emod, hm, ← Int.add_emod, hsum]

/-! ## shifts -/

/-- **shifts by `k < w`**: `x << k` is multiplication by `2^k` modulo `2^w`, `x >> k` is FLOOR division of the value by `2^k`
— logical for the unsigned types, arithmetic (sign-propagating) for the signed ones —, in every build. -/
theorem shift_small (x k : BitVec ty.w) (hk : k.toNat < ty.w) :
    scalarBin ty bld .shl x k = some (wrapBin ty.signed .mul x (BitVec.twoPow ty.w k.toNat)) ∧
    (∀ r, scalarBin ty bld .shl x k = some r → ty.val r % (2 : Int) ^ ty.w = (ty.val x * (2 : Int) ^ k.toNat) % (2 : Int) ^ ty.w) ∧
    ∃ r, scalarBin ty bld .shr x k = some r ∧ ty.val r = ty.val x / (2 : Int) ^ k.toNat := by
  refine ⟨shl_value ty bld x k hk, ?_, ?_⟩
  · intro r hr
    rw [shl_value ty bld x k hk, Option.some.injEq] at hr
    subst hr
    have htp : ty.val (BitVec.twoPow ty.w k.toNat) % (2 : Int) ^ ty.w = (2 : Int) ^ k.toNat % (2 : Int) ^ ty.w := by
      rw [val_emod, BitVec.toNat_twoPow_of_lt hk, two_pow_cast]
      exact (Int.emod_eq_of_lt (Int.pow_nonneg (by decide)) (Int.pow_lt_pow_of_lt (by decide) hk)).symm
    rw [val_mul_emod, Int.mul_emod, htp, ← Int.mul_emod]
  · have hv : scalarBin ty bld .shr x k = some (wrapBin ty.signed .shr x k) :=
      (scalarBin_eq_some_iff ty bld).2 ⟨by simp [binPanics, Nat.not_le.2 hk], rfl⟩
    exact ⟨_, hv, shr_value ty bld x k _ hk hv⟩

/-- a negative shift amount of a signed type is `>= w` when read as unsigned (so it panics with overflow checks) -/
theorem negative_amount_is_large {w : Nat} (k : BitVec w) (h : k.toInt < 0) : w ≤ k.toNat := by
  rw [BitVec.toInt_neg_iff] at h
  cases w with
  | zero => exact Nat.zero_le _
  | succ n =>
    -- `2 * (n + 1) ≤ 2 * 2^n ≤ 2 * k`
    have : n < 2 ^ n := Nat.lt_two_pow_self
    rw [Nat.pow_succ] at h
    omega

/-- **shift amounts `>= w`** (a negative amount of a signed type reads as one): a panic with overflow checks — the build the
harness executes —; without them the amount is taken modulo `w`. -/
theorem shift_large (x k : BitVec ty.w) (hk : ty.w ≤ k.toNat) :
    scalarBin ty Build.harness .shl x k = none ∧ scalarBin ty Build.harness .shr x k = none ∧
    scalarBin ty Build.release .shl x k = some (x <<< (k.toNat % ty.w)) ∧
    (ty.signed = true → k.toInt < 0 → 0 < ty.w → ty.w ≤ k.toNat) := by
  refine ⟨by simp [scalarBin, binPanics, Build.harness, hk], by simp [scalarBin, binPanics, Build.harness, hk],
    by simp [scalarBin, binPanics, Build.release, wrapBin], fun _ _ _ => hk⟩

/-! ## `bool` -/

/-- `& | ^ !` on `bool` are the Boolean connectives (the 1-bit instance of the operators above); the `bool` "shifts" of
`Numeric` are `x && !k` -/
theorem bool_ops (a b : Bool) :
    wrapBin false .and (BitVec.ofBool a) (BitVec.ofBool b) = BitVec.ofBool (a && b) ∧
    wrapBin false .or (BitVec.ofBool a) (BitVec.ofBool b) = BitVec.ofBool (a || b) ∧
    wrapBin false .xor (BitVec.ofBool a) (BitVec.ofBool b) = BitVec.ofBool (a ^^ b) ∧
    wrapUn .not (BitVec.ofBool a) = BitVec.ofBool (!a) ∧
    boolShl a b = (a && !b) ∧ boolShr a b = (a && !b) := by
  refine ⟨by simp [wrapBin], by simp [wrapBin], by simp [wrapBin], by simp [wrapUn], ?_, ?_⟩ <;>
    cases a <;> cases b <;> rfl

end native

/-! ## non-vacuity of the native-operator theorems -/

example : iBinop .i8 Build.harness .add ⟨[127#8, 1#8], [2]⟩ ⟨[1#8, 1#8], [2]⟩ = .panic := by decide +kernel
example : iBinop .i8 Build.release .add ⟨[127#8, 1#8], [2]⟩ ⟨[1#8, 1#8], [2]⟩ = .ok ⟨[128#8, 2#8], [2]⟩ := by decide +kernel
example : IntTy.i8.val (128#8) = -128 := by decide +kernel
example : iBinop .i8 Build.harness .div ⟨[(-7 : Int), 7, -7, 7].map (IntTy.ofVal .i8), [4]⟩ ⟨[(2 : Int), -2, -2, 2].map (IntTy.ofVal .i8), [4]⟩
    = .ok ⟨[(-3 : Int), -3, 3, 3].map (IntTy.ofVal .i8), [4]⟩ := by decide +kernel
example : iBinop .i8 Build.harness .rem ⟨[(-7 : Int), 7, -7, 7].map (IntTy.ofVal .i8), [4]⟩ ⟨[(2 : Int), -2, -2, 2].map (IntTy.ofVal .i8), [4]⟩
    = .ok ⟨[(-1 : Int), 1, -1, 1].map (IntTy.ofVal .i8), [4]⟩ := by decide +kernel
example : scalarBin .i8 Build.release .div (BitVec.intMin 8) (BitVec.allOnes 8) = none := by decide +kernel
example : scalarBin .u8 Build.harness .div 200#8 (BitVec.allOnes 8) = some 0#8 := rfl
example : scalarBin .i8 Build.harness .shl 1#8 8#8 = none ∧ scalarBin .i8 Build.release .shl 1#8 8#8 = some 1#8 := ⟨rfl, rfl⟩
example : scalarBin .i8 Build.release .shl 1#8 (BitVec.allOnes 8) = some 128#8 := rfl
example : scalarBin .i8 Build.harness .shr 128#8 2#8 = some 224#8 ∧ IntTy.i8.val 224#8 = -32 := ⟨rfl, rfl⟩
example : scalarBin .u8 Build.harness .shr 200#8 2#8 = some 50#8 := rfl
example : scalarUn .i8 Build.harness .neg (BitVec.intMin 8) = none ∧ scalarUn .i8 Build.release .neg (BitVec.intMin 8) = some (BitVec.intMin 8) := ⟨rfl, rfl⟩
example : (⟨[127#8, 1#8], [2]⟩ : IArr .i8).WF := by decide +kernel
example : ∃ k : BitVec 8, k.toInt < 0 := ⟨255#8, by decide⟩
example : scalarBin .i8 Build.harness .sub (BitVec.intMin 8) 5#8 = none ∧ scalarBin .i8 Build.harness .sub 5#8 7#8 = some 254#8 := ⟨rfl, rfl⟩
example : scalarUn .i8 Build.harness .neg 5#8 = some 251#8 := rfl
example : scalarBin .i16 Build.harness .mul 200#16 100#16 = some 20000#16 ∧ scalarBin .i16 Build.harness .mul 200#16 200#16 = none := ⟨rfl, rfl⟩
example : 0 < IntTy.i64.w ∧ (3#8 : BitVec 8) ≠ 0 ∧ (3#8 : BitVec 8).toNat < IntTy.u8.w ∧ IntTy.u8.w ≤ (9#8 : BitVec 8).toNat := by decide +kernel
example : BinOp.add ≠ .div ∧ BinOp.add ≠ .rem := by decide +kernel
example : iScalar .i64 Build.harness .mul ⟨[3#64, 4#64], [2, 1]⟩ (IntTy.ofVal .i64 (-5)) = .ok ⟨[IntTy.ofVal .i64 (-15), IntTy.ofVal .i64 (-20)], [2, 1]⟩ := by decide +kernel
example : iUnop .bool Build.harness .not ⟨[1#1, 0#1], [2]⟩ = .ok ⟨[0#1, 1#1], [2]⟩ := by decide +kernel
example : iBitop .u8 Build.harness .and ⟨[200#8, 15#8], [2]⟩ ⟨[100#8, 9#8], [2]⟩ = .ok ⟨[64#8, 9#8], [2]⟩ := by decide +kernel
example : IntTy.i8.signed = true := rfl

end ArrModel.C20
