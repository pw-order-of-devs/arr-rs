import ArrProofs.Lemmas.C02Ext
import ArrProofs.Lemmas.GenCore
/-!
# C02 — coordinates and flat positions are a row-major bijection

The helper lemmas are in `ArrProofs/Lemmas/Index.lean` and `C02Ext.lean`; the latter also defines the window `sliceWindow`
in which `slice_nd` is stated.
Model under test: `ArrModel/Index.lean` (`indexAt`, `indexToCoord`, `atc`, `opIndex`, `opIndexCoords`),
which transcribes `indexing.rs:149-181` and `ops.rs:8-24` fold for fold.
-/
namespace ArrModel.C02
open ArrModel Arr

variable {α : Type}

/-- lexicographic order on coordinate vectors of equal length -/
def lexLt : List Nat → List Nat → Bool
  | c :: cs, d :: ds => decide (c < d) || (decide (c = d) && lexLt cs ds)
  | _, _ => false

/-- **index_at, accepted inputs**: exactly the in-range vectors of the right length, and the
answer is the row-major position. -/
theorem indexAt_ok_iff (a : Arr α) (c : List Nat) (i : Nat) :
    a.indexAt c = .ok i ↔ (inRange a.shape c = true ∧ i = ravel a.shape c) := by
  rw [indexAt_eq]
  split
  · exact ⟨fun h => ⟨‹_›, (Res.ok.inj h).symm⟩, fun h => h.2 ▸ rfl⟩
  · exact ⟨nofun, fun h => absurd h.1 ‹_›⟩

/-- **index_at, rejected inputs**: a vector of the wrong length or with a component out of
range yields an error value (never a panic, never a position). -/
theorem indexAt_err_iff (a : Arr α) (c : List Nat) :
    a.indexAt c = .err .ParameterError ↔ inRange a.shape c = false := by
  rw [indexAt_eq]
  split
  · exact ⟨nofun, fun h => absurd ‹_› (h ▸ Bool.false_ne_true)⟩
  · exact ⟨fun _ => Bool.eq_false_iff.2 ‹_›, fun _ => rfl⟩

/-- wrong length is out of range -/
theorem wrong_length_rejected (a : Arr α) (c : List Nat) (h : c.length ≠ a.shape.length) :
    a.indexAt c = .err .ParameterError :=
  (indexAt_err_iff a c).2 (Bool.eq_false_iff.2 fun hr => h (inRange_length _ _ hr))

/-- **index_to_coord**: defined exactly below the length; the answer is the structural unravel. -/
theorem indexToCoord_ok (a : Arr α) (hwf : a.WF) (i : Nat) (h : i < a.len) :
    a.indexToCoord i = .ok (unravel a.shape i) := by
  unfold Arr.indexToCoord
  rw [if_neg (Nat.not_le.2 h), unravelFold_eq _ _ (Nat.lt_of_lt_of_eq h hwf)]

/-- **round trip 1**: position → coordinates → position -/
theorem indexAt_indexToCoord (a : Arr α) (hwf : a.WF) (i : Nat) (h : i < a.len) :
    (a.indexToCoord i >>= a.indexAt) = .ok i := by
  have ⟨h1, h2⟩ := ravel_unravel a.shape i (Nat.lt_of_lt_of_eq h hwf)
  rw [indexToCoord_ok a hwf i h, Res.bind_ok]
  exact (indexAt_ok_iff a _ i).2 ⟨h2, h1.symm⟩

/-- **round trip 2**: coordinates → position → coordinates -/
theorem indexToCoord_indexAt (a : Arr α) (hwf : a.WF) (c : List Nat) (h : inRange a.shape c = true) :
    (a.indexAt c >>= a.indexToCoord) = .ok c := by
  rw [(indexAt_ok_iff a c _).2 ⟨h, rfl⟩, Res.bind_ok,
    indexToCoord_ok a hwf _ (Nat.lt_of_lt_of_eq (ravel_lt _ _ h) hwf.symm), unravel_ravel _ _ h]

/-- positions produced are inside the element list -/
theorem indexAt_lt_len (a : Arr α) (hwf : a.WF) (c : List Nat) (i : Nat) (h : a.indexAt c = .ok i) :
    i < a.len := by
  obtain ⟨hr, rfl⟩ := (indexAt_ok_iff a c i).1 h
  exact Nat.lt_of_lt_of_eq (ravel_lt _ _ hr) hwf.symm

/-- **last axis varies fastest**: bumping the last coordinate bumps the position by one -/
theorem ravel_last_succ : ∀ (s c : List Nat) (d x : Nat), s.length = c.length →
    ravel (s ++ [d]) (c ++ [x + 1]) = ravel (s ++ [d]) (c ++ [x]) + 1 :=
  fun s c d x h => by
    rw [ravel_append_append s c _ _ h, ravel_append_append s c _ _ h]
    show _ + ((x + 1) * 1 + 0) = _ + (x * 1 + 0) + 1
    omega

/-- **positions grow with the lexicographic (row-major) order** -/
theorem ravel_strictMono : ∀ (s c c' : List Nat), inRange s c = true → inRange s c' = true →
    lexLt c c' = true → ravel s c < ravel s c'
  | _, [], _, _, _, h => nomatch h
  | _, _ :: _, [], _, _, h => nomatch h
  | [], _ :: _, _ :: _, h1, _, _ => nomatch h1
  | d :: ds, x :: xs, y :: ys, h1, h2, h => by
    have hx := (inRange_cons.1 h1).2
    have hy := (inRange_cons.1 h2).2
    simp only [lexLt, Bool.or_eq_true, decide_eq_true_eq, Bool.and_eq_true] at h
    rcases h with h | ⟨rfl, h⟩
    · exact Nat.lt_of_lt_of_le (mul_add_lt h (ravel_lt ds xs hx)) (Nat.le_add_right _ _)
    · exact Nat.add_lt_add_left (ravel_strictMono ds xs ys hx hy h) _

/-- **lookup by coordinates (operator)** agrees with the method where the method succeeds;
otherwise the operator (which cannot return a `Result`) refuses by panicking. -/
theorem opIndexCoords_eq_atc (a : Arr α) (hwf : a.WF) (c : List Nat) (h : inRange a.shape c = true) :
    a.opIndexCoords c = a.atc c := by
  unfold Arr.opIndexCoords Arr.atc
  rw [(indexAt_ok_iff a c _).2 ⟨h, rfl⟩]

theorem opIndexCoords_refuses (a : Arr α) (c : List Nat) (h : inRange a.shape c = false) :
    a.opIndexCoords c = .panic := by
  unfold Arr.opIndexCoords; rw [(indexAt_err_iff a c).2 h]

/-- **flat operator** `a[i]`: defined iff `i < len`, returns the stored element -/
theorem opIndex_ok_iff (a : Arr α) (i : Nat) (x : α) : a.opIndex i = .ok x ↔ a.elems[i]? = some x := by
  unfold Arr.opIndex Res.idx
  cases a.elems[i]? with
  | none => exact ⟨nofun, nofun⟩
  | some y => exact ⟨fun h => congrArg some (Res.ok.inj h), fun h => congrArg Res.ok (Option.some.inj h)⟩

theorem opIndex_refuses (a : Arr α) (i : Nat) (h : a.len ≤ i) : a.opIndex i = .panic := by
  unfold Arr.opIndex Res.idx
  rw [List.getElem?_eq_none h]

/-- **at ∘ index_to_coord = flat operator** on every valid position -/
theorem atc_indexToCoord (a : Arr α) (hwf : a.WF) (i : Nat) (h : i < a.len) :
    (a.indexToCoord i >>= a.atc) = a.opIndex i := by
  have ⟨h1, h2⟩ := ravel_unravel a.shape i (Nat.lt_of_lt_of_eq h hwf)
  rw [indexToCoord_ok a hwf i h, Res.bind_ok, Arr.atc, (indexAt_ok_iff a _ i).2 ⟨h2, h1.symm⟩]
  rfl

/-! ### non-vacuity: concrete instances meeting the hypotheses -/
example : (⟨List.range 24, [2, 3, 4]⟩ : Arr Nat).WF ∧ inRange [2, 3, 4] [1, 2, 3] = true := by decide +kernel
example : (⟨List.range 24, [2, 3, 4]⟩ : Arr Nat).atc [1, 2, 3] = .ok 23 := by decide +kernel
example : (⟨List.range 24, [2, 3, 4]⟩ : Arr Nat).indexToCoord 23 = .ok [1, 2, 3] := by decide +kernel
example : (⟨List.range 24, [2, 3, 4]⟩ : Arr Nat).atc [1, 3, 0] = .err .ParameterError := by decide +kernel
example : lexLt [0, 2, 3] [1, 0, 0] = true := by decide +kernel

/-! ## `slice(range)` and `indices_at(indices)`

Model: `ArrModel/IndexExt.lean` (`Arr.slice`, `Arr.indicesAt`), transcribing `indexing.rs:183-234` arm for arm
(`indices_at` as of crate commit 4dd17b6, fixes/C02-indices-at-empty-rows.diff).
The theorems state what the code does for every shape, range and index list.  For rank ≥ 2 the code of `slice` places
the window at flat offset `new_shape[0] * start`, which is the offset of row `start` only when `start = 0` or when the
leading length of the result equals the row size (`slice_nd_rows`, `slice_nd_row`); otherwise the rows returned are not
rows `start..stop` (`slice_nd_window_get` says which elements they are; see the counterexamples at the end and
fixes/C02-slice-row-offset.md).  No property statement speaks about `slice`, so this is recorded, not repaired. -/

/-- **slice, invalid range** (every rank, every array): `start > end` or `end > len` is an error value -/
theorem slice_invalid (a : Arr α) (start stop : Nat) (h : stop < start ∨ a.len < stop) :
    a.slice start stop = .err .OutOfBounds := by
  have : (decide (start ≤ stop) && decide (stop ≤ a.elems.length)) = false := by
    rcases h with h | h
    · rw [decide_eq_false (Nat.not_le.2 h), Bool.false_and]
    · rw [decide_eq_false (show ¬ stop ≤ a.elems.length from Nat.not_le.2 h), Bool.and_false]
  unfold Arr.slice
  rw [this]
  rfl

/-- **slice, 1-D**: a valid range returns exactly the sub-list `start..stop`, as a 1-D array of that length -/
theorem slice_1d (a : Arr α) (n : Nat) (hs : a.shape = [n]) (start stop : Nat) (h1 : start ≤ stop) (h2 : stop ≤ a.len) :
    a.slice start stop = .ok ⟨(a.elems.drop start).take (stop - start), [stop - start]⟩ := by
  have h2' : stop ≤ a.elems.length := h2
  unfold Arr.slice
  rw [slice_valid_unfold a start stop h1 h2, if_neg Bool.false_ne_true, if_pos (show a.shape.length = 1 from congrArg List.length hs),
    vrange_ok a.elems start stop h1 h2, Res.bind_ok, Arr.flat, List.length_take, List.length_drop,
    Nat.min_eq_left (by omega)]

/-- 1-D, element by element: position `i` of the result is position `start + i` of the input -/
theorem slice_1d_get (a : Arr α) (n : Nat) (hs : a.shape = [n]) (start stop : Nat) (h1 : start ≤ stop) (h2 : stop ≤ a.len)
    (i : Nat) (hi : i < stop - start) :
    ∃ r, a.slice start stop = .ok r ∧ r.get? [i] = a.get? [start + i] := by
  refine ⟨_, slice_1d a n hs start stop h1 h2, ?_⟩
  unfold Arr.get?
  simp only [hs, ravel, List.prod_nil, Nat.mul_one, Nat.add_zero]
  exact getElem?_window _ _ _ _ hi

/-- **slice, rank ≥ 2, closed form** (every array, every valid range; `w = stop - start`):
* `w ≥ shape[0]` — whatever `start` is — returns the array itself;
* `2 ≤ w < shape[0]`: the `w * row` elements from flat offset `w * start`, shape `w :: shape[1..]`;
* `w ≤ 1 < …` (`w = 1`, and also the empty range `w = 0`): the first axis is dropped; the `row` elements from flat
  offset `shape[1] * start`, shape `shape[1..]`;
  in both cases an error when the window is empty or leaves the buffer. -/
theorem slice_nd (a : Arr α) (d0 d1 : Nat) (t : List Nat) (hs : a.shape = d0 :: d1 :: t)
    (start stop : Nat) (h1 : start ≤ stop) (h2 : stop ≤ a.len) :
    a.slice start stop =
      if d0 ≤ stop - start then .ok a
      else if 2 ≤ stop - start then sliceWindow a ((stop - start) * start) ((stop - start) :: d1 :: t)
      else sliceWindow a (d1 * start) (d1 :: t) := by
  unfold Arr.slice
  rw [slice_valid_unfold a start stop h1 h2, if_neg Bool.false_ne_true, hs, if_neg (by simp)]
  simp only [Res.idx, List.getElem?_cons_zero, Res.bind_ok, List.drop_succ_cons, List.drop_zero, ge_iff_le]
  by_cases hc : d0 ≤ stop - start
  · rw [if_pos hc, if_pos hc]
  · rw [if_neg hc, if_neg hc]
    by_cases hw : 2 ≤ stop - start
    · rw [if_pos hw, if_pos (show stop - start > 1 from hw)]
      exact slice_tail a _ _ _
    · rw [if_neg hw, if_neg (show ¬ stop - start > 1 from hw)]
      exact slice_tail a _ _ _

/-- **windows of length ≥ 2, by coordinates**: shape `w :: shape[1..]`, consistent, and entry `(i :: c)` is the element at
flat position `w * start + (position of (i :: c) in the result)` -/
theorem slice_nd_window_get (a : Arr α) (d0 d1 : Nat) (t : List Nat) (hs : a.shape = d0 :: d1 :: t)
    (start stop : Nat) (h1 : start ≤ stop) (h2 : stop ≤ a.len) (hw : 2 ≤ stop - start) (hlt : stop - start < d0)
    (r : Arr α) (hr : a.slice start stop = .ok r) :
    r.shape = (stop - start) :: d1 :: t ∧ r.WF ∧
    (stop - start) * start + (stop - start) * (d1 :: t).prod ≤ a.len ∧
    ∀ i c, i < stop - start → inRange (d1 :: t) c = true →
      r.get? (i :: c) = a.elems[(stop - start) * start + (i * (d1 :: t).prod + ravel (d1 :: t) c)]? := by
  rw [slice_nd a d0 d1 t hs start stop h1 h2, if_neg (Nat.not_le.2 hlt), if_pos hw] at hr
  obtain ⟨hle, rfl, hwf⟩ := sliceWindow_ok _ _ _ _ hr
  exact ⟨rfl, hwf, hle, fun i c hi hc => window_get? a.elems _ _ _ c i hi hc⟩

/-- **rows `start..stop`** (`2 ≤ w < shape[0]`): when the offset the code uses is the offset of row `start`
(`w * start = start * row`: `start = 0`, or `w` equal to the row size) the window lies inside the first axis and
`result[i :: c] = a[(start + i) :: c]` -/
theorem slice_nd_rows (a : Arr α) (hwf : a.WF) (d0 d1 : Nat) (t : List Nat) (hs : a.shape = d0 :: d1 :: t)
    (start stop : Nat) (h1 : start ≤ stop) (h2 : stop ≤ a.len) (hw : 2 ≤ stop - start) (hlt : stop - start < d0)
    (hal : (stop - start) * start = start * (d1 :: t).prod)
    (r : Arr α) (hr : a.slice start stop = .ok r) :
    stop ≤ d0 ∧ r.shape = (stop - start) :: d1 :: t ∧ r.WF ∧
    ∀ i c, i < stop - start → inRange (d1 :: t) c = true → r.get? (i :: c) = a.get? ((start + i) :: c) := by
  obtain ⟨g1, g2, g3, g4⟩ := slice_nd_window_get a d0 d1 t hs start stop h1 h2 hw hlt r hr
  have hlen := len_of_shape a hwf d0 _ hs
  have hpos : 0 < (d1 :: t).prod := Nat.pos_of_mul_pos_left (hlen ▸ (by omega : 0 < a.len))
  refine ⟨?_, g1, g2, fun i c hi hc => ?_⟩
  · rw [hal, hlen, ← Nat.add_mul] at g3
    have := Nat.le_of_mul_le_mul_right g3 hpos
    omega
  · rw [g4 i c hi hc, hal, Arr.get?, hs, ravel, Nat.add_mul, Nat.add_assoc]

/-- **windows of length 1 (and the empty range), by coordinates**: the first axis is dropped; entry `c` is the element
at flat position `shape[1] * start + (position of c in the result)` -/
theorem slice_nd_row_get (a : Arr α) (d0 d1 : Nat) (t : List Nat) (hs : a.shape = d0 :: d1 :: t)
    (start stop : Nat) (h1 : start ≤ stop) (h2 : stop ≤ a.len) (hw : stop - start ≤ 1) (hlt : stop - start < d0)
    (r : Arr α) (hr : a.slice start stop = .ok r) :
    r.shape = d1 :: t ∧ r.WF ∧ d1 * start + (d1 :: t).prod ≤ a.len ∧
    ∀ c, inRange (d1 :: t) c = true → r.get? c = a.elems[d1 * start + ravel (d1 :: t) c]? := by
  rw [slice_nd a d0 d1 t hs start stop h1 h2, if_neg (Nat.not_le.2 hlt), if_neg (by omega)] at hr
  obtain ⟨hle, rfl, hwf⟩ := sliceWindow_ok _ _ _ _ hr
  exact ⟨rfl, hwf, hle, fun c hc => row_get? a.elems _ _ c hc⟩

/-- **row `start`** (`w = 1 < shape[0]`): when `shape[1] * start = start * row` — every array of rank 2, every array
whose axes after the second have length 1, or `start = 0` — the result is row `start`: `result[c] = a[start :: c]` -/
theorem slice_nd_row (a : Arr α) (hwf : a.WF) (d0 d1 : Nat) (t : List Nat) (hs : a.shape = d0 :: d1 :: t)
    (start : Nat) (h2 : start + 1 ≤ a.len) (hlt : 1 < d0) (hal : d1 * start = start * (d1 :: t).prod)
    (r : Arr α) (hr : a.slice start (start + 1) = .ok r) :
    start < d0 ∧ r.shape = d1 :: t ∧ r.WF ∧ ∀ c, inRange (d1 :: t) c = true → r.get? c = a.get? (start :: c) := by
  obtain ⟨g1, g2, g3, g4⟩ := slice_nd_row_get a d0 d1 t hs start (start + 1) (by omega) h2 (by omega) (by omega) r hr
  have hlen := len_of_shape a hwf d0 _ hs
  have hpos : 0 < (d1 :: t).prod := Nat.pos_of_mul_pos_left (hlen ▸ (by omega : 0 < a.len))
  refine ⟨?_, g1, g2, fun c hc => ?_⟩
  · rw [hal, hlen, ← Nat.succ_mul] at g3
    exact Nat.le_of_mul_le_mul_right g3 hpos
  · rw [g4 c hc, hal, Arr.get?, hs, ravel]

/-- rank 2: `slice(i..i+1)` is row `i` for every in-range `i`, an error beyond the first axis -/
theorem slice_2d_row (a : Arr α) (hwf : a.WF) (d0 d1 : Nat) (hs : a.shape = [d0, d1]) (hd : 1 < d0) (hd1 : 0 < d1) (i : Nat) :
    (i < d0 → ∃ r, a.slice i (i + 1) = .ok r ∧ r.shape = [d1] ∧ ∀ j, j < d1 → r.get? [j] = a.get? [i, j]) ∧
    (d0 ≤ i → a.slice i (i + 1) = .err .OutOfBounds) := by
  have hlen : a.len = d0 * d1 := (len_of_shape a hwf d0 _ hs).trans (by rw [List.prod_singleton])
  -- a window of one row: `w = 1`
  have hsl : i + 1 ≤ a.len → a.slice i (i + 1) = sliceWindow a (d1 * i) [d1] := fun hle => by
    rw [slice_nd a d0 d1 [] hs i (i + 1) (Nat.le_succ i) hle, if_neg (by omega), if_neg (by omega)]
  have hrow : (i + 1) * d1 = d1 * i + [d1].prod := by rw [Nat.succ_mul, Nat.mul_comm, List.prod_singleton]
  constructor
  · intro hi
    have hin : (i + 1) * d1 ≤ d0 * d1 := Nat.mul_le_mul_right _ hi
    have hle : i + 1 ≤ a.len := hlen ▸ Nat.le_trans (Nat.le_mul_of_pos_right _ hd1) hin
    have hr := hsl hle
    rw [sliceWindow, if_neg (by rw [← hrow, hlen, List.prod_singleton]; omega)] at hr
    obtain ⟨_, g2, _, g4⟩ := slice_nd_row a hwf d0 d1 [] hs i hle hd (by rw [List.prod_singleton, Nat.mul_comm]) _ hr
    exact ⟨_, hr, g2, fun j hj => g4 [j] (inRange_cons.2 ⟨hj, rfl⟩)⟩
  · intro hi
    by_cases hle : i + 1 ≤ a.len
    · have hout : d0 * d1 < (i + 1) * d1 := Nat.mul_lt_mul_of_pos_right (Nat.lt_succ_of_le hi) hd1
      rw [hsl hle, sliceWindow, if_pos (.inr (by rw [← hrow, hlen]; exact hout))]
    · exact slice_invalid a i (i + 1) (.inr (Nat.lt_of_not_le hle))

/-- **slice never panics** on an array of rank ≥ 1 (a rank-0 array does: `self.shape[0]`, see the examples) -/
theorem slice_never_panics (a : Arr α) (hr : 1 ≤ a.ndim) (start stop : Nat) : a.slice start stop ≠ .panic := by
  by_cases hv : start ≤ stop ∧ stop ≤ a.len
  · obtain ⟨h1, h2⟩ := hv
    match hs : a.shape with
    | [] => rw [Arr.ndim, hs] at hr; cases hr
    | [n] => rw [slice_1d a n hs start stop h1 h2]; nofun
    | d0 :: d1 :: t =>
      rw [slice_nd a d0 d1 t hs start stop h1 h2]
      exact Res.ite_ne_panic (fun _ => nofun) fun _ =>
        Res.ite_ne_panic (fun _ => sliceWindow_ne_panic _ _ _) fun _ => sliceWindow_ne_panic _ _ _
  · rw [slice_invalid a start stop (by omega)]; nofun

/-! ### `indices_at` -/

/-- **indices_at, 1-D**: every index below the length (any order, repetitions allowed) ⇒ the 1-D array of the
addressed elements: `result[k] = a[indices[k]]`; an index at or beyond the length ⇒ error -/
theorem indicesAt_1d (a : Arr α) (n : Nat) (hs : a.shape = [n]) (idx : List Nat) :
    ((∀ i ∈ idx, i < a.len) → ∃ r, a.indicesAt idx = .ok r ∧ r.shape = [idx.length] ∧ r.WF ∧
        ∀ k (hk : k < idx.length), r.get? [k] = a.get? [idx[k]]) ∧
    ((∃ i ∈ idx, a.len ≤ i) → a.indicesAt idx = .err .OutOfBounds) := by
  rw [indicesAt_of_ndim_one a (congrArg List.length hs)]
  constructor
  · intro hall
    have hall' : ∀ i ∈ idx, i < a.elems.length := hall
    have hmap : Res.mapM' (fun i => a.opIndex i) idx = .ok (idx.pmap (fun i hi => a.elems[i]) hall') :=
      mapM'_idx a.elems idx hall'
    rw [if_neg (by simpa using hall), hmap, Res.bind_ok]
    refine ⟨_, rfl, by rw [Arr.flat, List.length_pmap], Arr.flat_wf _, fun k hk => ?_⟩
    unfold Arr.get?
    simp only [hs, Arr.flat, ravel, List.prod_nil, Nat.mul_one, Nat.add_zero]
    rw [List.getElem?_eq_getElem (by rwa [List.length_pmap]), List.getElem_pmap,
      List.getElem?_eq_getElem (hall' _ (List.getElem_mem hk))]
  · rintro ⟨i, hi, hle⟩
    exact if_pos (List.any_eq_true.2 ⟨i, hi, decide_eq_true hle⟩)

/-- **indices_at, rank ≥ 2** (every consistent array, zero-length axes included): every index below `shape[0]` (any
order, repetitions allowed) ⇒ shape = the input shape with the first axis replaced by the number of indices,
consistent, and `result[k :: c] = a[indices[k] :: c]`; an index at or beyond `shape[0]` ⇒ error -/
theorem indicesAt_nd (a : Arr α) (hwf : a.WF) (d0 d1 : Nat) (t : List Nat) (hs : a.shape = d0 :: d1 :: t)
    (idx : List Nat) :
    ((∀ i ∈ idx, i < d0) → ∃ r, a.indicesAt idx = .ok r ∧ r.shape = idx.length :: d1 :: t ∧ r.WF ∧
        ∀ k (hk : k < idx.length) c, inRange (d1 :: t) c = true → r.get? (k :: c) = a.get? (idx[k] :: c)) ∧
    ((∃ i ∈ idx, d0 ≤ i) → a.indicesAt idx = .err .OutOfBounds) := by
  rw [indicesAt_of_shape a d0 d1 t hs idx]
  have hlen : a.elems.length = d0 * (d1 :: t).prod := len_of_shape a hwf d0 _ hs
  generalize d1 :: t = T at *
  constructor
  · intro hall
    -- the result holds the addressed row blocks one after the other
    have hblk : ∀ i ∈ idx, ((a.elems.drop (i * T.prod)).take T.prod).length = T.prod := by
      intro i hi
      have : i * T.prod + T.prod ≤ a.elems.length := by
        rw [← Nat.succ_mul]; exact hlen ▸ Nat.mul_le_mul_right _ (hall i hi)
      rw [List.length_take, List.length_drop]; omega
    have hfl : (idx.map (fun i => (a.elems.drop (i * T.prod)).take T.prod)).flatten.length = idx.length * T.prod :=
      length_flatMap_uniform _ _ idx hblk
    refine ⟨⟨(idx.map (fun i => (a.elems.drop (i * T.prod)).take T.prod)).flatten, idx.length :: T⟩, ?_, rfl,
      hfl.trans List.prod_cons.symm, fun k hk c hc => ?_⟩
    · rw [if_neg (by simpa using hall)]
      cases hemp : a.isEmpty
      · rw [if_neg Bool.false_ne_true, axis0Pieces_rows a hwf d0 T hs hemp, Res.mapM'_ok
          (g := fun i => (a.elems.drop (i * T.prod)).take T.prod) (fun i hi => by
            rw [Res.idx_of_lt (by rw [List.length_map, List.length_range]; exact hall i hi), List.getElem_map,
              List.getElem_range]), Res.bind_ok]
        exact Arr.new_of_prod (List.prod_cons.trans hfl.symm)
      · -- an empty array has empty rows
        have he : a.elems = [] := List.length_eq_zero_iff.1 (eq_of_beq (show (a.elems.length == 0) = true from hemp))
        have hnil : (idx.map (fun i => (a.elems.drop (i * T.prod)).take T.prod)).flatten = [] :=
          List.flatten_eq_nil_iff.2 fun l hl => by
            obtain ⟨i, _, rfl⟩ := List.mem_map.1 hl
            rw [he, List.drop_nil, List.take_nil]
        rw [if_pos rfl, hnil]
        exact Arr.new_of_prod (List.prod_cons.trans (hfl.symm.trans (congrArg List.length hnil)))
    · have hrv := ravel_lt T c hc
      unfold Arr.get?
      simp only [hs, ravel]
      rw [← List.flatMap_def]
      exact (getElem?_flatMap_uniform _ T.prod idx k _ hk hblk hrv).trans (getElem?_window _ _ _ _ hrv)
  · rintro ⟨i, hi, hle⟩
    exact if_pos (List.any_eq_true.2 ⟨i, hi, decide_eq_true hle⟩)

/-- **indices_at never panics** (every array, every rank — rank 0 is refused with an error) -/
theorem indicesAt_never_panics (a : Arr α) (idx : List Nat) : a.indicesAt idx ≠ .panic := by
  -- every index that passes a bounds check is inside the list it is used on
  have hin : ∀ {n : Nat}, ¬ idx.any (fun i => decide (i ≥ n)) = true → ∀ i ∈ idx, i < n := fun h i hi =>
    Nat.lt_of_not_le fun hge => h (List.any_eq_true.2 ⟨i, hi, decide_eq_true hge⟩)
  unfold Arr.indicesAt
  refine Res.ite_ne_panic (fun _ => Res.ite_ne_panic (fun _ => nofun) fun hany => ?_)
    fun _ => Res.ite_ne_panic (fun _ => nofun) fun hnd => ?_
  · exact Res.bind_ne_panic (Res.mapM'_ne_panic fun i hi => Res.idx_ne_panic (hin hany i hi)) fun _ _ => nofun
  · refine Res.bind_ne_panic (Res.idx_ne_panic (Nat.lt_of_not_le hnd)) fun d0 hd0 => ?_
    have hd : a.shape.headD 0 = d0 := by
      cases hsh : a.shape with
      | nil => rw [hsh] at hd0; cases hd0
      | cons d _ => rw [hsh] at hd0; exact Res.ok.inj hd0
    refine Res.ite_ne_panic (fun _ => nofun) fun hany =>
      Res.ite_ne_panic (fun _ => Arr.new_ne_panic _ _) fun hemp => ?_
    refine Res.bind_ne_panic (Res.mapM'_ne_panic fun i hi => Res.idx_ne_panic ?_) fun _ _ => Arr.reshape_ne_panic _ _
    rw [axis0Pieces_length a (Bool.eq_false_iff.2 hemp), hd]
    exact hin hany i hi

/-- **relation to the flat operator** (C02's statement): on a 1-D array `indices_at [i]` and `slice i..i+1` both
return the one-element array holding `a[i]` for every position below the length; at or beyond the length the two
methods return an error value where the operator panics (`opIndex_refuses`) -/
theorem lookup_agree_1d (a : Arr α) (n : Nat) (hs : a.shape = [n]) (i : Nat) :
    (i < a.len → a.indicesAt [i] = (a.opIndex i).map (fun x => Arr.flat [x]) ∧
                 a.slice i (i + 1) = (a.opIndex i).map (fun x => Arr.flat [x])) ∧
    (a.len ≤ i → a.indicesAt [i] = .err .OutOfBounds ∧ a.slice i (i + 1) = .err .OutOfBounds ∧ a.opIndex i = .panic) := by
  constructor
  · intro hi
    have hop : a.opIndex i = .ok a.elems[i] := Res.idx_of_lt hi
    constructor
    · rw [indicesAt_of_ndim_one a (congrArg List.length hs), if_neg (by simpa using hi), hop]
      simp only [Res.mapM', List.map_cons, List.map_nil, Res.sequence, hop, Res.bind_ok, Res.map]
    · rw [slice_1d a n hs i (i + 1) (Nat.le_succ i) hi, hop, Nat.add_sub_cancel_left, List.take_one, List.head?_drop,
        List.getElem?_eq_getElem hi]
      rfl
  · intro hi
    exact ⟨(indicesAt_1d a n hs [i]).2 ⟨i, List.mem_singleton.2 rfl, hi⟩,
      slice_invalid a i (i + 1) (.inr (Nat.lt_succ_of_le hi)), opIndex_refuses a i hi⟩

/-! ### non-vacuity and the recorded deviations of `slice` (all checked by evaluation of the model; the same
case lines are part of the differential tie, so the real crate answers identically) -/
-- rows, as intended: rank 2, and a window whose length equals the row size
example : (⟨List.range 8, [4, 2]⟩ : Arr Nat).slice 1 2 = .ok ⟨[2, 3], [2]⟩ := by decide +kernel
example : (⟨List.range 8, [4, 2]⟩ : Arr Nat).slice 2 4 = .ok ⟨[4, 5, 6, 7], [2, 2]⟩ := by decide +kernel
example : (⟨List.range 8, [4, 2]⟩ : Arr Nat).WF ∧ (2 - 1) < 4 ∧ 2 * 1 = 1 * [2].prod := by decide +kernel
-- deviation 1: rank 3, window of length 1: row 1 of a [3,2,2] array is 4..7, the code returns 2..5
example : (⟨List.range 12, [3, 2, 2]⟩ : Arr Nat).slice 1 2 = .ok ⟨[2, 3, 4, 5], [2, 2]⟩ := by decide +kernel
-- deviation 2: window of length 2 ≠ row size 3: rows 1..3 of a [4,3] array are 3..8, the code returns 2..7
example : (⟨List.range 12, [4, 3]⟩ : Arr Nat).slice 1 3 = .ok ⟨[2, 3, 4, 5, 6, 7], [2, 3]⟩ := by decide +kernel
-- deviation 3 (pinned by the crate's own test_slice case 10): the range 2..3 lies outside the first axis of [2,2,2]
example : (⟨List.range 8, [2, 2, 2]⟩ : Arr Nat).slice 2 3 = .ok ⟨[4, 5, 6, 7], [2, 2]⟩ := by decide +kernel
-- deviation 4: a window at least as long as the first axis returns the whole array wherever it starts
example : (⟨List.range 6, [2, 3]⟩ : Arr Nat).slice 3 6 = .ok ⟨List.range 6, [2, 3]⟩ := by decide +kernel
-- deviation 5: the empty range returns a row
example : (⟨List.range 6, [2, 3]⟩ : Arr Nat).slice 0 0 = .ok ⟨[0, 1, 2], [3]⟩ := by decide +kernel
-- rank 0 (outside `slice_never_panics`): `self.shape[0]` panics
example : (⟨[7], []⟩ : Arr Nat).slice 0 1 = .panic := by decide +kernel
-- indices_at: any order, repetition; refusals
example : (⟨List.range 6, [3, 2]⟩ : Arr Nat).indicesAt [2, 0, 2] = .ok ⟨[4, 5, 0, 1, 4, 5], [3, 2]⟩ := by decide +kernel
example : (⟨List.range 6, [3, 2]⟩ : Arr Nat).indicesAt [3] = .err .OutOfBounds := by decide +kernel
example : (⟨List.range 4, [4]⟩ : Arr Nat).indicesAt [3, 3, 0] = .ok ⟨[3, 3, 0], [3]⟩ := by decide +kernel
-- zero-length axes: rows of an empty array are empty rows; the first axis of length 0 has no row 0
example : (⟨[], [2, 0]⟩ : Arr Nat).indicesAt [1, 0, 1] = .ok ⟨[], [3, 0]⟩ := by decide +kernel
example : (⟨[], [0, 0]⟩ : Arr Nat).indicesAt [0] = .err .OutOfBounds := by decide +kernel

/-! ## The same properties for the code as TRANSLATED FROM THE SOURCE

`ArrModel.Gen.Core.Array_index_at`, `Array_index_to_coord`, `Array_at` are regenerated from `src/core/operations/indexing.rs`
by `tools/rs2lean.py` on every run; `ArrProofs/Lemmas/GenCore.lean` proves them equal to the hand-written model for all
inputs, so every theorem above transfers.  A change of the Rust source that alters the behaviour breaks one of these. -/

open ArrModel.Gen.Core in
/-- **index_at (translated source) accepts exactly the in-range coordinate vectors**, and the answer is the row-major position -/
theorem gen_index_at_ok_iff (a : Arr α) (c : List Nat) (i : Nat) :
    Array_index_at a c = .ok i ↔ (inRange a.shape c = true ∧ i = ravel a.shape c) := by
  rw [index_at_eq]; exact indexAt_ok_iff a c i

open ArrModel.Gen.Core in
/-- … every other input is refused with an error value, never a panic, never a position -/
theorem gen_index_at_err_iff (a : Arr α) (c : List Nat) :
    Array_index_at a c = .err .ParameterError ↔ inRange a.shape c = false := by
  rw [index_at_eq]; exact indexAt_err_iff a c

open ArrModel.Gen.Core in
theorem gen_index_at_never_panics (a : Arr α) (c : List Nat) : Array_index_at a c ≠ .panic := by
  rw [index_at_eq, indexAt_eq]
  exact Res.ite_ne_panic (fun _ => nofun) fun _ => nofun

open ArrModel.Gen.Core in
/-- **index_to_coord (translated source)**: defined exactly below the length; the answer is the structural unravel -/
theorem gen_index_to_coord_ok (a : Arr α) (hwf : a.WF) (i : Nat) (h : i < a.len) :
    Array_index_to_coord a i = .ok (unravel a.shape i) := by
  rw [index_to_coord_eq a hwf]; exact indexToCoord_ok a hwf i h

open ArrModel.Gen.Core in
theorem gen_index_to_coord_err (a : Arr α) (i : Nat) (h : a.len ≤ i) :
    Array_index_to_coord a i = .err .ParameterError := by
  rw [index_to_coord_eq' a i (.inr h)]; exact if_pos h

open ArrModel.Gen.Core in
/-- **mutually inverse, 1**: position → coordinates → position, through the translated functions -/
theorem gen_index_at_index_to_coord (a : Arr α) (hwf : a.WF) (i : Nat) (h : i < a.len) :
    (Array_index_to_coord a i >>= Array_index_at a) = .ok i := by
  rw [index_to_coord_eq a hwf]
  have : Array_index_at a = a.indexAt := funext (index_at_eq a)
  rw [this]; exact indexAt_indexToCoord a hwf i h

open ArrModel.Gen.Core in
/-- **mutually inverse, 2**: coordinates → position → coordinates -/
theorem gen_index_to_coord_index_at (a : Arr α) (hwf : a.WF) (c : List Nat) (h : inRange a.shape c = true) :
    (Array_index_at a c >>= Array_index_to_coord a) = .ok c := by
  rw [index_at_eq]
  have : Array_index_to_coord a = a.indexToCoord := funext (index_to_coord_eq a hwf)
  rw [this]; exact indexToCoord_indexAt a hwf c h

open ArrModel.Gen.Core in
/-- **row-major monotone**: the translated `index_at` grows strictly with the lexicographic order of the coordinates -/
theorem gen_index_at_strictMono (a : Arr α) (c c' : List Nat) (i i' : Nat)
    (h : Array_index_at a c = .ok i) (h' : Array_index_at a c' = .ok i') (hlt : lexLt c c' = true) : i < i' := by
  obtain ⟨hr, rfl⟩ := (gen_index_at_ok_iff a c i).1 h
  obtain ⟨hr', rfl⟩ := (gen_index_at_ok_iff a c' i').1 h'
  exact ravel_strictMono a.shape c c' hr hr' hlt

open ArrModel.Gen.Core in
/-- **`at` (translated source) returns the element stored at the row-major position** of an in-range coordinate vector … -/
theorem gen_at_ok (a : Arr α) (hwf : a.WF) (c : List Nat) (h : inRange a.shape c = true) :
    ∃ x, Array_at a c = .ok x ∧ a.elems[ravel a.shape c]? = some x := by
  rw [at_eq]; exact Arr.atc_ok a hwf c h

open ArrModel.Gen.Core in
/-- … and refuses every other one with an error value -/
theorem gen_at_err (a : Arr α) (c : List Nat) (h : inRange a.shape c = false) :
    Array_at a c = .err .ParameterError := by
  rw [at_eq]
  unfold Arr.atc
  rw [(indexAt_err_iff a c).2 h]

example : ArrModel.Gen.Core.Array_index_at (⟨List.range 24, [2, 3, 4]⟩ : Arr Nat) [1, 2, 3] = .ok 23 := by decide +kernel
example : ArrModel.Gen.Core.Array_index_to_coord (⟨List.range 24, [2, 3, 4]⟩ : Arr Nat) 23 = .ok [1, 2, 3] := by decide +kernel
example : ArrModel.Gen.Core.Array_at (⟨List.range 24, [2, 3, 4]⟩ : Arr Nat) [1, 3, 0] = .err .ParameterError := by decide +kernel

end ArrModel.C02
