import ArrProofs.Lemmas.C01Ext
import ArrProofs.Lemmas.C01Diff
import ArrProofs.Lemmas.GenCore
/-!
# C01 — shape and element count never disagree on any result of any operation chain

The property theorems (helpers: `ArrProofs/Lemmas/C01Basic|Core|Struct|Ops|Num|Machine|Ext.lean`, one `op_wf` lemma per
modelled operation; `C01Diff` and `InsertAxis` for the operations of `ArrModel/C01Diff.lean`; `GenCore` for the generated
funnel).  Model under test: `ArrModel/C01.lean` — the small-step store machine whose operations are the
very definitions of `ArrModel/*.lean` (axis permutations, reshaping, broadcasting, splitting/joining, reorder,
delete/insert/append/repeat/trim, closures, reductions/scans/sorting, elementwise math patterns, products,
constructors, bit packing, operator overloads).

* `array_new_*`, `reshape_*`, `create_*`, `broadcastTo_*`, `resize_*`: the validating funnel answers `ok` only with a
  consistent array and **refuses** a request whose element list does not fit the shape;
* `meta_agree`: `len`, `ndim`, `is_empty` agree with the element list and (for a consistent array) with the shape;
* `eval_wf`: one case per operation of the machine — on a store whose arrays are all consistent, whatever the
  operation returns (an array, every member of a returned list / pair) is consistent;
* `run_wf` / `reachable_wf`: the invariant on every store reachable by any finite chain (induction over the chain);
* `adjDiff_element` … `convolve_spec`: what the operations of `ArrModel/C01Diff.lean` (`ediff1d`, `diff`, `insert` with an axis,
  `convolve`) compute — first-order difference, `n`-fold iteration, the lane-wise reading of the N-D arm of `diff`, the defining
  double sum of the convolution and its three windows, the refusals; `pairs_wf`: both members of what `modf` / `divmod` /
  `frexp` answer;
* `bypass_*`: the operator impls that build `Array { elements, shape }` without validation are consistent **only
  because** both operands are (the hypotheses of the corresponding `eval_wf` cases cannot be dropped);
* `gen_*`: the funnel and the getters as translated from the Rust source (`ArrModel/Gen/Core.lean`).
All statements are for every shape (any rank, unit axes, zero-length axes) and every chain length.
-/
namespace ArrModel.C01
open ArrModel

variable {α : Type}

/-! ## the funnel -/

/-- `Array::new` never answers with an inconsistent array -/
theorem array_new_ok_wf (e : List α) (s : List Nat) (r : Arr α) (h : Arr.new e s = .ok r) :
    r.WF ∧ r.elems = e ∧ r.shape = s :=
  have ⟨hp, hr⟩ := Arr.new_eq_ok_iff.mp h
  hr ▸ ⟨hp.symm, rfl, rfl⟩

/-- asking for an array whose element list does not fit the requested shape is refused with an error -/
theorem array_new_refuses (e : List α) (s : List Nat) (h : e.length ≠ s.prod) :
    Arr.new e s = .err .ShapeMustMatchValuesLength := new_refuses e s h

/-- … and a fitting request is granted, unchanged -/
theorem array_new_accepts (e : List α) (s : List Nat) (h : e.length = s.prod) : Arr.new e s = .ok ⟨e, s⟩ :=
  Arr.new_of_prod h.symm

/-- `reshape` to a shape of a different element count is refused -/
theorem reshape_refuses (a : Arr α) (s : List Nat) (h : a.elems.length ≠ s.prod) :
    a.reshape s = .err .ShapeMustMatchValuesLength := new_refuses _ _ h

/-- `create(elements, shape, ndmin)` with a non-fitting element list is refused whatever `ndmin` is -/
theorem create_refuses (e : List α) (s : List Nat) (ndmin : Option Nat) (h : e.length ≠ s.prod) :
    Arr.create e s ndmin = .err .ShapeMustMatchValuesLength := by
  unfold Arr.create
  simp only [new_refuses e s h]
  split <;> rfl

/-- `broadcast_to` never answers with an array of another element count than the requested shape's -/
theorem broadcastTo_ok_count (a : Arr α) (s : List Nat) (r : Arr α) (h : a.broadcastTo s = .ok r) :
    r.WF ∧ r.shape = s := by
  have shape_new (e : List α) : Res.All (fun r : Arr α => r.WF ∧ r.shape = s) (Arr.new e s) :=
    fun r h => ⟨Arr.new_wf h, (Arr.new_eq_ok_iff.mp h).2 ▸ rfl⟩
  exact (Res.All.ite' .err <| Res.All.ite' (shape_new _) <| Res.All.ite' .err <| Res.All.ite' .err <|
    Res.All.bind' fun es => shape_new es) r h

/-- `resize` always yields exactly the requested shape, consistently (it cycles through the source) -/
theorem resize_ok_count (a : Arr α) (s : List Nat) (r : Arr α) (h : a.resize s = .ok r) : r.WF ∧ r.shape = s :=
  ⟨Arr.reshape_wf h, (Arr.reshape_eq_ok_iff.mp h).2 ▸ rfl⟩

/-! ## the reported metadata -/

theorem prod_eq_zero_iff_mem : ∀ (s : List Nat), s.prod = 0 ↔ 0 ∈ s := ArrModel.prod_eq_zero_iff

/-- `len`, `ndim`, `is_empty` agree with the element list, and — for a consistent array — with the shape:
the length is the product of the shape, and the array is empty exactly when some axis has length zero. -/
theorem meta_agree (a : Arr α) :
    a.len = a.elems.length ∧ a.ndim = a.shape.length ∧ (a.isEmpty = true ↔ a.len = 0) ∧
    (a.WF → a.len = a.shape.prod ∧ (a.isEmpty = true ↔ 0 ∈ a.shape)) :=
  ⟨rfl, rfl, by simp [Arr.isEmpty, Arr.len], fun h => ⟨h, Arr.isEmpty_iff_zero_mem a h⟩⟩

/-! ## one step -/

/-- **every operation of the machine** (one case per operation): on a store whose arrays are all consistent, the
outcome — an array, or every member of a returned list / pair — is consistent. -/
theorem eval_wf (s : Store) (hs : StoreWF s) (op : Op) : ValWF (eval s op) := by
  cases op with
  | new n off shape => exact ofRes_wf fun _ => Arr.new_wf
  | create n shape ndmin => exact ofRes_wf (create_wf _ shape ndmin)
  | single => exact single_wf _
  | flat n => exact Arr.flat_wf _
  | empty => exact empty_wf
  | zeros shape => exact ofRes_wf (c16_zeros_wf shape)
  | ones shape => exact ofRes_wf (c16_ones_wf shape)
  | full shape => exact ofRes_wf (c16_full_wf shape _)
  | rand shape => exact ofRes_wf (c16_rand_wf _ shape)
  | zerosLike a => exact with1_wf hs fun a _ => ofRes_wf (c16_zerosLike_wf a)
  | onesLike a => exact with1_wf hs fun a _ => ofRes_wf (c16_onesLike_wf a)
  | fullLike a => exact with1_wf hs fun a _ => ofRes_wf (c16_fullLike_wf a _)
  | eye n m k => exact ofRes_wf (c16_eye_wf n m k)
  | identity n => exact ofRes_wf (c16_identity_wf n)
  | tri n m k => exact ofRes_wf (c16_tri_wf n m k)
  | arange a b c => exact ofRes_map_wf ofRatArr_wf (c16_arange_wf _ _ _)
  | linspace a b n e => exact ofRes_map_wf ofRatArr_wf (c16_linspace_wf _ _ n e)
  | diag a k => exact with1_wf hs fun a _ => ofRes_wf (c16_diag_wf a k)
  | diagflat a k => exact with1_wf hs fun a _ => ofRes_wf (c16_diagflat_wf a k)
  | tril a k => exact with1_wf hs fun a _ => ofRes_wf (c16_tril_wf a k)
  | triu a k => exact with1_wf hs fun a _ => ofRes_wf (c16_triu_wf a k)
  | vander a n i => exact with1_wf hs fun a _ => ofRes_wf (c16_vander_wf a n i)
  | transpose a axes => exact with1_wf hs fun a _ => ofRes_wf (transpose_wf a 0 axes)
  | moveaxis a src dst => exact with1_wf hs fun a _ => ofRes_wf (moveaxis_wf a 0 src dst)
  | rollaxis a axis start => exact with1_wf hs fun a _ => ofRes_wf (rollaxis_wf a 0 axis start)
  | swapaxes a i j => exact with1_wf hs fun a _ => ofRes_wf (swapaxes_wf a 0 i j)
  | expandDims a axes => exact with1_wf hs fun a _ => ofRes_wf (expandDims_wf a axes)
  | squeeze a axes => exact with1_wf hs fun a _ => ofRes_wf (squeeze_wf a axes)
  | reshape a shape => exact with1_wf hs fun a _ => ofRes_wf fun _ => Arr.reshape_wf
  | resize a shape => exact with1_wf hs fun a _ => ofRes_wf fun _ => Arr.reshape_wf
  | ravel a => exact with1_wf hs fun a _ => Arr.ravel_wf a
  | atleast a n => exact with1_wf hs fun a ha => ofRes_wf (atleast_wf a n ha)
  | cycleTake a n => exact with1_wf hs fun a _ => cycleTakeArr_wf a n
  | applyAlongAxis a axis f => exact with1_wf hs fun a _ => ofRes_wf (applyAlongAxis_wf a 0 0 axis _)
  | broadcastTo a shape => exact with1_wf hs fun a _ => ofRes_wf (broadcastTo_wf a shape)
  | broadcast a b => exact with2_wf hs fun a b _ _ => ofRes_map_wf fstArr_wf (broadcast_wf a b)
  | broadcastArrays r => exact withL_wf hs fun l _ => ofResL_wf (broadcastArrays_wf l)
  | zip a b => exact with2_wf hs fun a b _ _ => ofRes_map_wf fstArr_wf (zip_wf a b)
  | arraySplit a parts axis => exact with1_wf hs fun a ha => ofResL_wf (arraySplit_wf a 0 parts axis ha)
  | split a parts axis => exact with1_wf hs fun a ha => ofResL_wf (split_wf a 0 parts axis ha)
  | splitAxis a axis => exact with1_wf hs fun a ha => ofResL_wf (splitAxis_wf a 0 axis ha)
  | hsplit a parts => exact with1_wf hs fun a ha => ofResL_wf (hsplit_wf a 0 parts ha)
  | vsplit a parts => exact with1_wf hs fun a ha => ofResL_wf (vsplit_wf a 0 parts ha)
  | dsplit a parts => exact with1_wf hs fun a ha => ofResL_wf (dsplit_wf a 0 parts ha)
  | member l j => exact evalMember_wf hs l j
  | concatenate r axis => exact withL_wf hs fun l hl => ofRes_wf (concatenate_wf l 0 axis hl)
  | stack r axis => exact withL_wf hs fun l _ => ofRes_wf (stack_wf l 0 axis)
  | vstack r => exact withL_wf hs fun l _ => ofRes_wf (vstack_wf l 0)
  | hstack r => exact withL_wf hs fun l hl => ofRes_wf (hstack_wf l 0 hl)
  | dstack r => exact withL_wf hs fun l _ => ofRes_wf (dstack_wf l 0)
  | columnStack r => exact withL_wf hs fun l _ => ofRes_wf (columnStack_wf l 0)
  | rowStack r => exact withL_wf hs fun l _ => ofRes_wf (rowStack_wf l 0)
  | flip a axes => exact with1_wf hs fun a _ => ofRes_wf (flip_wf a axes)
  | flipud a => exact with1_wf hs fun a _ => ofRes_wf (flipud_wf a)
  | fliplr a => exact with1_wf hs fun a _ => ofRes_wf (fliplr_wf a)
  | roll a shift axes => exact with1_wf hs fun a _ => ofRes_wf (roll_wf a shift axes)
  | rot90 a k axes => exact with1_wf hs fun a ha => ofRes_wf (rot90_wf a 0 k axes ha)
  | delete a indices axis => exact with1_wf hs fun a _ => ofRes_wf (delete_wf a 0 indices axis)
  | insertFlat a indices v => exact with2_wf hs fun a v _ _ => ofRes_wf (insertFlat_wf a indices v)
  | append a v axis => exact with2_wf hs fun a v _ _ => ofRes_wf (append_wf a v 0 axis)
  | repeatFlat a reps => exact with1_wf hs fun a _ => ofRes_wf (repeatFlat_wf a reps)
  | repeatAxis a reps axis => exact with1_wf hs fun a _ => ofRes_wf (repeatAxis_wf a 0 reps axis)
  | trimZeros a => exact with1_wf hs fun a _ => ofRes_wf (trimZeros_wf a 0)
  | map a => exact with1_wf hs fun a _ => ofRes_wf (iter_map_wf a _)
  | mapE a => exact with1_wf hs fun a _ => ofRes_wf (iter_mapE_wf a _)
  | filterE a m t => exact with1_wf hs fun a _ => ofRes_wf (iter_filterE_wf a _)
  | filterMapE a m t => exact with1_wf hs fun a _ => ofRes_wf (iter_filterMapE_wf a _)
  | filterNonzero a => exact with1_wf hs fun a _ => ofRes_wf (iter_filter_wf a _)
  | reduceFold a axis => exact with1_wf hs fun a ha => ofRes_wf (reduceAxis_wf a 0 0 axis _ ha fun x _ => foldBody_wf x)
  | reduceExtreme a axis =>
    exact with1_wf hs fun a ha => ofRes_wf (reduceAxis_wf a 0 0 axis _ ha fun x _ => extremeBody_wf x)
  | countNonzero a axis kd =>
    exact with1_wf hs fun a ha => ofRes_wf (countAxis_wf a 0 0 axis kd _ ha fun x k _ => countBody_wf x k)
  | argExtreme a isMax axis kd =>
    exact with1_wf hs fun a ha => ofRes_map_wf ofNatArr_wf fun _ h => argExtreme_wf _ 0 isMax a axis kd ha h
  | scan a axis => exact with1_wf hs fun a _ => ofRes_wf (scanAxis_wf a 0 0 axis _ fun x _ => scanBody_wf x)
  | sort a axis kind => exact with1_wf hs fun a _ => ofRes_wf (sort_wf _ 0 a axis kind)
  | argsort a axis kind => exact with1_wf hs fun a _ => ofRes_map_wf ofNatArr_wf (argsort_wf _ 0 a axis kind)
  | unique a axis => exact with1_wf hs fun a _ => ofRes_wf (unique_wf _ 0 a axis)
  | unary a => exact with1_wf hs fun a _ => ofRes_wf (iter_unary_wf _ a)
  | logE a => exact with1_wf hs fun a _ => ofRes_wf (binPat_wf .B a _)
  | rint a => exact with1_wf hs fun a _ => ofRes_wf (roundLike_wf a _)
  | round a d => exact with2_wf hs fun a d _ _ => ofRes_wf (roundLike_wf a d)
  | binary p a b => exact with2_wf hs fun a b _ _ => ofRes_wf (binPat_wf p a b)
  | clip a lo hi => exact with3_wf hs fun a lo hi _ _ _ => ofRes_wf (c04_clipLike_wf _ a lo hi)
  | vdot a b => exact with2_wf hs fun a b _ _ => ofRes_wf (c14_vdot_wf a b)
  | outer a b => exact with2_wf hs fun a b _ _ => ofRes_wf (c14_outer_wf a b)
  | inner a b => exact with2_wf hs fun a b _ _ => ofRes_wf (c14_inner_wf a b)
  | matmul a b => exact with2_wf hs fun a b _ _ => ofRes_wf (c14_matmul_wf a b)
  | dot a b => exact with2_wf hs fun a b ha hb => ofRes_wf (c01x_dotFull_wf a b ha hb)
  | unpackBits a axis count order =>
    exact with1_wf hs fun a ha => ofRes_map_wf ofNatArr_wf (c19_unpackBits_pipe_wf _ axis count _ (toNatArr_wf ha))
  | packBits a axis order =>
    exact with1_wf hs fun a ha => ofRes_map_wf ofNatArr_wf (c19_packBits_pipe_wf _ axis _ (toNatArr_wf ha))
  | operator k a b => exact with2_wf hs fun a b ha hb => ofRes_wf (opKind_wf k a b ha hb)
  | slice a start stop => exact with1_wf hs fun a ha => ofRes_wf (c01x_slice_wf a start stop ha)
  | indicesAt a indices => exact with1_wf hs fun a _ => ofRes_wf (c01x_indicesAt_wf a indices)
  | filterMapNonzero a => exact with1_wf hs fun a _ => ofRes_wf (iter_filterMap_wf a _)
  | clipOpt a lo hi =>
    refine with1_wf hs fun a _ => ?_
    split
    · exact ofRes_wf (c01x_clipOpt_wf a _ _)
    · trivial
  | strUnary a => exact with1_wf hs fun a _ => ofRes_map_wf blankArr_wf (c01x_strUnary_wf _)
  | strBinary a b => exact with2_wf hs fun a b _ _ => ofRes_map_wf blankArr_wf (c01x_strBinary_wf _ _ _)
  | strStrip a c => exact with2_wf hs fun a c _ _ => ofRes_map_wf blankArr_wf (c01x_strStrip_wf _ _ _)
  | strCompare a b op => exact with2_wf hs fun a b _ _ => ofRes_map_wf blankArr_wf (c01x_strCompare_wf _ _ _ op)
  | strMultiply a n => exact with2_wf hs fun a n _ _ => ofRes_map_wf blankArr_wf (c01x_strMultiply_wf _ _ _)
  | strSplitlines a keep => exact with1_wf hs fun a _ => ofRes_map_wf blankArr_wf (c01x_strSplitlines_wf _ _ _)
  | strPad a w fill => exact with2_wf hs fun a w _ _ => ofRes_map_wf blankArr_wf (c01x_strPad_wf _ _ _ _)
  | strSplit a sep m =>
    refine with1_wf hs fun a _ => ?_
    split
    · exact ofRes_wf (c01x_strSplit_wf a _ m)
    · trivial
  | strReplace a o n cnt => exact with3_wf hs fun a o n _ _ _ => ofRes_map_wf blankArr_wf (c01x_strReplace_wf _ _ _ _ cnt)
  | ediff1d a e b =>
    refine with1_wf hs fun a _ => ?_
    split
    · exact c01d_ediff1d_wf a _ _
    · trivial
  | diff a n axis p q =>
    refine with1_wf hs fun a _ => ?_
    split
    · exact ofRes_wf fun _ h => c01d_diff_wf a 0 n axis _ _ h
    · trivial
  | insertAxis a indices v axis =>
    exact with2_wf hs fun a v _ _ => ofRes_wf fun _ h => c01d_insertAxis_wf a 0 indices v axis h
  | convolve a b mode => exact with2_wf hs fun a b _ _ => ofRes_wf fun _ h => c01d_convolve_wf a b mode h
  | modf a => exact with1_wf hs fun a _ => ofResP_wf fun _ h => c01d_modfPair_wf a h
  | divmod a => exact with1_wf hs fun a _ => ofResP_wf fun _ h => c01d_divmodPair_wf a h
  | frexp a => exact with1_wf hs fun a _ => ofResP_wf fun _ h => ⟨(c01d_frexpPair_wf a h).1, (c01d_frexpPair_wf a h).2.1⟩
  | extern e => exact ext_wf e

/-- one step keeps the invariant (earlier entries are never touched, the new entry is consistent) -/
theorem step_wf (s : Store) (hs : StoreWF s) (op : Op) : StoreWF (step s op) := by
  intro v hv
  unfold step at hv
  rcases List.mem_append.mp hv with h | h
  · exact hs v h
  · rw [List.mem_singleton] at h
    subst h
    exact eval_wf s hs op

/-! ## every reachable store -/

/-- **the invariant on every store reachable from a consistent store by any finite chain** -/
theorem reachable_wf (init : Store) (hinit : StoreWF init) (ops : List Op) : StoreWF (ops.foldl step init) := by
  induction ops generalizing init with
  | nil => exact hinit
  | cons op ops ih => exact ih (step init op) (step_wf init hinit op)

/-- … in particular from the empty store: every array a caller can obtain by any chain of modelled operations —
as a result, as a member of a returned list or pair — holds exactly as many elements as the product of its shape -/
theorem run_wf (ops : List Op) : StoreWF (run ops) :=
  reachable_wf [] (fun _ h => by cases h) ops

/-- the same, spelled out on the entries: position `i` of the store after the chain `ops` -/
theorem run_entry_wf (ops : List Op) (i : Nat) :
    (∀ a, (run ops)[i]? = some (.arr a) → a.elems.length = a.shape.prod) ∧
    (∀ l, (run ops)[i]? = some (.list l) → ∀ a ∈ l, a.elems.length = a.shape.prod) :=
  ⟨fun a h => run_wf ops (.arr a) (List.mem_of_getElem? h), fun l h => run_wf ops (.list l) (List.mem_of_getElem? h)⟩

/-- the store only grows: one entry per operation (nothing a caller holds is ever changed by a later call) -/
theorem run_length (ops : List Op) : (run ops).length = ops.length := by
  have : ∀ (init : Store), (ops.foldl step init).length = init.length + ops.length := by
    induction ops with
    | nil => intro init; rfl
    | cons op ops ih =>
      intro init
      rw [List.foldl_cons, ih, step, List.length_append, List.length_singleton, List.length_cons, Nat.add_assoc,
        Nat.add_comm 1]
  exact (this []).trans (Nat.zero_add _)

/-! ## the struct-literal bypasses (`boolean/operations/ops.rs:41,52`, the `*Assign` impls) -/

/-- the bit operators build `Array { elements, shape: self.shape }` with no check: consistent when BOTH operands are -/
theorem bypass_bitop_wf (f : Int → Int → Int) (a b r : A) (ha : a.WF) (hb : b.WF) (h : C20.bitop f a b = .ok r) :
    r.WF ∧ r.shape = a.shape := by
  refine ⟨c20_bitop_wf f a b ha hb r h, ?_⟩
  unfold C20.bitop at h
  split at h
  · cases h
  · cases h; rfl

/-- … and the hypothesis is needed: an inconsistent operand of equal shape comes out as an inconsistent result
(the same call through the validated `impl_op!` path cannot: `c20_binop_wf`) -/
theorem bypass_bitop_needs_wf : ∃ (a b r : A), a.WF ∧ a.shape = b.shape ∧ C20.bitop (· + ·) a b = .ok r ∧ ¬ r.WF :=
  ⟨⟨[1, 2], [2]⟩, ⟨[1], [2]⟩, ⟨[2], [2]⟩, by decide, rfl, rfl, by decide⟩

theorem bypass_bitScalar_needs_wf : ∃ (a r : A), C20.bitScalar (· + ·) a 0 = .ok r ∧ ¬ r.WF :=
  ⟨⟨[1], [2]⟩, ⟨[1], [2]⟩, rfl, by decide⟩

/-- for `assignop` it is the receiver that matters (the operand may be ill-formed, see `c20_assignop_wf`) -/
theorem bypass_assign_needs_wf : ∃ (a b r : A), b.WF ∧ a.shape = b.shape ∧ C20.assignop (· + ·) a b = .ok r ∧ ¬ r.WF :=
  ⟨⟨[1], [2]⟩, ⟨[1, 2], [2]⟩, ⟨[2], [2]⟩, by decide, rfl, rfl, by decide⟩

/-- by contrast the arithmetic operators go through `Array::new`: consistent with no hypothesis at all -/
theorem validated_binop_wf (f : Int → Int → Int) (a b r : A) (h : C20.binop f a b = .ok r) : r.WF :=
  c20_binop_wf f a b r h

/-! ## `ediff1d`, `diff`, `insert` with an axis, `convolve` (`ArrModel/C01Diff.lean`): what they compute -/

/-- first-order difference: element `i` of the adjacent differences of a lane is `l[i+1] - l[i]`, and there are `len - 1` of them -/
theorem adjDiff_element [Sub α] (l : List α) (i : Nat) (h : i + 1 < l.length) :
    (adjDiff l)[i]? = some (l[i + 1] - l[i]) ∧ (adjDiff l).length = l.length - 1 :=
  ⟨adjDiff_getElem? l i h, adjDiff_length l⟩

/-- `n`-th order difference = `n`-fold iteration of the first-order one; it is `n` elements shorter (empty once `n ≥ len`) -/
theorem iterDiff_iterates [Sub α] (n : Nat) (l : List α) :
    iterDiff 0 l = l ∧ iterDiff (n + 1) l = adjDiff (iterDiff n l) ∧ (iterDiff n l).length = l.length - n :=
  ⟨rfl, iterDiff_succ' n l, iterDiff_length n l⟩

/-- `ediff1d(to_end, to_begin)`: `to_begin`, then the adjacent differences of the flattened receiver, then `to_end`; shape `[count]` -/
theorem ediff1d_spec [Sub α] (a : Arr α) (e b : Option (Arr α)) :
    (a.ediff1d e b).elems = Arr.optElems b ++ adjDiff a.elems ++ Arr.optElems e ∧
    (a.ediff1d e b).shape = [(Arr.optElems b).length + (a.elems.length - 1) + (Arr.optElems e).length] ∧ (a.ediff1d e b).WF :=
  ⟨(c01d_ediff1d_spec a e b).1, (c01d_ediff1d_spec a e b).2, c01d_ediff1d_wf a e b⟩

/-- … element-wise: position `|to_begin| + i` holds `a[i+1] - a[i]` -/
theorem ediff1d_element [Sub α] (a : Arr α) (e b : Option (Arr α)) (i : Nat) (h : i + 1 < a.elems.length) :
    (a.ediff1d e b).elems[(Arr.optElems b).length + i]? = some (a.elems[i + 1] - a.elems[i]) := by
  rw [(c01d_ediff1d_spec a e b).1, List.append_assoc, List.getElem?_append_right (Nat.le_add_right _ _),
    Nat.add_sub_cancel_left, List.getElem?_append_left (by rw [adjDiff_length]; omega)]
  exact adjDiff_getElem? a.elems i h

/-- `diff` refuses an axis outside the rank (whatever `n` is), and order 0 answers the empty array -/
theorem diff_refusals [Sub α] (a : Arr α) (zero : α) (n : Nat) (axis : Option Int) (p q : Option (Arr α)) :
    (Arr.diffAxisBad a.ndim axis = true → a.diff zero n axis p q = .err .AxisOutOfBounds) ∧
    (Arr.diffAxisBad a.ndim axis = false → n = 0 → a.diff zero n axis p q = .ok Arr.empty) := by
  constructor
  · intro h; unfold Arr.diff; rw [h]; rfl
  · intro h hn; unfold Arr.diff; rw [h, hn]; rfl

/-- `diff` of a rank-1 array: the `n`-th order difference of `prepend ++ elements ++ append`, shape `[len - n]` -/
theorem diff_rank1 [Sub α] (a : Arr α) (zero : α) (n : Nat) (axis : Option Int) (p q : Option (Arr α))
    (hax : Arr.diffAxisBad a.ndim axis = false) (hn : n ≠ 0) (h1 : a.ndim = 1) :
    ∃ r, a.diff zero n axis p q = .ok r ∧ r.elems = iterDiff n (Arr.optElems p ++ a.elems ++ Arr.optElems q) ∧
      r.shape = [(Arr.optElems p).length + a.elems.length + (Arr.optElems q).length - n] ∧ r.WF := by
  refine ⟨_, c01d_diff_flat_spec a zero n axis p q hax hn h1, rfl, ?_, Arr.flat_wf _⟩
  exact congrArg (fun k => [k]) (by rw [iterDiff_length, List.length_append, List.length_append])

/-- `diff` of an array of another rank: the code re-lays the array (`diffRelay`) and takes the `n`-th order difference of every
lane along the axis.  For the re-laid array `x` (no zero-length axis): the result has the shape of `x` with the axis shortened
by `n`, it is consistent, and its element at coordinate `c` is element `c[axis]` of the `n`-th order difference of the lane of `x`
through `c` — out[.., i, ..] = x[.., i+1, ..] - x[.., i, ..] for `n = 1` (`adjDiff_element`). -/
theorem diff_nd_lanes [Sub α] (a : Arr α) (zero : α) (n : Nat) (axis : Option Int) (p q : Option (Arr α)) (x : Arr α)
    (hax : Arr.diffAxisBad a.ndim axis = false) (hn : n ≠ 0) (h1 : a.ndim ≠ 1)
    (hin : normalizeAxis a.ndim (axis.getD (-1)) < a.ndim)
    (hx : a.diffRelay zero (normalizeAxis a.ndim (axis.getD (-1))) p q = .ok x)
    (hxa : normalizeAxis a.ndim (axis.getD (-1)) < x.ndim) (hnz : 0 ∉ x.shape) :
    ∃ r, a.diff zero n axis p q = .ok r ∧
      r.shape = x.shape.set (normalizeAxis a.ndim (axis.getD (-1))) (x.shape.getD (normalizeAxis a.ndim (axis.getD (-1))) 0 - n) ∧
      r.WF ∧
      ∀ c, inRange r.shape c = true →
        r.get? c = (iterDiff n (laneOf x (normalizeAxis a.ndim (axis.getD (-1))) c))[c.getD (normalizeAxis a.ndim (axis.getD (-1))) 0]? := by
  obtain ⟨r, h1', h2, h3, h4⟩ := c01d_diff_lanes x zero n _ (c01d_diffRelay_wf a zero _ p q hx) hxa hnz
  refine ⟨r, ?_, h2, h3, h4⟩
  rw [c01d_diff_nd_eq a zero n axis p q hax hn h1 hin, hx]
  exact h1'

/-- whatever `diff` answers is consistent (every arm), and so is what `insert` with an axis answers; on a receiver of rank ≠ 1 the
latter has the shape the code computes (on a rank-1 receiver the call IS the flat insert of C13): the receiver's shape with the axis length replaced, axes 0 and `axis` swapped, then permuted by
`(1..ndim).insert_at(axis, 0)` -/
theorem diff_insertAxis_wf [Sub α] (a : Arr α) (zero : α) (ha : a.WF) :
    (∀ n axis p q r, a.diff zero n axis p q = .ok r → r.WF) ∧
    (∀ indices v axis r, v.WF → a.insertAxis zero indices v axis = .ok r → r.WF ∧ axis < a.ndim ∧
      (a.ndim ≠ 1 →
        ∃ K, r.shape = permute ((List.range' 1 (a.ndim - 1)).insertIdx axis 0) (swapExt (a.shape.set axis K) 0 axis))) ∧
    (∀ indices v, a.ndim = 1 → indices.any (fun i => decide (i > a.shape.getD 0 0)) = false → v.ndim = 1 →
      a.insertAxis zero indices v 0 = a.insertFlat indices v) :=
  ⟨fun n axis p q _ h => c01d_diff_wf a zero n axis p q h,
   fun indices v axis _ _ h => ⟨c01d_insertAxis_wf a zero indices v axis h, (Arr.insertAxis_eq_ok h).1,
      fun h1 => (c01d_insertAxis_shape a zero indices v axis h1 h).2⟩,
   fun indices v h1 hix hv => c01d_insertAxis_rank1 a zero indices v h1 hix hv⟩

/-- `convolve`: the accumulation loop computes the defining sum — position `k` of the full product is `Σ_{i+j=k} x[i]·y[j]`
(`convCoeff`), for every `k < n + m - 1` -/
theorem convolve_full_coeff (x y : List Int) (k : Nat) (hk : k < x.length + y.length - 1) :
    (convFull x y)[k]? = some (convCoeff x y k) ∧ (convFull x y).length = x.length + y.length - 1 :=
  ⟨convFull_getElem? x y k hk, convFull_length x y⟩

/-- … and the three modes cut the windows `full`: all `n + m - 1`, `valid`: `n - m + 1` from offset `m - 1`, `same`: `n` from
offset `(m - 1) / 2` (`n ≥ m ≥ 1` the longer / shorter operand): length and every element -/
theorem convolve_window (md : ConvMode) (x y : List Int) (hm : 1 ≤ y.length) (hnm : y.length ≤ x.length) :
    (convWindow md x.length y.length (convFull x y)).length = convLen md x.length y.length ∧
    (convLen .full x.length y.length = x.length + y.length - 1 ∧ convLen .valid x.length y.length = x.length - y.length + 1 ∧
      convLen .same x.length y.length = x.length ∧ convOffset .full y.length = 0 ∧ convOffset .valid y.length = y.length - 1 ∧
      convOffset .same y.length = (y.length - 1) / 2) ∧
    ∀ k, k < (convWindow md x.length y.length (convFull x y)).length →
      (convWindow md x.length y.length (convFull x y))[k]? = some (convCoeff x y (k + convOffset md y.length)) :=
  ⟨convWindow_length md x y hm hnm, ⟨rfl, rfl, rfl, rfl, rfl, rfl⟩, fun k hk => convWindow_getElem? md x y hm hnm k hk⟩

/-- `convolve` on arrays: refused when an operand has no element or the mode text is none of `full` / `valid` / `same`; otherwise
the flat array of the window of the product of the longer by the shorter operand -/
theorem convolve_spec (a b : Arr Int) (mode : Option (List Char)) :
    ((a.len = 0 ∨ b.len = 0) → a.convolve b mode = .err .ParameterError) ∧
    (a.len ≠ 0 → b.len ≠ 0 → convModeOf mode = none → a.convolve b mode = .err .ParameterError) ∧
    (a.len ≠ 0 → b.len ≠ 0 → ∀ md, convModeOf mode = some md →
      a.convolve b mode = .ok (Arr.flat (convWindow md (max a.len b.len) (min a.len b.len)
        (if b.len > a.len then convFull b.elems a.elems else convFull a.elems b.elems)))) := by
  constructor
  · intro h
    unfold Arr.convolve
    rw [if_pos (by rcases h with h | h <;> simp [h])]
  constructor
  · intro ha hb hmd
    unfold Arr.convolve
    rw [if_neg (by simp [ha, hb]), hmd]
  · intro ha hb md hmd
    unfold Arr.convolve
    rw [if_neg (by simp [ha, hb]), hmd]
    dsimp only
    by_cases hlt : b.len > a.len
    · rw [if_pos hlt, if_pos hlt, if_pos hlt, Nat.max_eq_right (Nat.le_of_lt hlt), Nat.min_eq_left (Nat.le_of_lt hlt)]
      rfl
    · rw [if_neg hlt, if_neg hlt, if_neg hlt, Nat.max_eq_left (Nat.le_of_not_lt hlt), Nat.min_eq_right (Nat.le_of_not_lt hlt)]
      rfl

/-- the pair-returning `frexp`: on a consistent receiver it succeeds, and both members (mantissas, exponents) are consistent
and have exactly the receiver's shape; `modf` / `divmod`: both members of whatever they answer are consistent -/
theorem pairs_wf (a : A) (ha : a.WF) :
    (∃ r, frexpPair a = .ok r ∧ r.1.WF ∧ r.2.WF ∧ r.1.shape = a.shape ∧ r.2.shape = a.shape) ∧
    (∀ r, modfPair a = .ok r → r.1.WF ∧ r.2.WF) ∧ (∀ r, divmodPair a = .ok r → r.1.WF ∧ r.2.WF) := by
  obtain ⟨r, hr⟩ := c01d_frexpPair_ok a ha
  exact ⟨⟨r, hr, c01d_frexpPair_wf a hr⟩, fun _ h => c01d_modfPair_wf a h, fun _ h => c01d_divmodPair_wf a h⟩

/-! ## non-vacuity -/

/-- the hypotheses of `diff_nd_lanes` are satisfiable (a 2×3 array, last axis), and the code's re-lay is NOT the identity for an
outer axis of a rank-3 array (the 4×3×2 array of squares, axis 0: the lane differences come out in permuted order) -/
example : ∃ x, (⟨[0, 1, 4, 9, 16, 25], [2, 3]⟩ : A).diffRelay 0 1 none none = .ok x ∧ 1 < x.ndim ∧ 0 ∉ x.shape ∧
    (⟨[0, 1, 4, 9, 16, 25], [2, 3]⟩ : A).diff 0 1 none none none = .ok ⟨[1, 3, 7, 9], [2, 2]⟩ :=
  ⟨⟨[0, 1, 4, 9, 16, 25], [2, 3]⟩, by decide +kernel, by decide, by decide, by decide +kernel⟩
example : ((⟨(List.range 24).map (fun i => Int.ofNat (i * i)), [4, 3, 2]⟩ : A).diff 0 1 (some 0) none none).map (·.elems.take 4) =
    .ok [36, 72, 48, 84] := by decide +kernel
example : Arr.diffAxisBad 2 (some 2) = true ∧ Arr.diffAxisBad 2 (some (-1)) = false ∧ Arr.diffAxisBad 0 none = false := by decide
example : (⟨[7], []⟩ : A).diff 0 1 none none none = .panic := by decide +kernel
example : (⟨[1, 4, 9], [3]⟩ : A).diff 0 2 none (some ⟨[0], [1]⟩) none = .ok ⟨[2, 2], [2]⟩ := by decide +kernel
example : (⟨[0, 1, 4, 9, 16, 25], [2, 3]⟩ : A).insertAxis 0 [0, 2] ⟨[100, 200, 300], [3]⟩ 0 =
    .ok ⟨[100, 200, 300, 0, 1, 4, 9, 16, 25, 100, 200, 300], [4, 3]⟩ := by decide +kernel
example : (⟨[1, 2, 3], [3]⟩ : A).convolve ⟨[0, 1, 5], [3]⟩ none = .ok ⟨[0, 1, 7, 13, 15], [5]⟩ ∧
    (⟨[1, 2, 3], [3]⟩ : A).convolve ⟨[0, 1], [2]⟩ (some ['s', 'a', 'm', 'e']) = .ok ⟨[0, 1, 2], [3]⟩ ∧
    (⟨[1, 2, 3], [3]⟩ : A).convolve ⟨[0, 1], [2]⟩ (some ['S', 'a', 'm', 'e']) = .err .ParameterError ∧
    convCoeff [1, 2, 3] [0, 1, 5] 2 = 7 := by decide +kernel
example : (run [.new 6 0 [2, 3], .diff 0 1 (some 0) none none, .ediff1d 0 none (some 1), .new 2 5 [2], .convolve 0 3 none,
      .insertAxis 0 [1] 3 1, .insertAxis 0 [1] 3 2]).map
      (fun v => match v with | .arr a => some a.shape | _ => none) =
    [some [2, 3], some [1, 3], some [8], some [2], some [7], some [2, 4], none] := by decide +kernel

/-- a chain through constructors, axis moves, a split, a member, joins, a bypass operator, a product, a reduction:
the machine really produces arrays, lists, errors and panics -/
example : (run [.new 6 0 [2, 3], .transpose 0 none, .split 1 3 (some 0), .member 2 1, .concatenate (.lst 2) (some 0),
      .operator .bitop 0 0, .operator .binop 0 1, .new 5 0 [2, 3], .matmul 0 1, .reduceFold 0 (some 1)]).map
      (fun v => match v with
        | .arr a => some a.shape | .list l => some (l.flatMap (·.shape)) | _ => none) =
    [some [2, 3], some [3, 2], some [1, 2, 1, 2, 1, 2], some [1, 2], some [3, 2], some [2, 3], none, none,
     some [2, 2], some [2]] := by decide +kernel

example : (match eval [] (.new 5 0 [2, 3]) with | .err .ShapeMustMatchValuesLength => true | _ => false) = true := by decide
example : (match eval [.arr ⟨[1, 2], [2]⟩, .arr ⟨[1, 2, 3], [3]⟩] (.operator .bitop 0 1) with | .panic => true | _ => false) = true := by
  decide
example : StoreWF (run [.new 24 0 [2, 3, 4], .moveaxis 0 [0] [2], .arraySplit 1 2 (some 1), .extern (.list [[2], [3, 1]])]) :=
  run_wf _
/-- the empty array and unit axes are inside the quantifier -/
example : (Arr.new ([] : List Int) [2, 0, 3]).isOk = true ∧ (⟨[], [2, 0, 3]⟩ : A).WF ∧ (⟨[], [2, 0, 3]⟩ : A).isEmpty = true := by
  decide

/-! ## the validating funnel as REGENERATED FROM THE RUST SOURCE on every run
`tools/rs2lean.py` translates `Array::new`, `create`, `single`, `flat`, `empty`, `FromIterator::from_iter`, `reshape` and the
getters construct by construct into `ArrModel/Gen/Core.lean`; these theorems are about those generated definitions (their
equivalence with the hand model is `ArrProofs/Lemmas/GenCore.lean`), so a change of the Rust funnel changes what has to be
proved here. -/

open ArrModel.Gen.Core in
/-- `Array::new` as written in `create.rs`: Ok exactly when the element list fits the shape - and then the very array
`{elements, shape}`, which is consistent -, the error value `ShapeMustMatchValuesLength` otherwise, never a panic -/
theorem gen_new_funnel {α : Type} (e : List α) (s : List Nat) :
    (∀ r, Array_new e s = .ok r ↔ s.prod = e.length ∧ r = ⟨e, s⟩) ∧ (∀ r, Array_new e s = .ok r → r.WF) ∧
    (s.prod ≠ e.length → Array_new e s = .err .ShapeMustMatchValuesLength) ∧ Array_new e s ≠ .panic :=
  ⟨c01_gen_new_ok_iff e s, c01_gen_new_wf e s, c01_gen_new_err e s, c01_gen_new_never_panics e s⟩

open ArrModel.Gen.Core in
/-- every other constructor of `create.rs` / `iter.rs` and `reshape` of `manipulate.rs`, as written there, answers only with a
consistent array holding exactly the given elements -/
theorem gen_constructors_wf {α : Type} (e : List α) (s : List Nat) (nd : Option Nat) (x : α) (a : Arr α) :
    (∀ r, Array_create e s nd = .ok r → r.WF) ∧
    (∃ r, Array_single x = .ok r ∧ r.WF ∧ r.elems = [x] ∧ r.shape = [1]) ∧
    (∃ r, Array_flat e = .ok r ∧ r.WF ∧ r.elems = e ∧ r.shape = [e.length]) ∧
    (∃ r : Arr α, Array_empty = .ok r ∧ r.WF ∧ r.elems = [] ∧ r.shape = [0]) ∧
    (∃ r, Array_from_iter e = .ok r ∧ r.WF ∧ r.elems = e ∧ r.shape = [e.length]) ∧
    (∀ r, Array_reshape a s = .ok r → r.WF ∧ r.elems = a.elems ∧ r.shape = s) :=
  ⟨c01_gen_create_wf e s nd, c01_gen_single_wf x, c01_gen_flat_wf e, c01_gen_empty_wf, c01_gen_from_iter_wf e,
   fun r h => c01_gen_reshape_wf a r s h⟩

open ArrModel.Gen.Core in
/-- the getters of `meta.rs` as written there: `len` is the element count (= the product of the shape on a consistent array),
`ndim` the length of the shape, `is_empty` holds exactly when the product of the shape is 0 -/
theorem gen_meta_agree {α : Type} (a : Arr α) (hwf : a.WF) :
    Array_len a = .ok a.shape.prod ∧ Array_ndim a = .ok a.shape.length ∧ Array_is_empty a = .ok (a.shape.prod == 0) ∧
    Array_get_elements a = .ok a.elems ∧ Array_get_shape a = .ok a.shape :=
  ⟨c01_gen_len a hwf, c01_gen_ndim a, c01_gen_is_empty a hwf, (c01_gen_get a).1, (c01_gen_get a).2⟩

example : ArrModel.Gen.Core.Array_new [1, 2, 3] [2, 2] = .err .ShapeMustMatchValuesLength ∧
    ArrModel.Gen.Core.Array_new [1, 2, 3, 4] [2, 2] = .ok ⟨[1, 2, 3, 4], [2, 2]⟩ := by decide

end ArrModel.C01
