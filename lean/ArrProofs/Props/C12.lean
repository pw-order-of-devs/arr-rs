import ArrProofs.Lemmas.C12Empty
/-!
# C12 — flip, roll and quarter-turn rotation are exact coordinate maps with inverses

Model under test: `ArrModel/Reorder.lean` (`flipAxis` / `rollAxis` with their three arms on the flat element vector,
`accumShifts`, `Arr.flip/flipud/fliplr/roll/rot90`).  Every statement is for every rank, every axis length and every
integer shift (no bound).  Standing hypotheses of the coordinate theorems: the array is well formed
(`elems.length = shape.prod`) and has no axis of length zero (on an empty array there is no coordinate to speak about and
the Rust code may refuse the split — exactly when, is said at the end of the file: `flip_list_empty`, `roll_axis_empty`,
`rot90_empty`, and the statements for every well-formed array `flip_total`, `roll_total`, `rot90_total`, `…_never_panics`).

Vocabulary (definitions in `Lemmas/C12Perm.lean`, `Lemmas/C12Arr.lean`):
`flipCoord shape k c = c.set k (shape[k] − 1 − c[k])`, `rollIdx s n i = ((i − s) mod n)` (Euclidean remainder on `Int`),
`rollCoord shape k s c = c.set k (rollIdx s shape[k] c[k])`, `totalShift ps k` = sum of the shifts paired with axis `k`,
`rollPairs nd shift axes` = the (normalised axis, shift) pairs, `flipAll shape c` = every coordinate mirrored
(`Lemmas/C12FlipAll.lean`), `Arr.turn` / `Arr.turns` = one / `n` quarter turns (`Lemmas/C12Rot.lean`).
The three-arm induction is done once, on the common skeleton `permAxis` of `flipAxis` and `rollAxis`
(`Lemmas/C12Axis.lean`: `flipAxis_eq_permAxis`, `rollAxis_eq_permAxis`, `permAxis_at`).
The coordinate statements all have the form `Reads x a S φ` (`Lemmas/C12Reads.lean`): `x` answers a well-formed array of
shape `S` whose element at `c` is the element of `a` at `φ c`; that such descriptions compose along `>>=` and determine
the outcome is proved once there, and the inverse and composition theorems below follow from it.
-/
namespace ArrModel.C12
open ArrModel Arr
variable {α : Type}

/-- **core of flip**: on the flat element vector of an array of shape `shape`, `flip_axis(ax)` succeeds, keeps the
length, and the element at coordinate `c` of the result is the input element at `c` with `c[ax] ↦ n − 1 − c[ax]`
(proved by induction on the axis number through the three arms of the code: first axis, last axis, inner axis) -/
theorem flipAxis_at (ax : Nat) (shape : List Nat) (elems : List α)
    (hpos : ∀ d ∈ shape, 0 < d) (hlen : elems.length = shape.prod) (hax : ax < shape.length) :
    ∃ es, flipAxis ax shape elems = .ok es ∧ es.length = elems.length ∧
      ∀ c, inRange shape c = true →
        es[ravel shape c]? = elems[ravel shape (c.set ax (shape.getD ax 0 - 1 - c.getD ax 0))]? :=
  flipAxis_spec ax shape elems hpos hlen hax

/-- **flip along a list of axes** (any spelling, repetitions allowed): shape kept, and the element at `c` comes from the
coordinate obtained by applying the single-axis maps of the listed axes -/
theorem flip_list_at (a : Arr α) (axes : List Int) (hwf : a.WF) (hpos : ∀ d ∈ a.shape, 0 < d)
    (hv : ∀ x ∈ axes, normalizeAxis a.ndim x < a.ndim) :
    ∃ r, a.flip (some axes) = .ok r ∧ r.shape = a.shape ∧ r.WF ∧
      ∀ c, inRange a.shape c = true →
        r.get? c = a.get? ((axes.map (normalizeAxis a.ndim)).foldr (flipCoord a.shape) c) :=
  flip_list_spec a axes hwf hpos hv

/-- **flip along one axis** (either spelling of the axis): shape kept; the index along that axis is sent to `n − 1 − i`,
every other coordinate stays -/
theorem flip_at (a : Arr α) (ax : Int) (hwf : a.WF) (hpos : ∀ d ∈ a.shape, 0 < d)
    (hk : normalizeAxis a.ndim ax < a.ndim) :
    ∃ r, a.flip (some [ax]) = .ok r ∧ r.shape = a.shape ∧ r.WF ∧
      ∀ c, inRange a.shape c = true →
        r.get? c = a.get? (c.set (normalizeAxis a.ndim ax)
          (a.shape.getD (normalizeAxis a.ndim ax) 0 - 1 - c.getD (normalizeAxis a.ndim ax) 0)) :=
  flip_list_at a [ax] hwf hpos (List.forall_mem_singleton.2 hk)

/-- **both spellings of an axis name the same flip**: `k` and `k − ndim` -/
theorem flip_spellings (a : Arr α) (k : Nat) (hk : k < a.ndim) :
    a.flip (some [(k : Int) - a.ndim]) = a.flip (some [(k : Int)]) := by
  have e1 : normalizeAxis a.ndim ((k : Int) - a.ndim) = k := by
    have := C06.normalize_neg a.ndim ((k : Int) - a.ndim) (by omega) (by omega)
    omega
  have e2 : normalizeAxis a.ndim (k : Int) = k := normalizeAxis_ofNat _ _
  exact a.flip_congr _ _ (by rw [List.map_singleton, List.map_singleton, e1, e2])

/-- **flip without axes reverses the flat order**: element `i` of the result is element `len − 1 − i` -/
theorem flip_none (a : Arr α) (hwf : a.WF) :
    ∃ r, a.flip none = .ok r ∧ r.shape = a.shape ∧ r.WF ∧
      ∀ i, i < a.elems.length → r.elems[i]? = a.elems[a.elems.length - 1 - i]? :=
  ⟨_, a.flip_none_ok hwf, rfl, List.length_reverse.trans hwf, fun _ hi => List.getElem?_reverse hi⟩

/-- **flip without axes, in coordinates**: every coordinate `c[k]` is mirrored to `n_k − 1 − c[k]`
(`flipAll shape c = zipWith (fun d x => d − 1 − x) shape c`) -/
theorem flip_none_at (a : Arr α) (hwf : a.WF) :
    ∃ r, a.flip none = .ok r ∧ r.shape = a.shape ∧ r.WF ∧
      ∀ c, inRange a.shape c = true → r.get? c = a.get? (flipAll a.shape c) :=
  flip_none_spec a hwf

/-- **flip without axes is the flip along all axes** -/
theorem flip_none_eq_all_axes (a : Arr α) (hwf : a.WF) (hpos : ∀ d ∈ a.shape, 0 < d) :
    a.flip none = a.flip (some ((List.range a.ndim).map Int.ofNat)) := by
  refine (flip_none_spec a hwf).eq ((flip_list_spec a _ hwf hpos ?_).congr fun c hc => ?_)
  · intro x hx
    obtain ⟨k, hk, rfl⟩ := List.mem_map.1 hx
    rw [normalizeAxis_ofNat]; exact List.mem_range.1 hk
  · show (((List.range a.ndim).map Int.ofNat).map (normalizeAxis a.ndim)).foldr (flipCoord a.shape) c = _
    rw [map_normalizeAxis_ofNat]; exact foldr_flipCoord_range a.shape c hc

/-- **the multi-axis flip is the composition of the single-axis flips**, in list order -/
theorem flip_cons (a : Arr α) (x : Int) (xs : List Int) (hwf : a.WF) (hpos : ∀ d ∈ a.shape, 0 < d)
    (hk : normalizeAxis a.ndim x < a.ndim) :
    a.flip (some (x :: xs)) = a.flip (some [x]) >>= fun r => r.flip (some xs) := by
  obtain ⟨es, h1, h2, _⟩ := flipAxis_spec (normalizeAxis a.ndim x) a.shape a.elems hpos hwf hk
  have hsingle : a.flip (some [x]) = .ok ⟨es, a.shape⟩ := by
    rw [a.flip_of_valid [x] (List.forall_mem_singleton.2 hk)]
    show (flipAxis (normalizeAxis a.ndim x) a.shape a.elems >>= fun es => Arr.new es a.shape) = _
    rw [h1]
    exact Arr.new_of_prod (h2.trans hwf).symm
  -- both sides test the remaining axes and fold them from the vector the first step has produced
  rw [hsingle, Res.bind_ok, Arr.flip_some_eq, Arr.flip_some_eq, List.map_cons, List.any_cons,
    decide_eq_false (Nat.not_le_of_lt hk), Bool.false_or, List.foldl_cons, Res.bind_ok, h1]
  rfl

theorem flip_nil (a : Arr α) (hwf : a.WF) : a.flip (some []) = .ok a :=
  (a.flip_of_valid [] (fun _ h => nomatch h)).trans (Arr.new_of_prod hwf.symm)

/-- **flipping twice along the same axis restores the array** -/
theorem flip_flip (a : Arr α) (ax : Int) (hwf : a.WF) (hpos : ∀ d ∈ a.shape, 0 < d)
    (hk : normalizeAxis a.ndim ax < a.ndim) :
    (a.flip (some [ax]) >>= fun r => r.flip (some [ax])) = .ok a := by
  have t := (flip_int_at a a.shape rfl ax _ rfl hk hwf hpos).bind
    (fun r hs hw => flip_int_at r a.shape hs ax _ rfl hk hw hpos) (fun c hc => inRange_flipCoord a.shape c _ hc hk)
  exact (t.congr fun c hc => flipCoord_flipCoord a.shape c _ hc hk).eq_ok hwf

/-- **reversing the flat order twice restores the array** -/
theorem flip_none_flip_none (a : Arr α) (hwf : a.WF) : (a.flip none >>= fun r => r.flip none) = .ok a := by
  rw [a.flip_none_ok hwf, Res.bind_ok, Arr.flip_none_ok ⟨a.elems.reverse, a.shape⟩ (List.length_reverse.trans hwf)]
  exact congrArg (fun e => Res.ok (Arr.mk e a.shape)) (List.reverse_reverse a.elems)

/-- **an axis outside the rank is refused with an error** (no panic, no data), wherever it stands in the list -/
theorem flip_rejects (a : Arr α) (axes : List Int) (h : ∃ x ∈ axes, normalizeAxis a.ndim x ≥ a.ndim) :
    a.flip (some axes) = .err .AxisOutOfBounds := by
  obtain ⟨x, hx, hge⟩ := h
  rw [Arr.flip_some_eq]
  exact if_pos (any_ge_true _ (fun x => x) _ ⟨_, List.mem_map_of_mem hx, hge⟩)

/-- **`flipud` flips axis 0** (rank ≥ 1) -/
theorem flipud_at (a : Arr α) (hwf : a.WF) (hpos : ∀ d ∈ a.shape, 0 < d) (hnd : 1 ≤ a.ndim) :
    ∃ r, a.flipud = .ok r ∧ r.shape = a.shape ∧ r.WF ∧
      ∀ c, inRange a.shape c = true → r.get? c = a.get? (c.set 0 (a.shape.getD 0 0 - 1 - c.getD 0 0)) := by
  unfold Arr.flipud
  rw [if_neg (Nat.ne_of_gt hnd)]
  exact flip_int_at a a.shape rfl 0 0 (normalizeAxis_ofNat _ 0) hnd hwf hpos

/-- **`fliplr` flips axis 1** (rank ≥ 2) -/
theorem fliplr_at (a : Arr α) (hwf : a.WF) (hpos : ∀ d ∈ a.shape, 0 < d) (hnd : 2 ≤ a.ndim) :
    ∃ r, a.fliplr = .ok r ∧ r.shape = a.shape ∧ r.WF ∧
      ∀ c, inRange a.shape c = true → r.get? c = a.get? (c.set 1 (a.shape.getD 1 0 - 1 - c.getD 1 0)) := by
  unfold Arr.fliplr
  rw [if_neg (by omega)]
  exact flip_int_at a a.shape rfl 1 1 (normalizeAxis_ofNat _ 1) hnd hwf hpos

/-- **below these ranks `flipud` and `fliplr` refuse** -/
theorem flipud_fliplr_reject (a : Arr α) :
    (a.ndim = 0 → a.flipud = .err .UnsupportedDimension) ∧ (a.ndim < 2 → a.fliplr = .err .UnsupportedDimension) := by
  refine ⟨fun h => ?_, fun h => ?_⟩
  · unfold Arr.flipud; rw [if_pos h]
  · unfold Arr.fliplr; rw [if_pos (by omega)]

/-- **core of roll**: on the flat element vector, `roll_axis(ax, s)` for EVERY integer `s` succeeds, keeps the length,
and the element at coordinate `c` of the result is the input element at `c` with `c[ax] ↦ (c[ax] − s) mod n` -/
theorem rollAxis_at (ax : Nat) (shape : List Nat) (s : Int) (elems : List α)
    (hpos : ∀ d ∈ shape, 0 < d) (hlen : elems.length = shape.prod) (hax : ax < shape.length) :
    ∃ es, rollAxis ax shape s elems = .ok es ∧ es.length = elems.length ∧
      ∀ c, inRange shape c = true →
        es[ravel shape c]? =
          elems[ravel shape (c.set ax ((((c.getD ax 0 : Nat) : Int) - s) % ((shape.getD ax 0 : Nat) : Int)).toNat)]? :=
  rollAxis_spec ax shape s elems hpos hlen hax

/-- **`Vec::rotate_right(s mod len)` as an index map**, every integer `s` -/
theorem rotateRight_at (l : List α) (s : Int) (i : Nat) (hi : i < l.length) :
    (rotateRight l (s % (l.length : Int)).toNat)[i]? = l[(((i : Int) - s) % (l.length : Int)).toNat]? :=
  (rollPerm_permSpec s).get α l i hi

/-- **roll along the flattened order** (no axis given): shape kept; flat position `i` of the result holds the element
that was at flat position `(i − s) mod len` — i.e. the element at `j` moves to `(j + s) mod len` -/
theorem roll_flat (a : Arr α) (s : Int) (hwf : a.WF) :
    ∃ r, a.roll [s] none = .ok r ∧ r.shape = a.shape ∧ r.WF ∧
      ∀ i, i < a.elems.length → r.elems[i]? = a.elems[(((i : Int) - s) % (a.elems.length : Int)).toNat]? := by
  have hl : (rotateRight a.elems (s % (a.elems.length : Int)).toNat).length = a.shape.prod :=
    (rotateRight_length _ _).trans hwf
  exact ⟨_, (a.roll_none s).trans (Arr.new_of_prod hl.symm), rfl, hl, fun i hi => rotateRight_at a.elems s i hi⟩

/-- **roll with a list of shifts paired with a list of axes of the same length** (repeated axes allowed, any spelling):
shape kept, and the element at `c` comes from the coordinate obtained by composing the single-axis maps of the
accumulated (axis, total shift) pairs -/
theorem roll_list_at (a : Arr α) (shift axs : List Int) (hlen : shift.length = axs.length) (hne : shift ≠ [])
    (hwf : a.WF) (hpos : ∀ d ∈ a.shape, 0 < d) (hv : ∀ x ∈ axs, normalizeAxis a.ndim x < a.ndim) :
    ∃ r, a.roll shift (some axs) = .ok r ∧ r.shape = a.shape ∧ r.WF ∧
      ∀ c, inRange a.shape c = true →
        r.get? c = a.get? ((accumShifts (rollPairs a.ndim shift axs)).foldr (fun p c => rollCoord a.shape p.1 p.2 c) c) :=
  roll_of_bc a shift axs _ _ (broadcast_flat_same shift axs hlen hne) (zip_ne_nil shift axs hlen hne) hwf hpos
    (fun _ hp => hv _ (List.of_mem_zip hp).2)

/-- **one shift for several axes**: the shift is applied along every listed axis (a repeated axis receives it repeatedly) -/
theorem roll_one_shift_at (a : Arr α) (s : Int) (axs : List Int) (hn : 2 ≤ axs.length)
    (hwf : a.WF) (hpos : ∀ d ∈ a.shape, 0 < d) (hv : ∀ x ∈ axs, normalizeAxis a.ndim x < a.ndim) :
    ∃ r, a.roll [s] (some axs) = .ok r ∧ r.shape = a.shape ∧ r.WF ∧
      ∀ c, inRange a.shape c = true →
        r.get? c = a.get? ((accumShifts (axs.map (fun x => (normalizeAxis a.ndim x, s)))).foldr
          (fun p c => rollCoord a.shape p.1 p.2 c) c) := by
  have hbc := broadcast_flat_one_left s axs hn
  have hne' : axs.map (fun x => (s, x)) ≠ [] := List.ne_nil_of_length_pos (by rw [List.length_map]; omega)
  obtain ⟨r, h1, h2, h3, h4⟩ := roll_of_bc a [s] axs _ _ hbc hne' hwf hpos (List.forall_mem_map.2 hv)
  refine ⟨r, h1, h2, h3, ?_⟩
  intro c hc
  rw [h4 c hc]
  simp only [pairsOf, List.map_map]
  rfl

/-- **several shifts for one axis**: they add up -/
theorem roll_one_axis_at (a : Arr α) (shift : List Int) (ax : Int) (hn : 2 ≤ shift.length)
    (hwf : a.WF) (hpos : ∀ d ∈ a.shape, 0 < d) (hk : normalizeAxis a.ndim ax < a.ndim) :
    ∃ r, a.roll shift (some [ax]) = .ok r ∧ r.shape = a.shape ∧ r.WF ∧
      ∀ c, inRange a.shape c = true →
        r.get? c = a.get? (rollCoord a.shape (normalizeAxis a.ndim ax) shift.sum c) := by
  have hbc := broadcast_flat_one_right shift ax hn
  have hne' : shift.map (fun s => (s, ax)) ≠ [] := List.ne_nil_of_length_pos (by rw [List.length_map]; omega)
  obtain ⟨r, h1, h2, h3, h4⟩ := roll_of_bc a shift [ax] _ _ hbc hne' hwf hpos (List.forall_mem_map.2 fun _ _ => hk)
  refine ⟨r, h1, h2, h3, fun c hc => ?_⟩
  obtain ⟨x, xs, rfl⟩ := List.exists_cons_of_ne_nil (List.ne_nil_of_length_pos (by omega : 0 < shift.length))
  have e : accumShifts (pairsOf a.ndim ((x :: xs).map (fun s => (s, ax)))) = [(normalizeAxis a.ndim ax, (x :: xs).sum)] := by
    rw [pairsOf, List.map_map]; exact accumShifts_same_axis _ x xs
  rw [h4 c hc, e]; rfl

/-- **roll along one axis** (either spelling) by EVERY integer shift: shape kept; the index along the axis is sent to
`(i − s) mod n` (the element at index `j` moves to `(j + s) mod n`), every other coordinate stays -/
theorem roll_at (a : Arr α) (s ax : Int) (hwf : a.WF) (hpos : ∀ d ∈ a.shape, 0 < d)
    (hk : normalizeAxis a.ndim ax < a.ndim) :
    ∃ r, a.roll [s] (some [ax]) = .ok r ∧ r.shape = a.shape ∧ r.WF ∧
      ∀ c, inRange a.shape c = true →
        r.get? c = a.get? (c.set (normalizeAxis a.ndim ax)
          ((((c.getD (normalizeAxis a.ndim ax) 0 : Nat) : Int) - s) % ((a.shape.getD (normalizeAxis a.ndim ax) 0 : Nat) : Int)).toNat) :=
  roll_int_at a a.shape rfl s ax _ rfl hk hwf hpos

/-- **accumulated shifts**: in the multi-axis roll every source coordinate is `(c[k] − S_k) mod n_k`, where `S_k` is the
SUM of all shifts listed for axis `k` (shifts for a repeated axis add up; axes not listed stay) -/
theorem roll_list_total (a : Arr α) (shift axs : List Int) (hlen : shift.length = axs.length) (hne : shift ≠ [])
    (hwf : a.WF) (hpos : ∀ d ∈ a.shape, 0 < d) (hv : ∀ x ∈ axs, normalizeAxis a.ndim x < a.ndim) :
    ∃ r, a.roll shift (some axs) = .ok r ∧ r.shape = a.shape ∧
      ∀ c, inRange a.shape c = true → ∃ c', inRange a.shape c' = true ∧ r.get? c = a.get? c' ∧
        ∀ k, k < a.ndim →
          c'.getD k 0 = ((((c.getD k 0 : Nat) : Int) - totalShift (rollPairs a.ndim shift axs) k) % ((a.shape.getD k 0 : Nat) : Int)).toNat :=
  roll_total_of_bc a shift axs _ _ (broadcast_flat_same shift axs hlen hne) (zip_ne_nil shift axs hlen hne) hwf hpos
    (fun _ hp => hv _ (List.of_mem_zip hp).2)

/-- **rolling by `s` and then by `−s` along the same axis restores the array** -/
theorem roll_roll_neg (a : Arr α) (s ax : Int) (hwf : a.WF) (hpos : ∀ d ∈ a.shape, 0 < d)
    (hk : normalizeAxis a.ndim ax < a.ndim) :
    (a.roll [s] (some [ax]) >>= fun r => r.roll [-s] (some [ax])) = .ok a := by
  have t := (roll_int_at a a.shape rfl s ax _ rfl hk hwf hpos).bind
    (fun r hs hw => roll_int_at r a.shape hs (-s) ax _ rfl hk hw hpos)
    (fun c hc => inRange_rollCoord a.shape c _ (-s) hc hk)
  refine (t.congr fun c hc => ?_).eq_ok hwf
  have hd : 0 < a.shape.getD (normalizeAxis a.ndim ax) 0 := Nat.zero_lt_of_lt (inRange_getD_lt a.shape c _ hc hk)
  show rollCoord a.shape (normalizeAxis a.ndim ax) s (rollCoord a.shape (normalizeAxis a.ndim ax) (-s) c) = c
  rw [rollCoord_rollCoord a.shape c _ s (-s) (inRange_length _ _ hc ▸ hk) hd, Int.add_right_neg, rollCoord_zero a.shape c _ hc hk]

/-- **rolling the flat order by `s` and then by `−s` restores the array** -/
theorem roll_flat_roll_neg (a : Arr α) (s : Int) (hwf : a.WF) :
    (a.roll [s] none >>= fun r => r.roll [-s] none) = .ok a := by
  have hl := (rotateRight_length a.elems (s % (a.elems.length : Int)).toNat).trans hwf
  rw [a.roll_none s, Arr.new_of_prod hl.symm, Res.bind_ok, Arr.roll_none,
    Arr.new_of_prod (((rotateRight_length _ _).trans hl).symm)]
  exact congrArg (fun e => Res.ok (Arr.mk e a.shape)) (rollPerm_neg_rollPerm s a.elems)

/-- **axes outside the rank are refused with an error** -/
theorem roll_rejects (a : Arr α) (s ax : Int) (h : normalizeAxis a.ndim ax ≥ a.ndim) :
    a.roll [s] (some [ax]) = .err .AxisOutOfBounds :=
  roll_rejects_of_bc a [s] [ax] _ _ (broadcast_flat_same [s] [ax] rfl (List.cons_ne_nil _ _)) ⟨(s, ax), List.mem_singleton.2 rfl, h⟩

/-! ### rot90

`Arr.turn a zero i j` (Lemmas/C12Rot.lean) is ONE quarter turn in the plane of axes `(i, j)`: flip axis `j`, then exchange
axes `i` and `j`; `Arr.turns a zero i j n` is `n` successive turns.  Valid axes: rank ≥ 2 and `−ndim ≤ a0, a1 < ndim`
(the two axes may even coincide). -/

/-- **the turn count only matters modulo 4** (every input, valid or not) -/
theorem rot90_add_four (a : Arr α) (zero : α) (k : Nat) (axes : List Int) :
    a.rot90 zero (k + 4) axes = a.rot90 zero k axes := by
  unfold Arr.rot90; simp only [Nat.add_mod_right]

/-- **zero turns (mod 4) return the array** -/
theorem rot90_zero (a : Arr α) (zero : α) (k : Nat) (a0 a1 : Int) (hnd : 2 ≤ a.ndim)
    (h0 : -(a.ndim : Int) ≤ a0 ∧ a0 < a.ndim) (h1 : -(a.ndim : Int) ≤ a1 ∧ a1 < a.ndim) (hk : k % 4 = 0) :
    a.rot90 zero k [a0, a1] = .ok a := by
  rw [rot90_unfold a zero k a0 a1 hnd h0 h1, hk]; rfl

/-- **one quarter turn is: flip the second axis, then exchange the two axes** (`swapaxes`) -/
theorem rot90_one (a : Arr α) (zero : α) (k : Nat) (a0 a1 : Int) (hnd : 2 ≤ a.ndim)
    (h0 : -(a.ndim : Int) ≤ a0 ∧ a0 < a.ndim) (h1 : -(a.ndim : Int) ≤ a1 ∧ a1 < a.ndim) (hk : k % 4 = 1) :
    a.rot90 zero k [a0, a1] = a.flip (some [a1]) >>= fun r => r.swapaxes zero a0 a1 := by
  rw [rot90_k1 a zero k a0 a1 hnd h0 h1 hk]
  exact turn_eq_flip_swapaxes a zero a0 a1 (normalizeAxis_lt _ _ h0.1 h0.2) (normalizeAxis_lt _ _ h1.1 h1.2)

theorem turn_def (a : Arr α) (zero : α) (a0 a1 : Int)
    (hi : normalizeAxis a.ndim a0 < a.ndim) (hj : normalizeAxis a.ndim a1 < a.ndim) :
    a.turn zero (normalizeAxis a.ndim a0) (normalizeAxis a.ndim a1)
      = a.flip (some [a1]) >>= fun r => r.swapaxes zero a0 a1 :=
  turn_eq_flip_swapaxes a zero a0 a1 hi hj

/-- **rotating by `k` quarter turns equals `k` successive single turns** — every `k`, every rank ≥ 2, every valid ordered
axis pair in either spelling.  (`k mod 4 = 2` is computed by the code as two flips and `k mod 4 = 3` as exchange-then-flip;
both are proved equal to 2 resp. 3 successive turns through their coordinate maps, and 4 turns are the identity.) -/
theorem rot90_eq_turns (a : Arr α) (zero : α) (k : Nat) (a0 a1 : Int) (hwf : a.WF) (hpos : ∀ d ∈ a.shape, 0 < d)
    (hnd : 2 ≤ a.ndim) (h0 : -(a.ndim : Int) ≤ a0 ∧ a0 < a.ndim) (h1 : -(a.ndim : Int) ≤ a1 ∧ a1 < a.ndim) :
    a.rot90 zero k [a0, a1] = a.turns zero (normalizeAxis a.ndim a0) (normalizeAxis a.ndim a1) k := by
  have hi := normalizeAxis_lt _ _ h0.1 h0.2
  have hj := normalizeAxis_lt _ _ h1.1 h1.2
  rw [turns_mod a zero _ _ hwf hpos hi hj k]
  rcases mod_four_cases k with h | h | h | h
  · rw [h, rot90_zero a zero k a0 a1 hnd h0 h1 h]; rfl
  · rw [h, rot90_k1 a zero k a0 a1 hnd h0 h1 h]; rfl
  · rw [h, rot90_k2 a zero k a0 a1 hnd h0 h1 h]
    exact (rot2_at a a0 a1 _ _ hwf hpos rfl rfl hi hj).eq (turns2_at a a.shape rfl zero a.ndim _ _ rfl hwf hpos hi hj)
  · rw [h, rot90_k3 a zero k a0 a1 hnd h0 h1 h]
    exact (rot3_at a zero _ _ hwf hpos hi hj).eq (turns3_at a a.shape rfl zero a.ndim _ _ rfl hwf hpos hi hj)

/-- **coordinates of one, two and three turns**; `i`, `j` the normalised axes, `sw` the exchange of entries `i` and `j`
of a coordinate vector (`permute (swapOrder ndim i j)`):
one turn: shape exchanged, `r[c] = a[flip_j (sw c)]`; two turns: shape kept, both axes flipped; three turns: shape exchanged,
`r[c] = a[flip_i (sw c)]` -/
theorem rot90_at (a : Arr α) (zero : α) (k : Nat) (a0 a1 : Int) (hwf : a.WF) (hpos : ∀ d ∈ a.shape, 0 < d)
    (hnd : 2 ≤ a.ndim) (h0 : -(a.ndim : Int) ≤ a0 ∧ a0 < a.ndim) (h1 : -(a.ndim : Int) ≤ a1 ∧ a1 < a.ndim) :
    ∃ r, a.rot90 zero k [a0, a1] = .ok r ∧ r.WF ∧
      r.shape = (if k % 2 = 0 then a.shape
                 else permute (swapOrder a.ndim (normalizeAxis a.ndim a0) (normalizeAxis a.ndim a1)) a.shape) ∧
      ∀ c, inRange r.shape c = true →
        r.get? c = a.get?
          (if k % 4 = 0 then c
           else if k % 4 = 1 then
             flipCoord a.shape (normalizeAxis a.ndim a1)
               (permute (swapOrder a.ndim (normalizeAxis a.ndim a0) (normalizeAxis a.ndim a1)) c)
           else if k % 4 = 2 then
             flipCoord a.shape (normalizeAxis a.ndim a1) (flipCoord a.shape (normalizeAxis a.ndim a0) c)
           else
             flipCoord a.shape (normalizeAxis a.ndim a0)
               (permute (swapOrder a.ndim (normalizeAxis a.ndim a0) (normalizeAxis a.ndim a1)) c)) := by
  have hi := normalizeAxis_lt _ _ h0.1 h0.2
  have hj := normalizeAxis_lt _ _ h1.1 h1.2
  have h2 : k % 2 = k % 4 % 2 := (Nat.mod_mod_of_dvd k (by decide : 2 ∣ 4)).symm
  rw [h2]
  rcases mod_four_cases k with h | h | h | h
  · rw [rot90_zero a zero k a0 a1 hnd h0 h1 h, h]
    exact ⟨a, rfl, hwf, rfl, fun c _ => rfl⟩
  · rw [rot90_k1 a zero k a0 a1 hnd h0 h1 h, h]
    obtain ⟨r, p1, p2, p3, p4⟩ := turn_at a a.shape rfl zero a.ndim _ _ rfl hwf hpos hi hj
    exact ⟨r, p1, p3, p2, fun c hc => p4 c (p2 ▸ hc)⟩
  · rw [rot90_k2 a zero k a0 a1 hnd h0 h1 h, h]
    obtain ⟨r, p1, p2, p3, p4⟩ := rot2_at a a0 a1 _ _ hwf hpos rfl rfl hi hj
    exact ⟨r, p1, p3, p2, fun c hc => p4 c (p2 ▸ hc)⟩
  · rw [rot90_k3 a zero k a0 a1 hnd h0 h1 h, h]
    obtain ⟨r, p1, p2, p3, p4⟩ := rot3_at a zero _ _ hwf hpos hi hj
    exact ⟨r, p1, p3, p2, fun c hc => p4 c (p2 ▸ hc)⟩

/-- **shape under rotation**: kept for even `k`; for odd `k` the lengths of the two axes are exchanged and every other
axis keeps its length -/
theorem rot90_shape (a : Arr α) (zero : α) (k : Nat) (a0 a1 : Int) (hwf : a.WF) (hpos : ∀ d ∈ a.shape, 0 < d)
    (hnd : 2 ≤ a.ndim) (h0 : -(a.ndim : Int) ≤ a0 ∧ a0 < a.ndim) (h1 : -(a.ndim : Int) ≤ a1 ∧ a1 < a.ndim) :
    ∃ r, a.rot90 zero k [a0, a1] = .ok r ∧ r.ndim = a.ndim ∧
      (k % 2 = 0 → r.shape = a.shape) ∧
      (k % 2 = 1 → ∀ m, m < a.ndim →
        r.shape.getD m 0 = a.shape.getD (if m = normalizeAxis a.ndim a0 then normalizeAxis a.ndim a1
                                          else if m = normalizeAxis a.ndim a1 then normalizeAxis a.ndim a0 else m) 0) := by
  obtain ⟨r, p1, _, p3, _⟩ := rot90_at a zero k a0 a1 hwf hpos hnd h0 h1
  refine ⟨r, p1, ?_, ?_, ?_⟩
  · rw [Arr.ndim, p3]; split
    · rfl
    · exact permute_swap_length _ _ _ _
  · intro h; rw [p3, if_pos h]
  · intro h m hm
    rw [p3, if_neg (by omega), permute_swap_getD _ _ _ _ _ hm]; rfl

/-- **rotations compose additively**: `k` turns followed by `m` turns are `k + m` turns -/
theorem rot90_add (a : Arr α) (zero : α) (k m : Nat) (a0 a1 : Int) (hwf : a.WF) (hpos : ∀ d ∈ a.shape, 0 < d)
    (hnd : 2 ≤ a.ndim) (h0 : -(a.ndim : Int) ≤ a0 ∧ a0 < a.ndim) (h1 : -(a.ndim : Int) ≤ a1 ∧ a1 < a.ndim) :
    (a.rot90 zero k [a0, a1] >>= fun r => r.rot90 zero m [a0, a1]) = a.rot90 zero (k + m) [a0, a1] := by
  have hi := normalizeAxis_lt _ _ h0.1 h0.2
  have hj := normalizeAxis_lt _ _ h1.1 h1.2
  rw [rot90_eq_turns a zero k a0 a1 hwf hpos hnd h0 h1, rot90_eq_turns a zero (k + m) a0 a1 hwf hpos hnd h0 h1, turns_add]
  obtain ⟨r, q1, q2, q3, q4⟩ := turns_ok a zero _ _ hwf hpos hi hj k
  rw [q1, Res.bind_ok, Res.bind_ok]
  rw [rot90_eq_turns r zero m a0 a1 q2 q3 (by omega) (by rw [q4]; exact h0) (by rw [q4]; exact h1), q4]

/-- **four successive quarter turns restore the array** -/
theorem rot90_four_turns (a : Arr α) (zero : α) (a0 a1 : Int) (hwf : a.WF) (hpos : ∀ d ∈ a.shape, 0 < d)
    (hnd : 2 ≤ a.ndim) (h0 : -(a.ndim : Int) ≤ a0 ∧ a0 < a.ndim) (h1 : -(a.ndim : Int) ≤ a1 ∧ a1 < a.ndim) :
    (((a.rot90 zero 1 [a0, a1] >>= fun r => r.rot90 zero 1 [a0, a1]) >>= fun r => r.rot90 zero 1 [a0, a1])
      >>= fun r => r.rot90 zero 1 [a0, a1]) = .ok a := by
  rw [rot90_add a zero 1 1 a0 a1 hwf hpos hnd h0 h1, rot90_add a zero (1 + 1) 1 a0 a1 hwf hpos hnd h0 h1,
    rot90_add a zero (1 + 1 + 1) 1 a0 a1 hwf hpos hnd h0 h1]
  exact rot90_zero a zero _ a0 a1 hnd h0 h1 rfl

/-- **a rotation followed by the complementary rotation restores the array** -/
theorem rot90_inverse (a : Arr α) (zero : α) (k : Nat) (a0 a1 : Int) (hwf : a.WF) (hpos : ∀ d ∈ a.shape, 0 < d)
    (hnd : 2 ≤ a.ndim) (h0 : -(a.ndim : Int) ≤ a0 ∧ a0 < a.ndim) (h1 : -(a.ndim : Int) ≤ a1 ∧ a1 < a.ndim) :
    (a.rot90 zero k [a0, a1] >>= fun r => r.rot90 zero (4 - k % 4) [a0, a1]) = .ok a := by
  rw [rot90_add a zero k _ a0 a1 hwf hpos hnd h0 h1]
  refine rot90_zero a zero _ a0 a1 hnd h0 h1 ?_
  rw [Nat.add_mod]
  rcases mod_four_cases k with h | h | h | h <;> rw [h]

/-! ### non-vacuity -/

example : (⟨List.range 24, [2, 3, 4]⟩ : Arr Nat).WF := by decide
example : ∀ d ∈ (⟨List.range 24, [2, 3, 4]⟩ : Arr Nat).shape, 0 < d := by decide
/-- the inner-axis arm (axis 1 of `[2,3,4]`) -/
example : (⟨List.range 24, [2, 3, 4]⟩ : Arr Nat).flip (some [1]) =
    .ok ⟨[8, 9, 10, 11, 4, 5, 6, 7, 0, 1, 2, 3, 20, 21, 22, 23, 16, 17, 18, 19, 12, 13, 14, 15], [2, 3, 4]⟩ := by decide
example : (⟨List.range 9, [1, 3, 3]⟩ : Arr Nat).flip (some [-2]) = .ok ⟨[6, 7, 8, 3, 4, 5, 0, 1, 2], [1, 3, 3]⟩ := by decide
/-- a shift larger than the axis (7 on length 3) -/
example : (⟨[10, 11, 12], [3]⟩ : Arr Nat).roll [7] (some [0]) = .ok ⟨[12, 10, 11], [3]⟩ := by decide
example : (⟨[10, 11, 12], [3]⟩ : Arr Nat).roll [-7] none = .ok ⟨[11, 12, 10], [3]⟩ := by decide
example : (⟨List.range 6, [2, 3]⟩ : Arr Nat).roll [7] (some [1]) = .ok ⟨[2, 0, 1, 5, 3, 4], [2, 3]⟩ := by decide
example : (⟨List.range 6, [2, 3]⟩ : Arr Nat).roll [1, 1] (some [1, -1]) = .ok ⟨[1, 2, 0, 4, 5, 3], [2, 3]⟩ := by decide
example : accumShifts [(1, 1), (0, 5), (1, 1)] = [(0, 5), (1, 2)] := by decide
example : (⟨List.range 6, [2, 3]⟩ : Arr Nat).roll [1] (some [0, 1]) = .ok ⟨[5, 3, 4, 2, 0, 1], [2, 3]⟩ := by decide
example : (⟨List.range 6, [2, 3]⟩ : Arr Nat).roll [1, 2] (some [1]) = .ok ⟨[0, 1, 2, 3, 4, 5], [2, 3]⟩ := by decide
example : (⟨List.range 6, [2, 3]⟩ : Arr Nat).flip none = (⟨List.range 6, [2, 3]⟩ : Arr Nat).flip (some [0, 1]) := by decide
example : (⟨List.range 6, [2, 3]⟩ : Arr Nat).rot90 0 1 [0, 1] = .ok ⟨[2, 5, 1, 4, 0, 3], [3, 2]⟩ := by decide
example : (⟨List.range 6, [2, 3]⟩ : Arr Nat).rot90 0 7 [0, -1] = .ok ⟨[3, 0, 4, 1, 5, 2], [3, 2]⟩ := by decide
example : (2 : Nat) ≤ (⟨List.range 6, [2, 3]⟩ : Arr Nat).ndim ∧ (-(2 : Int) ≤ -1 ∧ (-1 : Int) < 2) := by decide
example : (⟨List.range 6, [2, 3]⟩ : Arr Nat).flip (some [2]) = .err .AxisOutOfBounds := by decide

/-! ### arrays with a zero-length axis, and the total statements (proofs in `Lemmas/C12Empty.lean`)

The coordinate theorems above assume that no axis has length 0.  What follows says what the MODEL does on every well-formed
array that HAS a zero-length axis (such an array has no elements), for every rank and every axis, and closes with
statements about EVERY well-formed array.  The code still CUTS the empty element vector: the first-axis arm into `shape[0]`
blocks, the last-axis arm into `prod shape[..ax]` rows, the inner-axis arm into `shape[0]` blocks with recursion; a cut
into 0 parts is refused (`ParameterError`), a cut of the empty vector into `p > 0` parts gives the single empty piece.
`cutAxes ax shape` (`Lemmas/C12Empty.lean`) = the axes the code cuts along for axis `ax`: `shape[0..ax]`, except that the
last axis of an array of rank ≥ 2 needs `shape[0..ax−1]` only.  Outcome: `Err(ParameterError)` when one of these has length
0, otherwise the array unchanged.  (So the operation is NOT total on empty arrays: `[0,3]` cannot be flipped along any
axis, `[2,0]` along both.)  That the real crate does the same is established by the zero-length stream of the tie. -/

/-- **core, empty vector**: `flip_axis` / `roll_axis` on the empty element vector of a shape with a zero-length axis -/
theorem flipAxis_rollAxis_empty (ax : Nat) (shape : List Nat) (s : Int) (h0 : 0 ∈ shape) (hax : ax < shape.length) :
    flipAxis ax shape ([] : List α) = (if 0 ∈ cutAxes ax shape then .err .ParameterError else .ok []) ∧
    rollAxis ax shape s ([] : List α) = (if 0 ∈ cutAxes ax shape then .err .ParameterError else .ok []) :=
  ⟨flipAxis_nil ax shape (prod_eq_zero_of_mem _ h0) hax, rollAxis_nil ax shape s (prod_eq_zero_of_mem _ h0) hax⟩

/-- the axes cut along are among `shape[0..ax]` -/
theorem cutAxes_subset (ax : Nat) (shape : List Nat) : ∀ d ∈ cutAxes ax shape, d ∈ shape.take (ax + 1) := by
  intro d hd
  unfold cutAxes at hd
  split at hd
  · have : shape.take ax = (shape.take (ax + 1)).take ax := by rw [List.take_take]; congr 1; omega
    rw [this] at hd; exact List.mem_of_mem_take hd
  · exact hd

/-- **flip of an empty array along a list of valid axes** (any spelling, repetitions allowed) -/
theorem flip_list_empty (a : Arr α) (axes : List Int) (hwf : a.WF) (h0 : 0 ∈ a.shape)
    (hv : ∀ x ∈ axes, normalizeAxis a.ndim x < a.ndim) :
    a.flip (some axes) =
      if axes.any (fun x => decide (0 ∈ cutAxes (normalizeAxis a.ndim x) a.shape)) then .err .ParameterError else .ok a :=
  flip_empty a axes hwf h0 hv

/-- **flip of an empty array along one axis** -/
theorem flip_axis_empty (a : Arr α) (ax : Int) (hwf : a.WF) (h0 : 0 ∈ a.shape) (hk : normalizeAxis a.ndim ax < a.ndim) :
    a.flip (some [ax]) = if 0 ∈ cutAxes (normalizeAxis a.ndim ax) a.shape then .err .ParameterError else .ok a :=
  flip_one_empty a ax hwf h0 hk

/-- **flip without axes, `flipud`, `fliplr` on an empty array** -/
theorem flip_none_ud_lr_empty (a : Arr α) (hwf : a.WF) (h0 : 0 ∈ a.shape) :
    a.flip none = .ok a ∧
    (1 ≤ a.ndim → a.flipud = if 0 ∈ cutAxes 0 a.shape then .err .ParameterError else .ok a) ∧
    (2 ≤ a.ndim → a.fliplr = if 0 ∈ cutAxes 1 a.shape then .err .ParameterError else .ok a) := by
  refine ⟨flip_none_empty a hwf h0, fun h => ?_, fun h => ?_⟩
  · unfold Arr.flipud
    rw [if_neg (Nat.ne_of_gt h)]
    exact flip_nat_empty a 0 hwf h0 h
  · unfold Arr.fliplr
    rw [if_neg (by omega)]
    exact flip_nat_empty a 1 hwf h0 h

/-- **flip is total up to the refusal on empty arrays**: EVERY well-formed array, every list of valid axes: the call
succeeds with the shape kept, or — only possible when the array has a zero-length axis — answers `Err(ParameterError)` -/
theorem flip_total (a : Arr α) (axes : List Int) (hwf : a.WF) (hv : ∀ x ∈ axes, normalizeAxis a.ndim x < a.ndim) :
    (∃ r, a.flip (some axes) = .ok r ∧ r.shape = a.shape ∧ r.WF) ∨
    (0 ∈ a.shape ∧ a.flip (some axes) = .err .ParameterError) := by
  by_cases h0 : 0 ∈ a.shape
  · rw [flip_empty a axes hwf h0 hv]; split
    · exact Or.inr ⟨h0, rfl⟩
    · exact Or.inl ⟨a, rfl, rfl, hwf⟩
  · have hpos : ∀ d ∈ a.shape, 0 < d := fun d hd => Nat.pos_of_ne_zero (fun e => h0 (e ▸ hd))
    obtain ⟨r, h1, h2, h3, _⟩ := flip_list_spec a axes hwf hpos hv
    exact Or.inl ⟨r, h1, h2, h3⟩

/-- **flip never panics**: every well-formed array, every axes argument (none, valid, invalid, any spelling) -/
theorem flip_never_panics (a : Arr α) (axes : Option (List Int)) (hwf : a.WF) : a.flip axes ≠ .panic := by
  cases axes with
  | none => obtain ⟨r, h, _⟩ := flip_none a hwf; rw [h]; exact fun h => nomatch h
  | some axes =>
    by_cases hv : ∀ x ∈ axes, normalizeAxis a.ndim x < a.ndim
    · rcases flip_total a axes hwf hv with ⟨r, h, _⟩ | ⟨_, h⟩ <;> rw [h] <;> exact fun h => nomatch h
    · rw [flip_rejects a axes (exists_ge_of_not_forall_lt hv)]; exact fun h => nomatch h

/-- **roll of an empty array along one axis**: rank 1 — unchanged (the rank-1 arm rotates the vector itself, no cut);
rank ≥ 2 — refused when the code cuts along a zero-length axis, otherwise unchanged -/
theorem roll_axis_empty (a : Arr α) (s ax : Int) (hwf : a.WF) (h0 : 0 ∈ a.shape) (hk : normalizeAxis a.ndim ax < a.ndim) :
    a.roll [s] (some [ax]) =
      if 2 ≤ a.ndim ∧ 0 ∈ cutAxes (normalizeAxis a.ndim ax) a.shape then .err .ParameterError else .ok a := by
  have hbc := broadcast_flat_same [s] [ax] rfl (List.cons_ne_nil _ _)
  rw [roll_empty_of_bc a [s] [ax] _ _ hbc hwf h0 (List.forall_mem_singleton.2 hk)]
  simp only [pairsOf, List.zip_cons_cons, List.zip_nil_right, List.map_cons, List.map_nil, accumShifts, List.find?_nil,
    List.any_cons, List.any_nil, Bool.or_false, decide_eq_true_eq]

/-- **roll of an empty array with equally long shift / axis lists** (repeated axes allowed) -/
theorem roll_list_empty (a : Arr α) (shift axs : List Int) (hlen : shift.length = axs.length) (hne : shift ≠ [])
    (hwf : a.WF) (h0 : 0 ∈ a.shape) (hv : ∀ x ∈ axs, normalizeAxis a.ndim x < a.ndim) :
    a.roll shift (some axs) =
      if 2 ≤ a.ndim ∧ (accumShifts (rollPairs a.ndim shift axs)).any (fun p => decide (0 ∈ cutAxes p.1 a.shape)) = true
      then .err .ParameterError else .ok a :=
  roll_empty_of_bc a shift axs _ _ (broadcast_flat_same shift axs hlen hne) hwf h0
    (fun _ hp => hv _ (List.of_mem_zip hp).2)

/-- **roll along the flattened order on an empty array**: unchanged -/
theorem roll_flat_of_empty (a : Arr α) (s : Int) (hwf : a.WF) (h0 : 0 ∈ a.shape) : a.roll [s] none = .ok a :=
  roll_flat_empty a s hwf h0

/-- **roll is total up to the refusal on empty arrays**: EVERY well-formed array, equally long shift / axis lists of valid
axes (in particular one shift and one axis), every integer shift: success with the shape kept, or — only when the array has
a zero-length axis — `Err(ParameterError)`; the no-axis form always succeeds (`roll_flat`) -/
theorem roll_total (a : Arr α) (shift axs : List Int) (hlen : shift.length = axs.length) (hne : shift ≠ [])
    (hwf : a.WF) (hv : ∀ x ∈ axs, normalizeAxis a.ndim x < a.ndim) :
    (∃ r, a.roll shift (some axs) = .ok r ∧ r.shape = a.shape ∧ r.WF) ∨
    (0 ∈ a.shape ∧ a.roll shift (some axs) = .err .ParameterError) := by
  by_cases h0 : 0 ∈ a.shape
  · rw [roll_list_empty a shift axs hlen hne hwf h0 hv]; split
    · exact Or.inr ⟨h0, rfl⟩
    · exact Or.inl ⟨a, rfl, rfl, hwf⟩
  · have hpos : ∀ d ∈ a.shape, 0 < d := fun d hd => Nat.pos_of_ne_zero (fun e => h0 (e ▸ hd))
    obtain ⟨r, h1, h2, h3, _⟩ := roll_list_at a shift axs hlen hne hwf hpos hv
    exact Or.inl ⟨r, h1, h2, h3⟩

/-- **roll with one shift never panics**: every well-formed array, every axis argument (none, valid, invalid) -/
theorem roll_never_panics (a : Arr α) (s : Int) (ax : Option Int) (hwf : a.WF) :
    a.roll [s] (ax.map (fun x => [x])) ≠ .panic := by
  cases ax with
  | none => obtain ⟨r, h, _⟩ := roll_flat a s hwf; simp only [Option.map_none, h]; exact fun h => nomatch h
  | some ax =>
    simp only [Option.map_some]
    by_cases hk : normalizeAxis a.ndim ax < a.ndim
    · rcases roll_total a [s] [ax] rfl (List.cons_ne_nil _ _) hwf (List.forall_mem_singleton.2 hk) with ⟨r, h, _⟩ | ⟨_, h⟩ <;>
        rw [h] <;> exact fun h => nomatch h
    · rw [roll_rejects a s ax (by omega)]; exact fun h => nomatch h

/-- **roll with equally long lists refuses an axis outside the rank**, wherever it stands in the list (every array) -/
theorem roll_list_rejects_axis (a : Arr α) (shift axs : List Int) (hlen : shift.length = axs.length) (hne : shift ≠ [])
    (h : ∃ x ∈ axs, normalizeAxis a.ndim x ≥ a.ndim) : a.roll shift (some axs) = .err .AxisOutOfBounds :=
  roll_list_rejects a shift axs hlen hne h

/-- **roll with equally long shift / axis lists never panics**: every well-formed array, every axes (valid or not,
repeated or not), every integer shift -/
theorem roll_list_never_panics (a : Arr α) (shift axs : List Int) (hlen : shift.length = axs.length) (hne : shift ≠ [])
    (hwf : a.WF) : a.roll shift (some axs) ≠ .panic := by
  by_cases hv : ∀ x ∈ axs, normalizeAxis a.ndim x < a.ndim
  · rcases roll_total a shift axs hlen hne hwf hv with ⟨r, h, _⟩ | ⟨_, h⟩ <;> rw [h] <;> exact fun h => nomatch h
  · rw [roll_list_rejects a shift axs hlen hne (exists_ge_of_not_forall_lt hv)]; exact fun h => nomatch h

/-- **rot90 of an empty array** (rank ≥ 2, valid axes), arm by arm: `k ≡ 0`: unchanged; `k ≡ 2`: the two flips; `k ≡ 1`:
the flip of the second axis, then the exchanged (empty) shape; `k ≡ 3`: the exchange, then the flip on the exchanged shape -/
theorem rot90_empty (a : Arr α) (zero : α) (k : Nat) (a0 a1 : Int) (hwf : a.WF) (hz : 0 ∈ a.shape)
    (hnd : 2 ≤ a.ndim) (h0 : -(a.ndim : Int) ≤ a0 ∧ a0 < a.ndim) (h1 : -(a.ndim : Int) ≤ a1 ∧ a1 < a.ndim) :
    a.rot90 zero k [a0, a1] =
      if k % 4 = 0 then .ok a
      else if k % 4 = 2 then
        (if 0 ∈ cutAxes (normalizeAxis a.ndim a1) a.shape ∨ 0 ∈ cutAxes (normalizeAxis a.ndim a0) a.shape
         then .err .ParameterError else .ok a)
      else if k % 4 = 1 then
        (if 0 ∈ cutAxes (normalizeAxis a.ndim a1) a.shape then .err .ParameterError
         else .ok ⟨[], permute (swapOrder a.ndim (normalizeAxis a.ndim a0) (normalizeAxis a.ndim a1)) a.shape⟩)
      else
        (if 0 ∈ cutAxes (normalizeAxis a.ndim a1)
              (permute (swapOrder a.ndim (normalizeAxis a.ndim a0) (normalizeAxis a.ndim a1)) a.shape)
         then .err .ParameterError
         else .ok ⟨[], permute (swapOrder a.ndim (normalizeAxis a.ndim a0) (normalizeAxis a.ndim a1)) a.shape⟩) := by
  have hi := normalizeAxis_lt _ _ h0.1 h0.2
  have hj := normalizeAxis_lt _ _ h1.1 h1.2
  rcases mod_four_cases k with h | h | h | h
  · rw [rot90_zero a zero k a0 a1 hnd h0 h1 h, if_pos h]
  · rw [rot90_k1 a zero k a0 a1 hnd h0 h1 h, turn_empty a zero _ _ hwf hz hi hj,
      if_neg (show ¬ k % 4 = 0 by rw [h]; decide), if_neg (show ¬ k % 4 = 2 by rw [h]; decide), if_pos h]
  · rw [rot90_k2 a zero k a0 a1 hnd h0 h1 h, rot2_empty a a0 a1 hwf hz hi hj,
      if_neg (show ¬ k % 4 = 0 by rw [h]; decide), if_pos h]
  · rw [rot90_k3 a zero k a0 a1 hnd h0 h1 h, rot3_empty a zero _ _ hwf hz hi hj,
      if_neg (show ¬ k % 4 = 0 by rw [h]; decide), if_neg (show ¬ k % 4 = 2 by rw [h]; decide),
      if_neg (show ¬ k % 4 = 1 by rw [h]; decide)]

/-- **rot90 is total up to the refusal on empty arrays**: EVERY well-formed array of rank ≥ 2, every `k`, every valid ordered
axis pair: success with a well-formed result whose shape is kept (even `k`) or has the two axis lengths exchanged (odd `k`),
or — only when the array has a zero-length axis — `Err(ParameterError)` -/
theorem rot90_total (a : Arr α) (zero : α) (k : Nat) (a0 a1 : Int) (hwf : a.WF)
    (hnd : 2 ≤ a.ndim) (h0 : -(a.ndim : Int) ≤ a0 ∧ a0 < a.ndim) (h1 : -(a.ndim : Int) ≤ a1 ∧ a1 < a.ndim) :
    (∃ r, a.rot90 zero k [a0, a1] = .ok r ∧ r.WF ∧
      r.shape = (if k % 2 = 0 then a.shape
                 else permute (swapOrder a.ndim (normalizeAxis a.ndim a0) (normalizeAxis a.ndim a1)) a.shape)) ∨
    (0 ∈ a.shape ∧ a.rot90 zero k [a0, a1] = .err .ParameterError) := by
  by_cases hz : 0 ∈ a.shape
  · have hi := normalizeAxis_lt _ _ h0.1 h0.2
    have hj := normalizeAxis_lt _ _ h1.1 h1.2
    have hTwf := wf_nil_of_zero_mem (α := α) _ (swap_empty a zero _ _ hwf hz hi hj).2
    have e2 : k % 2 = k % 4 % 2 := (Nat.mod_mod_of_dvd k (by decide : 2 ∣ 4)).symm
    rcases mod_four_cases k with h | h | h | h
    · rw [rot90_zero a zero k a0 a1 hnd h0 h1 h, if_pos (show k % 2 = 0 by rw [e2, h])]
      exact Or.inl ⟨a, rfl, hwf, rfl⟩
    · rw [rot90_k1 a zero k a0 a1 hnd h0 h1 h, turn_empty a zero _ _ hwf hz hi hj, if_neg (show ¬ k % 2 = 0 by rw [e2, h]; decide)]
      split
      · exact Or.inr ⟨hz, rfl⟩
      · exact Or.inl ⟨_, rfl, hTwf, rfl⟩
    · rw [rot90_k2 a zero k a0 a1 hnd h0 h1 h, rot2_empty a a0 a1 hwf hz hi hj, if_pos (show k % 2 = 0 by rw [e2, h])]
      split
      · exact Or.inr ⟨hz, rfl⟩
      · exact Or.inl ⟨a, rfl, hwf, rfl⟩
    · rw [rot90_k3 a zero k a0 a1 hnd h0 h1 h, rot3_empty a zero _ _ hwf hz hi hj, if_neg (show ¬ k % 2 = 0 by rw [e2, h]; decide)]
      split
      · exact Or.inr ⟨hz, rfl⟩
      · exact Or.inl ⟨_, rfl, hTwf, rfl⟩
  · have hpos : ∀ d ∈ a.shape, 0 < d := fun d hd => Nat.pos_of_ne_zero (fun e => hz (e ▸ hd))
    obtain ⟨r, p1, p2, p3, _⟩ := rot90_at a zero k a0 a1 hwf hpos hnd h0 h1
    exact Or.inl ⟨r, p1, p2, p3⟩

/-- **rot90 never panics**: every well-formed array (any rank, zero-length axes or not), every `k`, every axes list
(a pair or not, in range or not) -/
theorem rot90_never_panics (a : Arr α) (zero : α) (k : Nat) (axes : List Int) (hwf : a.WF) :
    a.rot90 zero k axes ≠ .panic := by
  by_cases hnd : 2 ≤ a.ndim
  swap
  · rw [rot90_rejects_rank a zero k axes (by omega)]; exact fun h => nomatch h
  by_cases hp : ∃ a0 a1, axes = [a0, a1]
  · obtain ⟨a0, a1, rfl⟩ := hp
    by_cases hv : (-(a.ndim : Int) ≤ a0 ∧ a0 < a.ndim) ∧ (-(a.ndim : Int) ≤ a1 ∧ a1 < a.ndim)
    · rcases rot90_total a zero k a0 a1 hwf hnd hv.1 hv.2 with ⟨r, h, _⟩ | ⟨_, h⟩ <;> rw [h] <;> exact fun h => nomatch h
    · rw [rot90_rejects_axes a zero k a0 a1 hnd hv]; exact fun h => nomatch h
  · rw [rot90_rejects_not_pair a zero k axes hnd (fun a0 a1 e => hp ⟨a0, a1, e⟩)]; exact fun h => nomatch h

/-! ### non-vacuity on shapes `[2,0]`, `[0,3]`, `[2,0,3]`, `[0]` -/
example : (⟨[], [2, 0]⟩ : Arr Nat).WF ∧ (⟨[], [0, 3]⟩ : Arr Nat).WF ∧ (⟨[], [2, 0, 3]⟩ : Arr Nat).WF := by decide
example : cutAxes 0 [2, 0] = [2] ∧ cutAxes 1 [2, 0] = [2] ∧ cutAxes 0 [0, 3] = [0] ∧ cutAxes 1 [0, 3] = [0] ∧
    cutAxes 0 [2, 0, 3] = [2] ∧ cutAxes 1 [2, 0, 3] = [2, 0] ∧ cutAxes 2 [2, 0, 3] = [2, 0] ∧ cutAxes 0 [0] = [0] := by decide
example := flip_axis_empty (⟨[], [2, 0, 3]⟩ : Arr Nat) (-3) (by decide) (by decide) (by decide)
example := rot90_empty (⟨[], [2, 0]⟩ : Arr Nat) 0 3 0 1 (by decide) (by decide) (by decide) (by decide) (by decide)
example : (⟨[], [2, 0]⟩ : Arr Nat).flip (some [0]) = .ok ⟨[], [2, 0]⟩ ∧ (⟨[], [2, 0]⟩ : Arr Nat).flip (some [1]) = .ok ⟨[], [2, 0]⟩ := by decide
example : (⟨[], [0, 3]⟩ : Arr Nat).flip (some [0]) = .err .ParameterError ∧
    (⟨[], [0, 3]⟩ : Arr Nat).flip (some [-1]) = .err .ParameterError ∧ (⟨[], [0, 3]⟩ : Arr Nat).flip none = .ok ⟨[], [0, 3]⟩ := by decide
example : (⟨[], [2, 0, 3]⟩ : Arr Nat).flip (some [0]) = .ok ⟨[], [2, 0, 3]⟩ ∧
    (⟨[], [2, 0, 3]⟩ : Arr Nat).flip (some [1]) = .err .ParameterError ∧
    (⟨[], [2, 0, 3]⟩ : Arr Nat).flip (some [2]) = .err .ParameterError ∧
    (⟨[], [2, 0, 3]⟩ : Arr Nat).flip (some [0, 0]) = .ok ⟨[], [2, 0, 3]⟩ := by decide
example : (⟨[], [0]⟩ : Arr Nat).flip (some [0]) = .err .ParameterError ∧ (⟨[], [0]⟩ : Arr Nat).roll [5] (some [0]) = .ok ⟨[], [0]⟩ := by decide
example : (⟨[], [2, 0]⟩ : Arr Nat).roll [7] (some [1]) = .ok ⟨[], [2, 0]⟩ ∧ (⟨[], [2, 0]⟩ : Arr Nat).roll [-1] (some [0]) = .ok ⟨[], [2, 0]⟩ ∧
    (⟨[], [0, 3]⟩ : Arr Nat).roll [1] (some [0]) = .err .ParameterError ∧ (⟨[], [0, 3]⟩ : Arr Nat).roll [1] (some [1]) = .err .ParameterError ∧
    (⟨[], [0, 3]⟩ : Arr Nat).roll [1] none = .ok ⟨[], [0, 3]⟩ := by decide
example : (⟨[], [2, 0, 3]⟩ : Arr Nat).roll [1, 2] (some [0, 0]) = .ok ⟨[], [2, 0, 3]⟩ ∧
    (⟨[], [2, 0, 3]⟩ : Arr Nat).roll [1, 2] (some [0, 2]) = .err .ParameterError := by decide
example : (⟨[], [2, 0]⟩ : Arr Nat).rot90 0 1 [0, 1] = .ok ⟨[], [0, 2]⟩ ∧ (⟨[], [2, 0]⟩ : Arr Nat).rot90 0 2 [0, 1] = .ok ⟨[], [2, 0]⟩ ∧
    (⟨[], [2, 0]⟩ : Arr Nat).rot90 0 3 [0, 1] = .err .ParameterError ∧ (⟨[], [2, 0]⟩ : Arr Nat).rot90 0 4 [0, 1] = .ok ⟨[], [2, 0]⟩ := by decide
example : (⟨[], [0, 3]⟩ : Arr Nat).rot90 0 1 [0, 1] = .err .ParameterError ∧ (⟨[], [0, 3]⟩ : Arr Nat).rot90 0 3 [0, 1] = .ok ⟨[], [3, 0]⟩ := by decide
example : (⟨[], [2, 0, 3]⟩ : Arr Nat).rot90 0 1 [0, 2] = .err .ParameterError ∧
    (⟨[], [2, 0, 3]⟩ : Arr Nat).rot90 0 1 [2, 0] = .ok ⟨[], [3, 0, 2]⟩ := by decide

end ArrModel.C12
