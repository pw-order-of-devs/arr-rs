import ArrModel.Index
import ArrProofs.Lemmas.C05
import ArrProofs.Lemmas.C05Float
/-!
# C05 — one-operand functions and closure iteration keep shape, order, multiplicity

Property theorems only.  Model under test: `ArrModel/C05.lean` (`iter.rs`: map, map_e, filter, filter_e, filter_map(_e),
fold, for_each(_e), same-shape zip; the unary math pattern `self.map(kernel)`) and `ArrModel/C05Float.lean`
(`floating.rs`: `_frexp`, `_ldexp` with their `while` loops, `frexp`, `ldexp`).  The two `IntoIterator` impls are modelled
(`Iter.intoIter`) and run by the correspondence harness; no theorem here speaks of them.

Reading guide.
* "arbitrary, stateful, order-observing closure" = any `f : Nat → α → StateM σ β` (any state type, any function).
  `stateAfter f 0 s xs` is the closure's state after having been called on `xs` left to right; `logged f` wraps `f` with a
  recorder of the `(position, element)` pairs it is called with.
* the plain variants are, by definition, the enumerating variants with a closure that ignores the position
  (`Iter.plain_eq_enumerating`, a lemma); `loggedPlain f` records the elements a position-less closure is called with.
* `stamp` / `stampFold` are the counter-stamping closures the correspondence harness runs on the real crate; the `_stamp`
  theorems give the transcript (result + log) in closed form.
* the scalar kernels of the math functions are parameters (`unary k`); which `f64` method each public op uses is tied
  natively in Rust, not proved.
-/
namespace ArrModel.C05
open ArrModel ArrModel.Iter ArrModel.Flt

variable {α β γ σ : Type}

/-! ## map / map_e with an arbitrary stateful closure -/

/-- **map_e, any closure**: the result has the receiver's shape; position `p` holds the closure's answer on
`(p, element p)`, evaluated in the state left by the calls on elements `0 … p-1` in flat order; the final closure state is
the state after exactly those `n` calls.  (Hence: one call per element, in flat order, the flat position passed.) -/
theorem mapEM_stateful (a : Arr α) (hwf : a.WF) (f : Nat → α → StateM σ β) (s : σ) :
    ∃ ys : List β, (mapEM a f).run s = (.ok ⟨ys, a.shape⟩, stateAfter f 0 s a.elems) ∧
      ys.length = a.shape.prod ∧
      ∀ (p : Nat) (h : p < a.elems.length) (h' : p < ys.length),
        ys[p] = ((f p a.elems[p]).run (stateAfter f 0 s (a.elems.take p))).1 := by
  have hlen : ((traverseIdx f 0 a.elems).run s).1.length = a.shape.prod := (traverseIdx_length f 0 a.elems s).trans hwf
  refine ⟨((traverseIdx f 0 a.elems).run s).1, ?_, hlen, fun p h _ => ?_⟩
  · rw [mapEM_run, collect_reshape _ _ hlen.symm, traverseIdx_state]
  · rw [traverseIdx_getElem f 0 a.elems s p h, Nat.zero_add]

/-- **map, any closure** -/
theorem mapM_stateful (a : Arr α) (hwf : a.WF) (f : α → StateM σ β) (s : σ) :
    ∃ ys : List β, (mapM a f).run s = (.ok ⟨ys, a.shape⟩, stateAfter (fun _ => f) 0 s a.elems) ∧
      ys.length = a.shape.prod ∧
      ∀ (p : Nat) (h : p < a.elems.length) (h' : p < ys.length),
        ys[p] = ((f a.elems[p]).run (stateAfter (fun _ => f) 0 s (a.elems.take p))).1 :=
  mapEM_stateful a hwf (fun _ => f) s

/-! ## trace theorems: what any closure gets to see -/

/-- **map_e trace**: wrapping any closure with a recorder changes neither the result nor the closure's own state, and
the record is exactly `elems` zipped with the positions `0 … n-1`: every element once, in flat order, with its flat position. -/
theorem mapEM_trace (a : Arr α) (f : Nat → α → StateM σ β) (s : σ) :
    (mapEM a (logged f)).run (s, []) =
      (((mapEM a f).run s).1, (((mapEM a f).run s).2, (List.range a.elems.length).zip a.elems)) := by
  rw [mapEM_run, mapEM_run, traverseIdx_logged]

theorem filterEM_trace (a : Arr α) (f : Nat → α → StateM σ Bool) (s : σ) :
    (filterEM a (logged f)).run (s, []) =
      (((filterEM a f).run s).1, (((filterEM a f).run s).2, (List.range a.elems.length).zip a.elems)) := by
  rw [filterEM_run, filterEM_run, traverseIdx_logged]

theorem filterMapEM_trace (a : Arr α) (f : Nat → α → StateM σ (Option β)) (s : σ) :
    (filterMapEM a (logged f)).run (s, []) =
      (((filterMapEM a f).run s).1, (((filterMapEM a f).run s).2, (List.range a.elems.length).zip a.elems)) := by
  rw [filterMapEM_run, filterMapEM_run, traverseIdx_logged]

theorem forEachEM_trace (a : Arr α) (f : Nat → α → StateM σ Unit) (s : σ) :
    (forEachEM a (logged f)).run (s, []) =
      (.ok (), (((forEachEM a f).run s).2, (List.range a.elems.length).zip a.elems)) := by
  rw [forEachEM_run, forEachEM_run, traverseIdx_logged]

/-- **map / filter / filter_map / for_each traces** (closures that are not handed a position): the record is exactly
`elems` — every element once, in flat order — and recording changes nothing else. -/
theorem mapM_trace (a : Arr α) (f : α → StateM σ β) (s : σ) :
    (mapM a (loggedPlain f)).run (s, []) = (((mapM a f).run s).1, (((mapM a f).run s).2, a.elems)) := by
  simp only [mapM_eq_mapEM, mapEM_run, traverseIdx_loggedPlain]

theorem filterM_trace (a : Arr α) (f : α → StateM σ Bool) (s : σ) :
    (filterM a (loggedPlain f)).run (s, []) = (((filterM a f).run s).1, (((filterM a f).run s).2, a.elems)) := by
  simp only [filterM_eq_filterEM, filterEM_run, traverseIdx_loggedPlain]

theorem filterMapM_trace (a : Arr α) (f : α → StateM σ (Option β)) (s : σ) :
    (filterMapM a (loggedPlain f)).run (s, []) = (((filterMapM a f).run s).1, (((filterMapM a f).run s).2, a.elems)) := by
  simp only [filterMapM_eq_filterMapEM, filterMapEM_run, traverseIdx_loggedPlain]

theorem forEachM_trace (a : Arr α) (f : α → StateM σ Unit) (s : σ) :
    (forEachM a (loggedPlain f)).run (s, []) = (.ok (), (((forEachM a f).run s).2, a.elems)) := by
  simp only [forEachM_eq_forEachEM, forEachEM_run, traverseIdx_loggedPlain]

/-- **fold trace**: the folding closure is called once per element, in flat order -/
theorem foldM_trace (a : Arr α) (init : γ) (f : γ → α → StateM σ γ) (s : σ) :
    (foldM a init (loggedAcc f)).run (s, []) =
      (((foldM a init f).run s).1, (((foldM a init f).run s).2, a.elems)) := by
  rw [foldM_run, foldM_run, foldIdxM_loggedAcc, List.nil_append]

/-- **fold, any closure**: `List.foldl` over the elements on (accumulator, closure state) pairs — strictly left to right -/
theorem foldM_stateful (a : Arr α) (init : γ) (f : γ → α → StateM σ γ) (s : σ) :
    (foldM a init f).run s =
      (.ok (a.elems.foldl (fun (p : γ × σ) x => (f p.1 x).run p.2) (init, s)).1,
       (a.elems.foldl (fun (p : γ × σ) x => (f p.1 x).run p.2) (init, s)).2) := by
  rw [foldM_run, foldIdxM_eq_foldl]

/-! ## filter / filter_map with an arbitrary stateful closure -/

/-- **filter_e, any closure**: the result is the flat `[k]` array of the elements whose call answered `true`
(`select elems answers`), a sublist of the elements — original order, multiplicities kept — whatever the closure does. -/
theorem filterEM_stateful (a : Arr α) (f : Nat → α → StateM σ Bool) (s : σ) :
    ∃ ys : List α, (filterEM a f).run s = (.ok ⟨ys, [ys.length]⟩, stateAfter f 0 s a.elems) ∧
      ys = select a.elems ((traverseIdx f 0 a.elems).run s).1 ∧ ys.Sublist a.elems := by
  refine ⟨select a.elems ((traverseIdx f 0 a.elems).run s).1, ?_, rfl, select_sublist _ _⟩
  rw [filterEM_run, collect_ravel, traverseIdx_state]

/-- **filter_map_e, any closure**: the flat array of the `Some` answers, in call order -/
theorem filterMapEM_stateful (a : Arr α) (f : Nat → α → StateM σ (Option β)) (s : σ) :
    ∃ ys : List β, (filterMapEM a f).run s = (.ok ⟨ys, [ys.length]⟩, stateAfter f 0 s a.elems) ∧
      ys = somes ((traverseIdx f 0 a.elems).run s).1 := by
  refine ⟨somes ((traverseIdx f 0 a.elems).run s).1, ?_, rfl⟩
  rw [filterMapEM_run, collect_ravel, traverseIdx_state]

/-! ## pure closures (`m = Id`): the classical readings -/

/-- **map_at**: same shape; the element list is `elems.map f`, i.e. position `p` holds `f (in[p])`;
in coordinates: `out.at c = f (in.at c)` for every coordinate vector. -/
theorem map_at (a : Arr α) (hwf : a.WF) (f : α → β) :
    ∃ b : Arr β, map a f = .ok b ∧ b.shape = a.shape ∧ b.WF ∧ b.elems = a.elems.map f ∧
      (∀ (p : Nat) (h : p < a.elems.length) (h' : p < b.elems.length), b.elems[p] = f a.elems[p]) ∧
      (∀ c : List Nat, b.get? c = (a.get? c).map f) := by
  refine ⟨⟨a.elems.map f, a.shape⟩, map_ok a hwf f, rfl, by simpa [Arr.WF] using hwf, rfl, ?_, ?_⟩
  · intro p h h'; simp
  · intro c; simp [Arr.get?]

/-- **map_e index**: position `p` holds `f p (in[p])` — the enumerating variant passes the flat position -/
theorem mapE_index (a : Arr α) (hwf : a.WF) (f : Nat → α → β) :
    ∃ b : Arr β, mapE a f = .ok b ∧ b.shape = a.shape ∧ b.elems = a.elems.mapIdx f ∧
      (∀ (p : Nat) (h : p < a.elems.length) (h' : p < b.elems.length), b.elems[p] = f p a.elems[p]) := by
  have hr : mapE a f = .ok ⟨a.elems.mapIdx f, a.shape⟩ := by
    rw [mapE_unfold, imapFrom_eq_mapIdx, collect_reshape _ _ (by simpa using hwf.symm)]
  refine ⟨_, hr, rfl, rfl, ?_⟩
  intro p h h'; simp

/-- without the C01 invariant the final `reshape` refuses (never a panic, never a wrong shape) -/
theorem map_not_wf (a : Arr α) (hwf : ¬ a.WF) (f : α → β) : map a f = .err .ShapeMustMatchValuesLength := by
  rw [map_unfold, collect_reshape_err _ _ (by simpa [Arr.WF, eq_comm] using hwf)]

/-- **one-operand math functions**: for every scalar kernel `k`, same shape and `out[p] = k (in[p])` -/
theorem unary_at (k : α → β) (a : Arr α) (hwf : a.WF) :
    ∃ b : Arr β, unary k a = .ok b ∧ b.shape = a.shape ∧ b.elems = a.elems.map k ∧
      (∀ c : List Nat, b.get? c = (a.get? c).map k) := by
  obtain ⟨b, h1, h2, _, h4, _, h6⟩ := map_at a hwf k
  exact ⟨b, h1, h2, h4, h6⟩

/-- **filter_spec**: `List.filter` on the elements, as a flat `[k]` array, order kept -/
theorem filter_spec (a : Arr α) (p : α → Bool) :
    filter a p = .ok ⟨a.elems.filter p, [(a.elems.filter p).length]⟩ := by
  show filterE a (fun _ x => p x) = _
  rw [filterE_unfold, imapFrom_const, select_pure, collect_ravel]

/-- **filter_e**: the predicate sees `(flat position, element)` -/
theorem filterE_spec (a : Arr α) (p : Nat → α → Bool) :
    ∃ ys, filterE a p = .ok ⟨ys, [ys.length]⟩ ∧
      ys = (((List.range a.elems.length).zip a.elems).filter (fun e => p e.1 e.2)).map (·.2) := by
  refine ⟨_, ?_, rfl⟩
  rw [filterE_unfold, select_imapFrom, enumFrom_zero_eq_zip, collect_ravel]

/-- **filter_map**: `List.filterMap`, flat -/
theorem filterMap_spec (a : Arr α) (f : α → Option β) :
    filterMap a f = .ok ⟨a.elems.filterMap f, [(a.elems.filterMap f).length]⟩ := by
  show filterMapE a (fun _ x => f x) = _
  rw [filterMapE_unfold, imapFrom_const, somes_pure, collect_ravel]

theorem filterMapE_spec (a : Arr α) (f : Nat → α → Option β) :
    ∃ ys, filterMapE a f = .ok ⟨ys, [ys.length]⟩ ∧
      ys = ((List.range a.elems.length).zip a.elems).filterMap (fun e => f e.1 e.2) := by
  refine ⟨_, ?_, rfl⟩
  rw [filterMapE_unfold, somes_imapFrom, enumFrom_zero_eq_zip, collect_ravel]

/-- **fold_spec**: `List.foldl`, left to right -/
theorem fold_spec (a : Arr α) (init : γ) (f : γ → α → γ) : fold a init f = .ok (a.elems.foldl f init) := by
  rw [fold, foldM, foldIdxM_pure]; rfl

/-- **zip of equal shapes** keeps the shape and pairs position by position -/
theorem zipSame_spec (a : Arr α) (b : Arr β) (ha : a.WF) (hb : b.WF) (hs : b.shape = a.shape) :
    zipSame a b = .ok ⟨a.elems.zip b.elems, a.shape⟩ := by
  have hlen : b.elems.length = a.elems.length := by rw [ha, hb, hs]
  have h1 : reshape b a.shape = .ok ⟨b.elems, a.shape⟩ := by
    rw [reshape, if_pos (hs ▸ hb.symm), Arr.new_of_prod (hs ▸ hb.symm)]
  rw [zipSame, h1, Res.bind_ok]
  exact collect_reshape _ _ (by rw [List.length_zip, hlen, Nat.min_self]; exact ha.symm)

/-! ## the counter-stamping closures run by the harness: the transcript in closed form -/

/-- **map_e transcript**: call number = flat position = passed position, for every call; the closure's answer to call `k`
lands at position `k`; `n` calls in total. -/
theorem mapEM_stamp (a : Arr α) (hwf : a.WF) (g : Nat → Option Nat → α → β) :
    (mapEM a (fun i => stamp g (some i))).run (0, []) =
      (.ok ⟨a.elems.mapIdx (fun k x => g k (some k) x), a.shape⟩,
       (a.elems.length, a.elems.mapIdx (fun k x => ((k, some k, x) : Entry α)))) := by
  rw [mapEM_run, traverse_stamp_zero, collect_reshape _ _ (by rw [List.length_mapIdx]; exact hwf.symm)]

/-- **map transcript** (no position passed) -/
theorem mapM_stamp (a : Arr α) (hwf : a.WF) (g : Nat → Option Nat → α → β) :
    (mapM a (stamp g none)).run (0, []) =
      (.ok ⟨a.elems.mapIdx (fun k x => g k none x), a.shape⟩,
       (a.elems.length, a.elems.mapIdx (fun k x => ((k, none, x) : Entry α)))) := by
  rw [mapM_eq_mapEM, mapEM_run, traverse_stamp_zero,
    collect_reshape _ _ (by rw [List.length_mapIdx]; exact hwf.symm)]

theorem filterEM_stamp (a : Arr α) (g : Nat → Option Nat → α → Bool) :
    ∃ ys, (filterEM a (fun i => stamp g (some i))).run (0, []) =
      (.ok ⟨ys, [ys.length]⟩, (a.elems.length, a.elems.mapIdx (fun k x => ((k, some k, x) : Entry α)))) ∧
      ys = (((List.range a.elems.length).zip a.elems).filter (fun e => g e.1 (some e.1) e.2)).map (·.2) := by
  refine ⟨_, ?_, rfl⟩
  rw [filterEM_run, traverse_stamp_zero, select_mapIdx, collect_ravel]

theorem filterM_stamp (a : Arr α) (g : Nat → Option Nat → α → Bool) :
    ∃ ys, (filterM a (stamp g none)).run (0, []) =
      (.ok ⟨ys, [ys.length]⟩, (a.elems.length, a.elems.mapIdx (fun k x => ((k, none, x) : Entry α)))) ∧
      ys = (((List.range a.elems.length).zip a.elems).filter (fun e => g e.1 none e.2)).map (·.2) := by
  refine ⟨_, ?_, rfl⟩
  rw [filterM_eq_filterEM, filterEM_run, traverse_stamp_zero, select_mapIdx, collect_ravel]

theorem filterMapEM_stamp (a : Arr α) (g : Nat → Option Nat → α → Option β) :
    ∃ ys, (filterMapEM a (fun i => stamp g (some i))).run (0, []) =
      (.ok ⟨ys, [ys.length]⟩, (a.elems.length, a.elems.mapIdx (fun k x => ((k, some k, x) : Entry α)))) ∧
      ys = ((List.range a.elems.length).zip a.elems).filterMap (fun e => g e.1 (some e.1) e.2) := by
  refine ⟨_, ?_, rfl⟩
  rw [filterMapEM_run, traverse_stamp_zero, somes_mapIdx, collect_ravel]

theorem filterMapM_stamp (a : Arr α) (g : Nat → Option Nat → α → Option β) :
    ∃ ys, (filterMapM a (stamp g none)).run (0, []) =
      (.ok ⟨ys, [ys.length]⟩, (a.elems.length, a.elems.mapIdx (fun k x => ((k, none, x) : Entry α)))) ∧
      ys = ((List.range a.elems.length).zip a.elems).filterMap (fun e => g e.1 none e.2) := by
  refine ⟨_, ?_, rfl⟩
  rw [filterMapM_eq_filterMapEM, filterMapEM_run, traverse_stamp_zero, somes_mapIdx, collect_ravel]

theorem forEachEM_stamp (a : Arr α) (g : Nat → Option Nat → α → Unit) :
    (forEachEM a (fun i => stamp g (some i))).run (0, []) =
      (.ok (), (a.elems.length, a.elems.mapIdx (fun k x => ((k, some k, x) : Entry α)))) := by
  rw [forEachEM_run, traverse_stamp_zero]

theorem forEachM_stamp (a : Arr α) (g : Nat → Option Nat → α → Unit) :
    (forEachM a (stamp g none)).run (0, []) =
      (.ok (), (a.elems.length, a.elems.mapIdx (fun k x => ((k, none, x) : Entry α)))) := by
  rw [forEachM_eq_forEachEM, forEachEM_run, traverse_stamp_zero]

/-- **fold transcript**: the accumulator is threaded left to right through the calls `0, 1, …, n-1` -/
theorem foldM_stamp (a : Arr α) (init : γ) (g : Nat → γ → α → γ) :
    (foldM a init (stampFold g)).run (0, []) =
      (.ok (((List.range a.elems.length).zip a.elems).foldl (fun acc e => g e.1 acc e.2) init),
       (a.elems.length, a.elems.mapIdx (fun k x => ((k, none, x) : Entry α)))) := by
  rw [foldM_run, fold_stamp, enumFrom_zero_eq_zip, imapFrom_eq_mapIdx, Nat.zero_add, List.nil_append]

/-! ## frexp / ldexp -/

/-- **frexp_spec**: for a finite non-zero `x` the (repaired) loops end within the fuel bound with a mantissa `m`,
`½ ≤ |m| < 1`, and exponent `e` such that `m · 2^e = x` exactly. -/
theorem frexp_spec (q : Rat) (hq : q ≠ 0) :
    ∃ (m : Rat) (e : Int), frexp (.fin q) = some (.fin m, e) ∧ 1 / 2 ≤ m.abs ∧ m.abs < 1 ∧ m * (2 : Rat) ^ e = q := by
  have habs : 0 < q.abs := Rat.abs_pos_iff.2 hq
  have hnum : q.abs.num.natAbs + q.abs.den ≤ q.num.natAbs + q.den := by
    by_cases h : 0 ≤ q
    · rw [Rat.abs_of_nonneg h]; exact Nat.le_refl _
    · rw [Rat.abs_of_nonpos (by grind)]; simp
  obtain ⟨q1, e1, q2, e2, hl1, hl2, hge, hlt, hval⟩ :=
    loops_fin _ q.abs habs (up_bound _ _ hnum) (by have := down_bound _ habs _ hnum; grind)
  refine ⟨_, e2, frexp_fin hq hl1 hl2, ?_⟩
  have h2 : q2.abs = q2 := Rat.abs_of_nonneg (by grind)
  -- the mantissa is `q2` with the sign of `q` put back
  split
  · rw [Rat.mul_neg, Rat.mul_one, Rat.abs_neg, h2]
    rw [Rat.abs_of_nonpos (by grind)] at hval
    exact ⟨hge, hlt, by grind⟩
  · rw [Rat.mul_one, h2]
    rw [Rat.abs_of_nonneg (by grind)] at hval
    exact ⟨hge, hlt, hval⟩

/-- zero, infinities and NaN: `(0, 0)`, `(±∞, 0)`, `(NaN, 0)` (the last two arms are the repair; numpy agrees) -/
theorem frexp_special :
    frexp (.fin 0) = some (.fin 0, 0) ∧ (∀ b, frexp (.inf b) = some (.inf b, 0)) ∧ frexp .nan = some (.nan, 0) := by
  refine ⟨by decide +kernel, fun b => by cases b <;> decide +kernel, by decide +kernel⟩

/-- **termination**: the repaired `_frexp` returns on every input … -/
theorem frexp_total (x : Dbl) : ∃ r, frexp x = some r := by
  cases x with
  | fin q =>
    by_cases hq : q = 0
    · subst hq; exact ⟨_, frexp_special.1⟩
    · obtain ⟨m, e, h, _⟩ := frexp_spec q hq; exact ⟨_, h⟩
  | inf b => exact ⟨_, frexp_special.2.1 b⟩
  | nan => exact ⟨_, frexp_special.2.2⟩

/-- … and the fuel bound is a bound: any larger fuel gives the same answer -/
theorem frexp_fuel_bound (x : Dbl) (fuel : Nat) (h : fuelFor x ≤ fuel) : frexp1 true fuel x = frexp x := by
  obtain ⟨r, hr⟩ := frexp_total x
  have := frexp1_mono true (fuelFor x) (fuel - fuelFor x) x r hr
  rw [show fuelFor x + (fuel - fuelFor x) = fuel by omega] at this
  rw [this, hr]

/-- **the pinned code hangs on ±∞**: without the repair arm no amount of fuel ends the first loop … -/
theorem frexp_pinned_diverges_on_inf (fuel : Nat) (b : Bool) : frexp1 false fuel (.inf b) = none := by
  have h : ∀ (n : Nat) (e : Int), loopUp n (.inf false) e = none := by
    intro n; induction n with
    | zero => intro e; rfl
    | succ n ih => intro e; simp [loopUp, Dbl.ge1, Dbl.half, ih]
  cases b <;> simp [frexp1, Dbl.abs, Dbl.isZero, h]

/-- … and the repair changes nothing on finite values and NaN -/
theorem frexp_repair_conservative (fuel : Nat) (hf : 0 < fuel) (x : Dbl) (hx : ∀ b, x ≠ .inf b) :
    frexp1 true fuel x = frexp1 false fuel x := by
  cases x with
  | fin q => simp [frexp1, Dbl.abs, Dbl.isFinite]
  | inf b => exact absurd rfl (hx b)
  | nan =>
    cases fuel with
    | zero => omega
    | succ n => simp [frexp1, Dbl.abs, Dbl.isZero, Dbl.isFinite, Dbl.signum, Dbl.mul, loopUp, loopDown, Dbl.ge1, Dbl.ltHalf]

/-- **ldexp_spec**: `ldexp m e = m · 2^e` on finite values (exact arithmetic), within `|e| + 1` loop tests -/
theorem ldexp_spec (m : Rat) (e : Int) : ldexp (.fin m) e = some (.fin (m * (2 : Rat) ^ e)) := by
  unfold ldexp ldexp1
  by_cases hm : m = 0
  · subst hm; simp [Dbl.isZero]
  · simp only [Dbl.isZero, hm, decide_false, Bool.false_eq_true, if_false]
    rw [ldUp_fin e.natAbs m e (by omega)]
    simp only
    rw [ldDown_fin e.natAbs (m * (2 : Rat) ^ e.toNat) (min e 0) (by omega)]
    simp only [Option.some.injEq, Dbl.fin.injEq]
    by_cases he : 0 ≤ e
    · have h0 : (-(min e 0)).toNat = 0 := by omega
      rw [h0, two_zpow_of_nonneg e he]; grind
    · have he' : e < 0 := by omega
      have h0 : e.toNat = 0 := by omega
      have h1 : (-(min e 0)).toNat = (-e).toNat := by omega
      rw [h0, h1, two_zpow_of_neg e he', Rat.div_def]; grind

/-- **ldexp ∘ frexp = id**: mantissa and exponent recombine to the original value, for every value
(finite, zero, ±∞, NaN). -/
theorem ldexp_frexp (x m : Dbl) (e : Int) (h : frexp x = some (m, e)) : ldexp m e = some x := by
  cases x with
  | fin q =>
    by_cases hq : q = 0
    · subst hq
      rw [frexp_special.1] at h
      cases h; decide +kernel
    · obtain ⟨m', e', h', _, _, hval⟩ := frexp_spec q hq
      rw [h'] at h; cases h
      rw [ldexp_spec, hval]
  | inf b =>
    rw [frexp_special.2.1 b] at h; cases h
    cases b <;> decide +kernel
  | nan =>
    rw [frexp_special.2.2] at h; cases h
    decide +kernel

/-! ## frexp / ldexp on arrays -/

/-- **frexp on arrays**: both results have the receiver's shape; position `p` holds mantissa / exponent of element `p` -/
theorem frexpArr_spec (a : Arr Dbl) (hwf : a.WF) :
    ∃ ms es, frexpArr a = some (.ok (⟨ms, a.shape⟩, ⟨es, a.shape⟩)) ∧
      ms.length = a.elems.length ∧ es.length = a.elems.length ∧
      ∀ (p : Nat) (h : p < a.elems.length) (h1 : p < ms.length) (h2 : p < es.length),
        frexp a.elems[p] = some (ms[p], es[p]) := by
  obtain ⟨ms, es, hrun, hm, he, hget⟩ := forEach_frexpPush frexp_total 0 a.elems ([], [])
  refine ⟨ms, es, ?_, hm, he, hget⟩
  have hfe : (forEachM a frexpPush).run ([], []) = some (.ok (), (ms, es)) := by
    show ((forEachIdxM (fun _ => frexpPush) 0 a.elems).run ([], []) >>= fun p => some (Res.ok (), p.2)) = _
    rw [hrun]; simp
  unfold frexpArr
  rw [hfe]
  simp [flat, reshape, Arr.new, hm, he, hwf.symm]

/-- **ldexp(frexp(a)) = a on arrays**: same shape, every position recombines to the original element -/
theorem ldexpArr_frexpArr (a : Arr Dbl) (hwf : a.WF) (mn : Arr Dbl) (ex : Arr Int)
    (h : frexpArr a = some (.ok (mn, ex))) : ldexpArr mn ex = .ok ⟨a.elems.map some, a.shape⟩ := by
  obtain ⟨ms, es, hrun, hm, he, hget⟩ := frexpArr_spec a hwf
  obtain ⟨rfl, rfl⟩ : mn = ⟨ms, a.shape⟩ ∧ ex = ⟨es, a.shape⟩ := by rw [hrun] at h; cases h; exact ⟨rfl, rfl⟩
  have hlen : (ms.zip es).length = a.elems.length := by rw [List.length_zip, hm, he, Nat.min_self]
  have hz : (⟨ms.zip es, a.shape⟩ : Arr (Dbl × Int)).WF := hlen.trans hwf
  rw [ldexpArr, zipSame_spec (⟨ms, a.shape⟩ : Arr Dbl) (⟨es, a.shape⟩ : Arr Int) (hm.trans hwf) (he.trans hwf) rfl,
    Res.bind_ok, map_ok _ hz]
  congr 2
  apply List.ext_getElem
  · rw [List.length_map, List.length_map, hlen]
  · intro p hp1 hp2
    rw [List.length_map] at hp2
    simp only [List.getElem_map, List.getElem_zip]
    exact ldexp_frexp _ _ _ (hget p hp2 (hm ▸ hp2) (he ▸ hp2))

/-! ## non-vacuity -/

/-- a `[2,3]` array, a stateful closure answering `10·call# + element`: the transcript -/
example :
    (mapEM (⟨[5, 5, 7, 5, 9, 7], [2, 3]⟩ : Arr Int) (fun i => stamp (fun k _ v => 10 * (k : Int) + v) (some i))).run (0, []) =
      (.ok ⟨[5, 15, 27, 35, 49, 57], [2, 3]⟩,
       (6, [(0, some 0, 5), (1, some 1, 5), (2, some 2, 7), (3, some 3, 5), (4, some 4, 9), (5, some 5, 7)])) := by
  rfl

/-- a stateful filter keeping every other *call* (not a function of the element): repeated elements keep their multiplicity -/
example :
    ((filterM (⟨[5, 5, 7, 5, 9, 7], [2, 3]⟩ : Arr Int) (stamp (fun k _ _ => k % 2 == 0) none)).run (0, [])).1 =
      .ok ⟨[5, 7, 9], [3]⟩ := by decide

example : fold (⟨[1, 2, 3, 4], [2, 2]⟩ : Arr Int) 0 (fun acc x => acc * 10 + x) = .ok 1234 := by decide

example : (⟨[5, 5, 7, 5, 9, 7], [2, 3]⟩ : Arr Int).WF := by decide

/-- `frexp 8 = (½, 4)`, `frexp (-3) = (-¾, 2)`, `frexp (1/1024) = (½, -9)` -/
example : frexp (.fin 8) = some (.fin (1 / 2), 4) ∧ frexp (.fin (-3)) = some (.fin (-3 / 4), 2) ∧
    frexp (.fin (1 / 1024)) = some (.fin (1 / 2), -9) := by decide +kernel

example : ldexp (.fin (-3 / 4)) 2 = some (.fin (-3)) := by decide +kernel

end ArrModel.C05
