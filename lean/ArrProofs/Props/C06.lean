import ArrProofs.Lemmas.C06Move
import ArrProofs.Lemmas.GenCoreAxis
/-!
# C06 — axis permutations move each element to the permuted coordinate, nothing else

Model under test: `ArrModel/Axis.lean` (`transpose` as the scatter loop of `axis.rs:186-226`, `moveaxis`,
`rollaxis`, `swapaxes`, `normalize_axis`).  All statements are for every rank, every axis length, every
permutation.  `permute ax c = ax.map (c[·])`, `unpermute ax` is its inverse on vectors of the right length.
-/
namespace ArrModel.C06
open ArrModel Arr
variable {α : Type}

/-- **negative axis numbers count from the end** -/
theorem normalize_neg (nd : Nat) (i : Int) (h1 : -(nd : Int) ≤ i) (h2 : i < 0) :
    (normalizeAxis nd i : Int) = i + nd :=
  normalizeAxis_of_neg nd i h1 h2

theorem normalize_nonneg (nd : Nat) (i : Int) (h : 0 ≤ i) : (normalizeAxis nd i : Int) = i :=
  normalizeAxis_of_nonneg nd i h

/-- **transpose, forward form**: for any axis order that is a permutation of the axes, the result has the
permuted shape and the input element at coordinate `c` sits at coordinate `permute ax c`. -/
theorem transpose_spec (a : Arr α) (zero : α) (axes : Option (List Int)) (hwf : a.WF)
    (hperm : (axesOf a.ndim axes).Perm (List.range a.ndim)) :
    ∃ r, a.transpose zero axes = .ok r ∧ r.shape = permute (axesOf a.ndim axes) a.shape ∧ r.WF ∧
      ∀ c, inRange a.shape c = true → r.get? (permute (axesOf a.ndim axes) c) = a.get? c := by
  have hprod : (permute (axesOf a.ndim axes) a.shape).prod = (transposeElems a.shape (axesOf a.ndim axes) a.elems zero).length := by
    rw [transposeElems_length, prod_permute _ _ hperm]; exact hwf.symm
  refine ⟨⟨transposeElems a.shape (axesOf a.ndim axes) a.elems zero, permute (axesOf a.ndim axes) a.shape⟩, ?_, rfl,
    hprod.symm, fun c hc => transposeElems_get a.shape _ a.elems zero hperm hwf c hc⟩
  rw [transpose_eq, (validAxes_ok_iff _ _).2 hperm, Res.bind_ok]
  exact Arr.new_of_prod hprod

/-- `transpose_spec` for an axis order given as naturals -/
theorem transpose_nat_spec (a : Arr α) (zero : α) (o : List Nat) (hwf : a.WF) (hperm : o.Perm (List.range a.ndim)) :
    ∃ r, a.transpose zero (some (o.map Int.ofNat)) = .ok r ∧ r.shape = permute o a.shape ∧ r.WF ∧
      ∀ c, inRange a.shape c = true → r.get? (permute o c) = a.get? c := by
  have := transpose_spec a zero (some (o.map Int.ofNat)) hwf (by rw [axesOf_some_ofNat]; exact hperm)
  rwa [axesOf_some_ofNat] at this

/-- **transpose, backward form** (the statement of the property): the element at any result coordinate `c'`
is the input element at the coordinate obtained by undoing the permutation. -/
theorem transpose_at (a : Arr α) (zero : α) (axes : Option (List Int)) (hwf : a.WF)
    (hperm : (axesOf a.ndim axes).Perm (List.range a.ndim)) :
    ∃ r, a.transpose zero axes = .ok r ∧ r.shape = permute (axesOf a.ndim axes) a.shape ∧
      ∀ c', inRange r.shape c' = true → r.get? c' = a.get? (unpermute (axesOf a.ndim axes) c') := by
  obtain ⟨r, h1, h2, _, h4⟩ := transpose_spec a zero axes hwf hperm
  refine ⟨r, h1, h2, fun c' hc' => ?_⟩
  rw [h2] at hc'
  have hlen : c'.length = a.ndim :=
    (inRange_length _ _ hc').trans ((permute_length _ _).trans (perm_range_iff.1 hperm).1)
  have := h4 _ (inRange_unpermute _ a.shape c' hperm hc')
  rwa [permute_unpermute _ c' a.ndim hperm hlen] at this

/-- **invalid axis orders are refused** (never a panic, never data) -/
theorem transpose_rejects (a : Arr α) (zero : α) (axes : Option (List Int))
    (h : ¬ (axesOf a.ndim axes).Perm (List.range a.ndim)) :
    ∃ e, a.transpose zero axes = .err e := by
  cases hv : validAxes a.ndim (axesOf a.ndim axes) with
  | ok u => exact absurd ((validAxes_ok_iff _ _).1 hv) h
  | err e => exact ⟨e, by rw [transpose_eq, hv]; rfl⟩
  | panic => exact absurd hv (validAxes_not_panic _ _)

/-- **the default transpose reverses the axes** (and is always accepted) -/
theorem transpose_default (a : Arr α) (zero : α) :
    a.transpose zero none = a.transpose zero (some ((List.range a.ndim).reverse.map Int.ofNat)) := by
  rw [transpose_eq, transpose_eq, axesOf_some_ofNat]
  rfl

theorem default_axes_perm (nd : Nat) : (axesOf nd none).Perm (List.range nd) := List.reverse_perm _

/-- **a permutation followed by its inverse restores the original array** -/
theorem transpose_inv (a : Arr α) (zero : α) (ax : List Nat) (hwf : a.WF) (hperm : ax.Perm (List.range a.ndim)) :
    (a.transpose zero (some (ax.map Int.ofNat)) >>= fun r => r.transpose zero (some ((invAxes ax).map Int.ofNat))) = .ok a := by
  obtain ⟨r, h1, h2, h3, h4⟩ := transpose_nat_spec a zero ax hwf hperm
  have hrnd : r.ndim = a.ndim := by rw [Arr.ndim, h2, permute_length]; exact (perm_range_iff.1 hperm).1
  obtain ⟨r2, g1, g2, g3, g4⟩ := transpose_nat_spec r zero (invAxes ax) h3 (hrnd ▸ invAxes_perm ax _ hperm)
  rw [h1, Res.bind_ok, g1]
  congr 1
  have hshape : r2.shape = a.shape := by
    rw [g2, h2, ← unpermute_eq_permute_inv]
    exact unpermute_permute ax a.shape a.ndim hperm rfl
  refine Arr.ext_get r2 a g3 hwf hshape fun c hc => ?_
  rw [hshape] at hc
  have hpc : inRange r.shape (permute ax c) = true :=
    h2 ▸ inRange_permute ax a.shape c (fun x hx => (perm_range_iff.1 hperm).2.1 x hx) hc
  have := g4 _ hpc
  rw [← unpermute_eq_permute_inv, unpermute_permute ax c a.ndim hperm (inRange_length _ _ hc)] at this
  rw [this, h4 c hc]

theorem swapOrder_perm (nd i j : Nat) (hi : i < nd) (hj : j < nd) : (swapOrder nd i j).Perm (List.range nd) := by
  refine perm_range_iff.2 ⟨(List.length_map _).trans List.length_range, fun x hx => ?_,
    List.nodup_range.map (swap_involutive i j).injective⟩
  obtain ⟨k, hk, rfl⟩ := List.mem_map.1 hx
  split
  · exact hj
  split
  · exact hi
  · exact List.mem_range.1 hk

/-- **swapping two in-range axes is transposing with the exchanged order**, a permutation (`swapOrder_perm`) -/
theorem swapaxes_eq_transpose (a : Arr α) (zero : α) (ax1 ax2 : Int)
    (h1 : normalizeAxis a.ndim ax1 < a.ndim) (h2 : normalizeAxis a.ndim ax2 < a.ndim) :
    a.swapaxes zero ax1 ax2 =
      a.transpose zero (some ((swapOrder a.ndim (normalizeAxis a.ndim ax1) (normalizeAxis a.ndim ax2)).map Int.ofNat)) := by
  unfold Arr.swapaxes
  exact (if_neg (Nat.not_le.2 h1)).trans (if_neg (Nat.not_le.2 h2))

theorem swapaxes_rejects (a : Arr α) (zero : α) (ax1 ax2 : Int)
    (h : ¬ (normalizeAxis a.ndim ax1 < a.ndim ∧ normalizeAxis a.ndim ax2 < a.ndim)) :
    a.swapaxes zero ax1 ax2 = .err .AxisOutOfBounds := by
  unfold Arr.swapaxes
  by_cases h1 : normalizeAxis a.ndim ax1 ≥ a.ndim
  · exact if_pos h1
  · exact (if_neg h1).trans (if_pos (Nat.le_of_not_lt fun h2 => h ⟨Nat.lt_of_not_le h1, h2⟩))

theorem rollaxisOrder_perm (nd axis start : Nat) (ha : axis < nd) (hs : start < nd) :
    (rollaxisOrder nd axis start).Perm (List.range nd) := by
  have hlen : ((List.range nd).eraseIdx axis).length = nd - 1 := by
    rw [List.length_eraseIdx, List.length_range, if_pos ha]
  refine (List.perm_insertIdx axis _ (hlen ▸ Nat.le_sub_one_of_lt hs)).trans ?_
  rw [eraseIdx_range nd axis ha]
  exact (List.perm_cons_erase (List.mem_range.2 ha)).symm

theorem rollaxisOrder_at (nd axis start : Nat) (ha : axis < nd) (hs : start < nd) :
    (rollaxisOrder nd axis start)[start]? = some axis := by
  have hlen : ((List.range nd).eraseIdx axis).length = nd - 1 := by
    rw [List.length_eraseIdx, List.length_range, if_pos ha]
  unfold rollaxisOrder
  rw [List.getElem?_insertIdx_self, if_pos (hlen ▸ Nat.le_sub_one_of_lt hs)]

/-- **rolling an in-range axis is transposing with the order "remove the axis, re-insert it at `start`"**, a permutation
(`rollaxisOrder_perm`) that holds `axis` at position `start` (`rollaxisOrder_at`) -/
theorem rollaxis_eq_transpose (a : Arr α) (zero : α) (axis : Int) (start : Option Int)
    (h1 : normalizeAxis a.ndim axis < a.ndim)
    (h2 : startOf a.ndim start < a.ndim) :
    a.rollaxis zero axis start =
      a.transpose zero (some ((rollaxisOrder a.ndim (normalizeAxis a.ndim axis) (startOf a.ndim start)).map Int.ofNat)) := by
  unfold Arr.rollaxis
  exact (if_neg (Nat.not_le.2 h1)).trans (if_neg (Nat.not_le.2 h2))

/-- **moving axes is transposing with the constructed order** (by definition of the code), for the accepted inputs -/
theorem moveaxis_eq_transpose (a : Arr α) (zero : α) (src dst : List Int)
    (h1 : src.Nodup) (h2 : src.length = dst.length)
    (h3 : (src.map (normalizeAxis a.ndim)).Nodup) (h4 : (dst.map (normalizeAxis a.ndim)).Nodup) :
    a.moveaxis zero src dst =
      a.transpose zero (some ((moveaxisOrder a.ndim (src.map (normalizeAxis a.ndim)) (dst.map (normalizeAxis a.ndim))).map Int.ofNat)) := by
  unfold Arr.moveaxis
  rw [if_neg (not_not_intro h1), if_neg (not_not_intro h2)]
  exact (if_neg (not_not_intro h3)).trans (if_neg (not_not_intro h4))

/-! ### `moveaxis`: the constructed order

`moveaxisOrder nd s d` is the list the Rust code builds: the unmoved axes in ascending order, then every
`(destination, source)` pair, sorted, inserted with `order.insert(d.min(order.len()), s)`.
`s`, `d` are the normalised source / destination lists. -/

/-- **the order built by `moveaxis` is a permutation of the axes** — for distinct in-range sources and *any*
destination list of the same length (destinations are only positions; the code clamps them, see
`moveaxisOrder_one`) -/
theorem moveaxisOrder_perm (nd : Nat) (s d : List Nat) (hs : s.Nodup) (hl : s.length = d.length)
    (hb : ∀ x ∈ s, x < nd) : (moveaxisOrder nd s d).Perm (List.range nd) :=
  (insAll_perm _ _).trans
    ((List.Perm.append_right _ (sortedPairs_snd_perm s d hl)).trans (source_append_rest_perm nd s hs hb))

/-- **axis `s[k]` ends up at position `d[k]`** (distinct in-range sources and destinations: no insertion is clamped,
and a later insertion never moves an earlier one) -/
theorem moveaxisOrder_at (nd : Nat) (s d : List Nat) (hs : s.Nodup) (hd : d.Nodup) (hl : s.length = d.length)
    (hb : ∀ x ∈ s, x < nd) (hdb : ∀ x ∈ d, x < nd) (k : Nat) (hk : k < s.length) :
    (moveaxisOrder nd s d)[d[k]'(by omega)]? = some s[k] := by
  have hlenL : ((d.zip s).mergeSort pairLe).length = s.length := by
    rw [List.length_mergeSort, List.length_zip, ← hl, Nat.min_self]
  have hrest : ((List.range nd).filter (fun f => !s.contains f)).length + s.length = nd := by
    have := (source_append_rest_perm nd s hs hb).length_eq
    rwa [List.length_append, List.length_range, Nat.add_comm] at this
  have hmem : (d[k]'(by omega), s[k]) ∈ (d.zip s).mergeSort pairLe :=
    List.mem_mergeSort.2 (List.mem_iff_getElem.2 ⟨k, by rw [List.length_zip]; omega, List.getElem_zip⟩)
  refine insAll_at_of_bounded _ _ (sortedPairs_pairwise s d hd (Nat.le_of_eq hl.symm)) (fun p hp => ?_) _ hmem
  rw [hlenL, hrest]
  exact hdb _ (List.of_mem_zip (List.mem_mergeSort.1 hp)).1

/-- **the unmoved axes keep their relative order**: deleting the moved axes from the order leaves `0..nd` without
them, ascending (every input) -/
theorem moveaxisOrder_rest_values (nd : Nat) (s d : List Nat) :
    (moveaxisOrder nd s d).filter (fun f => !s.contains f) = (List.range nd).filter (fun f => !s.contains f) := by
  rw [moveaxisOrder_eq, insAll_filter, List.filter_filter]
  · exact List.filter_congr fun x _ => Bool.and_self _
  · intro q hq
    have := (List.of_mem_zip (List.mem_mergeSort.1 hq)).2
    rw [List.contains_iff_mem.2 this]
    rfl

/-- **… and sit at the positions that are not destinations**: reading the order at the non-destination positions,
in ascending order, gives the unmoved axes in ascending order -/
theorem moveaxisOrder_rest (nd : Nat) (s d : List Nat) (hs : s.Nodup) (hd : d.Nodup) (hl : s.length = d.length)
    (hb : ∀ x ∈ s, x < nd) (hdb : ∀ x ∈ d, x < nd) :
    permute ((List.range nd).filter (fun i => !d.contains i)) (moveaxisOrder nd s d) =
      (List.range nd).filter (fun f => !s.contains f) := by
  have hlen : (moveaxisOrder nd s d).length = nd := (perm_range_iff.1 (moveaxisOrder_perm nd s d hs hl hb)).1
  have := permute_filter_range (moveaxisOrder nd s d) (fun i => !d.contains i) (fun f => !s.contains f) fun i hi => by
    show (!d.contains i) = !s.contains _
    rw [Bool.not_inj_iff, Bool.eq_iff_iff, List.contains_iff_mem, List.contains_iff_mem]
    exact (mem_iff_of_at _ s d ((moveaxisOrder_perm nd s d hs hl hb).symm.nodup List.nodup_range) hl
      (moveaxisOrder_at nd s d hs hd hl hb hdb) i hi).symm
  rwa [hlen, moveaxisOrder_rest_values] at this

/-- **the order of the opposite move is the inverse permutation**: `moveaxis d s` undoes `moveaxis s d` -/
theorem moveaxisOrder_inverse (nd : Nat) (s d : List Nat) (hs : s.Nodup) (hd : d.Nodup) (hl : s.length = d.length)
    (hb : ∀ x ∈ s, x < nd) (hdb : ∀ x ∈ d, x < nd) :
    moveaxisOrder nd d s = invAxes (moveaxisOrder nd s d) := by
  have ⟨hl1, _, hn1⟩ := perm_range_iff.1 (moveaxisOrder_perm nd s d hs hl hb)
  have hl2 := (perm_range_iff.1 (moveaxisOrder_perm nd d s hd hl.symm hdb)).1
  -- position `i` of the opposite order holds the position at which the order holds `i`
  refine eq_invAxes _ _ hn1 (hl2.trans hl1.symm) fun i j hij => ?_
  obtain ⟨hi, rfl⟩ := List.getElem?_eq_some_iff.1 hij
  rw [hl2] at hi
  by_cases his : i ∈ s
  · -- a moved axis: `s[k]` sits at `d[k]` in one order, `d[k]` at `s[k]` in the other
    obtain ⟨k, hk, rfl⟩ := List.getElem_of_mem his
    have h2 := moveaxisOrder_at nd d s hd hs hl.symm hdb hb k (hl ▸ hk)
    rw [(List.getElem?_eq_some_iff.1 h2).2]
    exact moveaxisOrder_at nd s d hs hd hl hb hdb k hk
  · -- an unmoved axis: the `t`-th of them sits at the `t`-th non-destination in one order, and conversely
    have := getElem?_of_permute_cross (i := i)
      (fun x hx => hl1.symm ▸ List.mem_range.1 (List.mem_filter.1 hx).1)
      (moveaxisOrder_rest nd s d hs hd hl hb hdb) (moveaxisOrder_rest nd d s hd hs hl.symm hdb hb)
      (List.mem_filter.2 ⟨List.mem_range.2 hi, by simpa using his⟩)
    rwa [getD_eq_getElem 0 (hl2.symm ▸ hi)] at this

/-! ### coordinate statements for `moveaxis`, `rollaxis`, `swapaxes` -/

/-- **moveaxis, coordinate form**: for distinct sources (as written and after normalisation, either spelling of an
axis), distinct destinations, equally many of both and in-range sources, `moveaxis` succeeds, the result has the
shape permuted by the constructed order `o`, and the input element at coordinate `c` is the result element at
coordinate `permute o c`.  `moveaxis_coord` says what `permute o c` looks like. -/
theorem moveaxis_spec (a : Arr α) (zero : α) (src dst : List Int) (hwf : a.WF)
    (h1 : src.Nodup) (h2 : src.length = dst.length)
    (h3 : (src.map (normalizeAxis a.ndim)).Nodup) (h4 : (dst.map (normalizeAxis a.ndim)).Nodup)
    (h5 : ∀ x ∈ src.map (normalizeAxis a.ndim), x < a.ndim)
    (o : List Nat) (ho : o = moveaxisOrder a.ndim (src.map (normalizeAxis a.ndim)) (dst.map (normalizeAxis a.ndim))) :
    ∃ r, a.moveaxis zero src dst = .ok r ∧ r.shape = permute o a.shape ∧ r.WF ∧
      ∀ c, inRange a.shape c = true → r.get? (permute o c) = a.get? c := by
  subst ho
  rw [moveaxis_eq_transpose a zero src dst h1 h2 h3 h4]
  refine transpose_nat_spec a zero _ hwf (moveaxisOrder_perm a.ndim _ _ h3 ?_ h5)
  rw [List.length_map, List.length_map, h2]

/-- **what the moved coordinate vector looks like**: with in-range destinations, position `d[k]` of the permuted
vector (coordinate or shape) holds entry `s[k]` of the original, and the remaining positions, read in ascending
order, hold the remaining entries in their original order -/
theorem moveaxis_coord (nd : Nat) (s d : List Nat) (hs : s.Nodup) (hd : d.Nodup) (hl : s.length = d.length)
    (hb : ∀ x ∈ s, x < nd) (hdb : ∀ x ∈ d, x < nd) (c : List Nat) :
    (∀ k (hk : k < s.length), (permute (moveaxisOrder nd s d) c)[d[k]'(by omega)]? = some (c.getD s[k] 0)) ∧
    permute ((List.range nd).filter (fun i => !d.contains i)) (permute (moveaxisOrder nd s d) c) =
      permute ((List.range nd).filter (fun i => !s.contains i)) c := by
  constructor
  · intro k hk
    unfold permute
    rw [List.getElem?_map, moveaxisOrder_at nd s d hs hd hl hb hdb k hk, Option.map_some]
  · have hlen : (moveaxisOrder nd s d).length = nd := (perm_range_iff.1 (moveaxisOrder_perm nd s d hs hl hb)).1
    rw [permute_permute _ _ _ fun x hx => by rw [hlen]; exact List.mem_range.1 (List.mem_filter.1 hx).1,
      moveaxisOrder_rest nd s d hs hd hl hb hdb]

/-- **moving a single axis** from `i` to `j` (either spelling): the coordinate `c[i]` is taken out and re-inserted
at position `j`, the others keep their order; a destination at or past the last axis is clamped by the code's
`d.min(order.len())` and means "last" -/
theorem moveaxis_single (a : Arr α) (zero : α) (i j : Int) (hwf : a.WF) (i' p : Nat)
    (hi' : i' = normalizeAxis a.ndim i) (hi : i' < a.ndim) (hp : p = min (normalizeAxis a.ndim j) (a.ndim - 1)) :
    ∃ r, a.moveaxis zero [i] [j] = .ok r ∧ r.shape = (a.shape.eraseIdx i').insertIdx p (a.shape.getD i' 0) ∧ r.WF ∧
      ∀ c, inRange a.shape c = true → r.get? ((c.eraseIdx i').insertIdx p (c.getD i' 0)) = a.get? c := by
  subst hi' hp
  rw [moveaxis_eq_transpose a zero [i] [j] (List.nodup_singleton _) rfl (List.nodup_singleton _) (List.nodup_singleton _)]
  simp only [List.map_cons, List.map_nil, moveaxisOrder_one _ _ _ hi]
  exact permute_spec_congr _ (fun c hc => permute_rollaxisOrder a.ndim _ _ c hc)
    (transpose_nat_spec a zero _ hwf (rollaxisOrder_perm a.ndim _ _ hi (by omega)))

/-- **rollaxis, coordinate form**: coordinate `axis` is taken out and re-inserted at position `start` -/
theorem rollaxis_spec (a : Arr α) (zero : α) (axis : Int) (start : Option Int) (hwf : a.WF) (ax st : Nat)
    (hax : ax = normalizeAxis a.ndim axis) (hst : st = startOf a.ndim start) (h1 : ax < a.ndim) (h2 : st < a.ndim) :
    ∃ r, a.rollaxis zero axis start = .ok r ∧ r.shape = (a.shape.eraseIdx ax).insertIdx st (a.shape.getD ax 0) ∧ r.WF ∧
      ∀ c, inRange a.shape c = true → r.get? ((c.eraseIdx ax).insertIdx st (c.getD ax 0)) = a.get? c := by
  subst hax hst
  rw [rollaxis_eq_transpose a zero axis start h1 h2]
  exact permute_spec_congr _ (fun c hc => permute_rollaxisOrder a.ndim _ _ c hc)
    (transpose_nat_spec a zero _ hwf (rollaxisOrder_perm a.ndim _ _ h1 h2))

/-- **swapaxes, coordinate form**: coordinates `i` and `j` are exchanged, nothing else moves -/
theorem swapaxes_spec (a : Arr α) (zero : α) (ax1 ax2 : Int) (hwf : a.WF) (i j : Nat)
    (hi : i = normalizeAxis a.ndim ax1) (hj : j = normalizeAxis a.ndim ax2) (h1 : i < a.ndim) (h2 : j < a.ndim) :
    ∃ r, a.swapaxes zero ax1 ax2 = .ok r ∧
      r.shape = (a.shape.set i (a.shape.getD j 0)).set j (a.shape.getD i 0) ∧ r.WF ∧
      ∀ c, inRange a.shape c = true → r.get? ((c.set i (c.getD j 0)).set j (c.getD i 0)) = a.get? c := by
  subst hi hj
  rw [swapaxes_eq_transpose a zero ax1 ax2 h1 h2]
  exact permute_spec_congr _ (fun c hc => permute_swapOrder a.ndim _ _ c hc h1 h2)
    (transpose_nat_spec a zero _ hwf (swapOrder_perm a.ndim _ _ h1 h2))

/-- **moving `s → d` and then `d → s` restores the array** -/
theorem moveaxis_inverse (a : Arr α) (zero : α) (src dst : List Int) (hwf : a.WF)
    (h1 : src.Nodup) (h2 : src.length = dst.length)
    (h3 : (src.map (normalizeAxis a.ndim)).Nodup) (h4 : (dst.map (normalizeAxis a.ndim)).Nodup)
    (h5 : ∀ x ∈ src.map (normalizeAxis a.ndim), x < a.ndim) (h6 : ∀ x ∈ dst.map (normalizeAxis a.ndim), x < a.ndim) :
    (a.moveaxis zero src dst >>= fun r => r.moveaxis zero dst src) = .ok a := by
  have hl : (src.map (normalizeAxis a.ndim)).length = (dst.map (normalizeAxis a.ndim)).length := by
    rw [List.length_map, List.length_map, h2]
  have hp := moveaxisOrder_perm a.ndim _ _ h3 hl h5
  obtain ⟨r, g1, g2, _, _⟩ := moveaxis_spec a zero src dst hwf h1 h2 h3 h4 h5 _ rfl
  have hrnd : r.ndim = a.ndim := by rw [Arr.ndim, g2, permute_length]; exact (perm_range_iff.1 hp).1
  have hinv := transpose_inv a zero _ hwf hp
  rw [← moveaxis_eq_transpose a zero src dst h1 h2 h3 h4, g1, Res.bind_ok] at hinv
  rw [g1, Res.bind_ok, moveaxis_eq_transpose r zero dst src (List.Nodup.of_map _ h4) h2.symm (hrnd ▸ h4) (hrnd ▸ h3),
    hrnd, moveaxisOrder_inverse a.ndim _ _ h3 h4 hl h5 h6]
  exact hinv

/-! ### `moveaxis` refusals -/

/-- **a repeated source axis (as written or after normalisation), a repeated destination axis or lists of different
lengths are refused with an error** -/
theorem moveaxis_rejects (a : Arr α) (zero : α) (src dst : List Int)
    (h : ¬ (src.Nodup ∧ src.length = dst.length ∧
      (src.map (normalizeAxis a.ndim)).Nodup ∧ (dst.map (normalizeAxis a.ndim)).Nodup)) :
    ∃ e, a.moveaxis zero src dst = .err e := by
  unfold Arr.moveaxis
  by_cases h1 : src.Nodup
  · by_cases h2 : src.length = dst.length
    · rw [if_neg (not_not_intro h1), if_neg (not_not_intro h2)]
      by_cases h3 : (src.map (normalizeAxis a.ndim)).Nodup
      · exact ⟨_, (if_neg (not_not_intro h3)).trans (if_pos fun h4 => h ⟨h1, h2, h3, h4⟩)⟩
      · exact ⟨_, if_pos h3⟩
    · exact ⟨_, (if_neg (not_not_intro h1)).trans (if_pos h2)⟩
  · exact ⟨_, if_pos h1⟩

/-- **an out-of-range source axis is refused with an error** (the constructed order then contains it, so `transpose`
refuses the order).  Out-of-range *destinations* are not refused: the code clamps them to the end
(`moveaxis_spec` has no hypothesis on the destinations' range, `moveaxis_single` shows the clamp). -/
theorem moveaxis_rejects_source_range (a : Arr α) (zero : α) (src dst : List Int)
    (h : ∃ x ∈ src.map (normalizeAxis a.ndim), a.ndim ≤ x) :
    ∃ e, a.moveaxis zero src dst = .err e := by
  by_cases hacc : src.Nodup ∧ src.length = dst.length ∧
      (src.map (normalizeAxis a.ndim)).Nodup ∧ (dst.map (normalizeAxis a.ndim)).Nodup
  · obtain ⟨h1, h2, h3, h4⟩ := hacc
    rw [moveaxis_eq_transpose a zero src dst h1 h2 h3 h4]
    apply transpose_rejects
    rw [axesOf_some_ofNat]
    intro hperm
    obtain ⟨x, hx, hge⟩ := h
    have hxo : x ∈ moveaxisOrder a.ndim (src.map (normalizeAxis a.ndim)) (dst.map (normalizeAxis a.ndim)) := by
      rw [moveaxisOrder_eq, (insAll_perm _ _).mem_iff, List.mem_append]
      exact .inl ((sortedPairs_snd_perm _ _ (by rw [List.length_map, List.length_map, h2])).mem_iff.2 hx)
    exact Nat.not_lt.2 hge (List.mem_range.1 (hperm.mem_iff.1 hxo))
  · exact moveaxis_rejects a zero src dst hacc

/-- **no input makes the axis operations panic** -/
theorem transpose_never_panics (a : Arr α) (zero : α) (axes : Option (List Int)) : a.transpose zero axes ≠ .panic :=
  Res.bind_ne_panic (validAxes_not_panic _ _) fun _ _ => Arr.new_ne_panic _ _

theorem moveaxis_never_panics (a : Arr α) (zero : α) (src dst : List Int) : a.moveaxis zero src dst ≠ .panic :=
  Res.ite_ne_panic (fun _ => nofun) fun _ => Res.ite_ne_panic (fun _ => nofun) fun _ =>
    Res.ite_ne_panic (fun _ => nofun) fun _ => Res.ite_ne_panic (fun _ => nofun) fun _ => transpose_never_panics a zero _

/-! ### non-vacuity -/
example : (axesOf 3 (some [2, 0, -2])).Perm (List.range 3) := by decide +kernel
example : (⟨List.range 24, [2, 3, 4]⟩ : Arr Nat).WF := by decide +kernel
example : (⟨List.range 6, [2, 3]⟩ : Arr Nat).transpose 0 none = .ok ⟨[0, 3, 1, 4, 2, 5], [3, 2]⟩ := by decide +kernel
example : rollaxisOrder 4 2 0 = [2, 0, 1, 3] := by decide +kernel

/-! ### non-vacuity: `moveaxis` -/
-- unsorted destinations: axis 0 lands at position 3, axis 1 at position 1, the rest `[2, 3]` stays ascending
example : moveaxisOrder 4 [0, 1] [3, 1] = [2, 1, 3, 0] := by
  have : ([3, 1].zip [0, 1]).mergeSort pairLe = [(1, 1), (3, 0)] := by simp [List.mergeSort, pairLe]
  rw [moveaxisOrder_eq, this]
  rfl
-- a destination past the end is clamped to "last"
example : moveaxisOrder 3 [0] [7] = [1, 2, 0] := by decide +kernel
-- both spellings normalise to the lists the theorems talk about
example : ([0, -3] : List Int).map (normalizeAxis 4) = [0, 1] ∧ ([-1, 1] : List Int).map (normalizeAxis 4) = [3, 1] := by decide +kernel
-- the hypotheses of `moveaxis_spec` / `moveaxis_inverse` are satisfiable
example : ∃ r, (⟨List.range 24, [2, 3, 4]⟩ : Arr Nat).moveaxis 0 [0, -1] [-1, 0] = .ok r ∧ r.WF :=
  let ⟨r, h, _, hw, _⟩ := moveaxis_spec (⟨List.range 24, [2, 3, 4]⟩ : Arr Nat) 0 [0, -1] [-1, 0]
    (by decide +kernel) (by decide +kernel) (by decide +kernel) (by decide +kernel) (by decide +kernel) (by decide +kernel) _ rfl
  ⟨r, h, hw⟩
example : ((⟨List.range 24, [2, 3, 4]⟩ : Arr Nat).moveaxis 0 [0, -1] [1, 0] >>= fun r => r.moveaxis 0 [1, 0] [0, -1]) =
    .ok ⟨List.range 24, [2, 3, 4]⟩ :=
  moveaxis_inverse _ 0 [0, -1] [1, 0] (by decide +kernel) (by decide +kernel) (by decide +kernel) (by decide +kernel) (by decide +kernel) (by decide +kernel) (by decide +kernel)
example : (⟨List.range 6, [2, 3]⟩ : Arr Nat).moveaxis 0 [0] [-1] = .ok ⟨[0, 3, 1, 4, 2, 5], [3, 2]⟩ := by decide +kernel
-- refusals
example : (⟨List.range 6, [2, 3]⟩ : Arr Nat).moveaxis 0 [0, -2] [1, 0] = .err .MustBeUnique := by decide +kernel
example : (⟨List.range 6, [2, 3]⟩ : Arr Nat).moveaxis 0 [0, 1] [1] = .err .MustBeEqual := by decide +kernel
example : ∃ e, (⟨List.range 6, [2, 3]⟩ : Arr Nat).moveaxis 0 [5] [0] = .err e :=
  moveaxis_rejects_source_range _ _ _ _ ⟨5, by decide, by decide⟩

/-! ## The same properties for the code as TRANSLATED FROM THE SOURCE

`ArrModel.Gen.Core.Array_moveaxis`, `Array_rollaxis`, `Array_swapaxes` are regenerated from `src/core/operations/axis.rs` by
`tools/rs2lean.py` on every run.  `transpose` itself is outside the translated subset; the generated definitions take it as a
parameter, instantiated here with the hand-written `Arr.transpose zero` (the model of the theorems above).
`ArrProofs/Lemmas/GenCoreAxis.lean` proves the generated definitions equal to the hand-written ones for all inputs. -/

open ArrModel.Gen.Core in
/-- **moveaxis (translated source)**: on a well-formed array with distinct in-range sources the result has the shape permuted by the
constructed order, and every element moves to the permuted coordinate.
(Uses the equivalence up to the error variant, `moveaxis_sim`: the order of the validations in the source is immaterial.) -/
theorem gen_moveaxis_spec (a : Arr α) (zero : α) (src dst : List Int) (hwf : a.WF)
    (h1 : src.Nodup) (h2 : src.length = dst.length)
    (h3 : (src.map (normalizeAxis a.ndim)).Nodup) (h4 : (dst.map (normalizeAxis a.ndim)).Nodup)
    (h5 : ∀ x ∈ src.map (normalizeAxis a.ndim), x < a.ndim)
    (o : List Nat) (ho : o = moveaxisOrder a.ndim (src.map (normalizeAxis a.ndim)) (dst.map (normalizeAxis a.ndim))) :
    ∃ r, Array_moveaxis (fun x ax => x.transpose zero ax) a src dst = .ok r ∧ r.shape = permute o a.shape ∧ r.WF ∧
      ∀ c, inRange a.shape c = true → r.get? (permute o c) = a.get? c := by
  obtain ⟨r, hr, rest⟩ := moveaxis_spec a zero src dst hwf h1 h2 h3 h4 h5 o ho
  exact ⟨r, Res.sameClass_ok_right (hr ▸ moveaxis_sim a zero src dst), rest⟩

open ArrModel.Gen.Core in
/-- a repeated source / destination axis or lists of different lengths are refused with an error -/
theorem gen_moveaxis_rejects (a : Arr α) (zero : α) (src dst : List Int)
    (h : ¬ (src.Nodup ∧ src.length = dst.length ∧
      (src.map (normalizeAxis a.ndim)).Nodup ∧ (dst.map (normalizeAxis a.ndim)).Nodup)) :
    ∃ e, Array_moveaxis (fun x ax => x.transpose zero ax) a src dst = .err e := by
  obtain ⟨e, he⟩ := moveaxis_rejects a zero src dst h
  exact Res.sameClass_err_right (he ▸ moveaxis_sim a zero src dst)

open ArrModel.Gen.Core in
theorem gen_moveaxis_never_panics (a : Arr α) (zero : α) (src dst : List Int) :
    Array_moveaxis (fun x ax => x.transpose zero ax) a src dst ≠ .panic :=
  Res.sameClass_not_panic (moveaxis_sim a zero src dst) (moveaxis_never_panics a zero src dst)

open ArrModel.Gen.Core in
/-- **rollaxis (translated source)** is, up to the error variant, the transposition by `rollaxisOrder` for in-range arguments -/
theorem gen_rollaxis_eq_transpose (a : Arr α) (zero : α) (axis : Int) (start : Option Int)
    (h1 : normalizeAxis a.ndim axis < a.ndim) (h2 : startOf a.ndim start < a.ndim) :
    Res.sameClass (Array_rollaxis (fun x ax => x.transpose zero ax) a axis start)
      (a.transpose zero (some ((rollaxisOrder a.ndim (normalizeAxis a.ndim axis) (startOf a.ndim start)).map Int.ofNat))) := by
  rw [← rollaxis_eq_transpose a zero axis start h1 h2]; exact rollaxis_sim a zero axis start

open ArrModel.Gen.Core in
/-- **swapaxes (translated source)** is, up to the error variant, the transposition by `swapOrder` for in-range axes … -/
theorem gen_swapaxes_eq_transpose (a : Arr α) (zero : α) (ax1 ax2 : Int)
    (h1 : normalizeAxis a.ndim ax1 < a.ndim) (h2 : normalizeAxis a.ndim ax2 < a.ndim) :
    Res.sameClass (Array_swapaxes (fun x ax => x.transpose zero ax) a ax1 ax2)
      (a.transpose zero (some ((swapOrder a.ndim (normalizeAxis a.ndim ax1) (normalizeAxis a.ndim ax2)).map Int.ofNat))) := by
  rw [← swapaxes_eq_transpose a zero ax1 ax2 h1 h2]; exact swapaxes_sim a zero ax1 ax2

open ArrModel.Gen.Core in
/-- … and refuses the others -/
theorem gen_swapaxes_rejects (a : Arr α) (zero : α) (ax1 ax2 : Int)
    (h : ¬ (normalizeAxis a.ndim ax1 < a.ndim ∧ normalizeAxis a.ndim ax2 < a.ndim)) :
    ∃ e, Array_swapaxes (fun x ax => x.transpose zero ax) a ax1 ax2 = .err e :=
  Res.sameClass_err_right (swapaxes_rejects a zero ax1 ax2 h ▸ swapaxes_sim a zero ax1 ax2)

example : ArrModel.Gen.Core.Array_moveaxis (fun x ax => x.transpose 0 ax) (⟨List.range 6, [2, 3]⟩ : Arr Nat) [0, 1] [1] = .err .MustBeEqual := by decide +kernel
example : ArrModel.Gen.Core.Array_swapaxes (fun x ax => x.transpose 0 ax) (⟨List.range 6, [2, 3]⟩ : Arr Nat) 0 (-1)
    = .ok ⟨[0, 3, 1, 4, 2, 5], [3, 2]⟩ := by decide +kernel

end ArrModel.C06
