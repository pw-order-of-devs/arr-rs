import ArrProofs.Lemmas.C11OneD
import ArrProofs.Lemmas.C11Conv
/-!
# C11 — joining lays the inputs contiguously along the axis; splitting is its inverse

Model under test: `ArrModel/Split.lean` (`sectionSizes`, `divPoints`, `arraySplit`, `split`, `splitAxis`) and
`ArrModel/Joining.lean` (`appendAxis`, `append`, `validateStackShapes`, `concatenate`, `stack`, `vstack`, `hstack`,
`dstack`, `rowStack`, `hsplit`, `vsplit`, `dsplit`).  Every statement is for every rank, every axis (first, inner,
last), every axis length and every part count; no bounds.

Vocabulary: `a.get? c` is the element at coordinate `c`; `c.set k x` replaces coordinate `k`; `inRange s c` says `c` is a
coordinate inside shape `s`; `axLen k b = b.shape[k]`; `offsetOf k arrs i` = the sum of the axis-`k` lengths of the first `i`
inputs (where input `i` starts); `blockOf L sizes i = (L.drop (sizes[0]+…+sizes[i-1])).take sizes[i]`;
`Joinable k a0 rest` = all inputs well formed, axis `k` inside every rank, shapes equal with axis `k` removed
(zero-length axes allowed, on or off the axis); `colsOf b` = 1 for a vector, `b.shape[1]` for a matrix; `colCoord b row col` = `[row]` for a
vector, `[row, col]` for a matrix; `ColOK R b` = well formed of shape `[R]` or `[R, m]`.
-/
namespace ArrModel.C11
open ArrModel Arr
variable {α : Type}

/-! ## section sizes and division points -/

/-- **section sizes**: `parts` of them, summing to `n`, the first `n % parts` are `n / parts + 1` and the others
`n / parts` (so they differ by at most one, larger first), all equal when `parts ∣ n` -/
theorem sectionSizes_spec (n parts : Nat) (hp : 0 < parts) :
    (sectionSizes n parts).length = parts ∧ (sectionSizes n parts).sum = n ∧
    (∀ i, i < parts → (sectionSizes n parts)[i]? = some (if i < n % parts then n / parts + 1 else n / parts)) ∧
    (n % parts = 0 → sectionSizes n parts = List.replicate parts (n / parts)) :=
  ⟨sectionSizes_length n parts hp, sectionSizes_sum n parts hp, fun i hi => sectionSizes_getElem? n parts i hi,
    sectionSizes_dvd n parts⟩

/-- **larger sections come first and sizes differ by at most one** -/
theorem sectionSizes_larger_first (n parts i j : Nat) (hij : i ≤ j) (hj : j < parts) :
    (sectionSizes n parts).getD j 0 ≤ (sectionSizes n parts).getD i 0 ∧
    (sectionSizes n parts).getD i 0 ≤ (sectionSizes n parts).getD j 0 + 1 := by
  simp only [List.getD_eq_getElem?_getD, sectionSizes_getElem? n parts i (Nat.lt_of_le_of_lt hij hj),
    sectionSizes_getElem? n parts j hj, Option.getD_some]
  by_cases hjr : j < n % parts
  · rw [if_pos hjr, if_pos (Nat.lt_of_le_of_lt hij hjr)]
    exact ⟨Nat.le_refl _, Nat.le_succ _⟩
  · rw [if_neg hjr]
    by_cases hir : i < n % parts
    · rw [if_pos hir]
      exact ⟨Nat.le_succ _, Nat.le_refl _⟩
    · rw [if_neg hir]
      exact ⟨Nat.le_refl _, Nat.le_succ _⟩

/-- **division points are the prefix sums of the sizes**: one more than the sizes, starting at 0, ending at the total,
non-decreasing -/
theorem divPoints_spec (sizes : List Nat) :
    (divPoints sizes).length = sizes.length + 1 ∧
    (∀ i, i ≤ sizes.length → (divPoints sizes)[i]? = some (sizes.take i).sum) ∧
    (divPoints sizes)[0]? = some 0 ∧ (divPoints sizes)[sizes.length]? = some sizes.sum ∧
    (∀ i j, i ≤ j → (sizes.take i).sum ≤ (sizes.take j).sum) := by
  refine ⟨divPoints_length sizes, fun i hi => divPoints_getElem? sizes i hi, ?_, ?_, sum_take_le sizes⟩
  · rw [divPoints_getElem? sizes 0 (Nat.zero_le _)]; rfl
  · rw [divPoints_getElem? sizes _ (Nat.le_refl _), List.take_length]

/-! ## splitting a 1-D array -/

/-- **the pieces of a 1-D split are the consecutive blocks of the element list with the section sizes** -/
theorem arraySplit_1d (a : Arr α) (zero : α) (parts n : Nat) (hwf : a.WF) (hs : a.shape = [n]) (hn : 0 < n)
    (hp : 0 < parts) :
    a.arraySplit zero parts (some 0) =
      .ok ((List.range parts).map (fun i => Arr.flat (blockOf a.elems (sectionSizes n parts) i))) ∧
    a.arraySplit zero parts none = a.arraySplit zero parts (some 0) :=
  ⟨arraySplit_flat1d a zero parts n hwf hs hn hp, arraySplit_none a zero parts⟩

/-- **1-D round trip**: chaining the pieces gives the element list back, and `concatenate(pieces, None)` is the array -/
theorem concat_split_id_flat (a : Arr α) (zero : α) (parts n : Nat) (hwf : a.WF) (hs : a.shape = [n]) (hn : 0 < n)
    (hp : 0 < parts) :
    ∃ pieces, a.arraySplit zero parts none = .ok pieces ∧ pieces.flatMap (·.elems) = a.elems ∧
      ∃ r, concatenate pieces zero none = .ok r ∧ r.elems = a.elems := by
  obtain ⟨h1, h2⟩ := arraySplit_1d a zero parts n hwf hs hn hp
  have hL : a.elems.length = n := by rw [hwf, hs, List.prod_cons, List.prod_nil, Nat.mul_one]
  have hfl : ((List.range parts).map (fun i => Arr.flat (blockOf a.elems (sectionSizes n parts) i))).flatMap (·.elems)
      = a.elems := by
    rw [List.flatMap_map]
    have := blocks_flatten a.elems (sectionSizes n parts) (by rw [sectionSizes_sum n parts hp, hL])
    rw [sectionSizes_length n parts hp] at this
    exact this
  refine ⟨_, h2.trans h1, hfl, ?_⟩
  cases hpc : (List.range parts).map (fun i => Arr.flat (blockOf a.elems (sectionSizes n parts) i)) with
  | nil =>
    have := congrArg List.length hpc
    rw [List.length_map, List.length_range] at this
    exact absurd this (Nat.ne_of_gt hp)
  | cons p0 prest =>
    obtain ⟨r, g1, g2⟩ := concatenate_none_elems zero p0 prest
    exact ⟨r, g1, by rw [g2, ← hpc, hfl]⟩

/-! ## splitting along an axis -/

/-- **`array_split` along axis `k`**: `parts` pieces; piece `i` has the input shape with axis `k` cut down to
`sizes[i]`, and its element at `c` is the input element at `c` moved by the block offset `sizes[0]+…+sizes[i-1]`
along axis `k` — the pieces are consecutive blocks along that axis -/
theorem arraySplit_at (a : Arr α) (zero : α) (parts k : Nat) (hwf : a.WF) (hnz : 0 ∉ a.shape) (hp : 0 < parts)
    (hk : k < a.ndim) :
    ∃ pieces, a.arraySplit zero parts (some k) = .ok pieces ∧ pieces.length = parts ∧
      ∀ i (hi : i < pieces.length),
        pieces[i].shape = a.shape.set k ((sectionSizes (a.shape.getD k 0) parts).getD i 0) ∧ pieces[i].WF ∧
        ∀ c, inRange pieces[i].shape c = true →
          pieces[i].get? c = a.get? (c.set k (((sectionSizes (a.shape.getD k 0) parts).take i).sum + c.getD k 0)) := by
  obtain ⟨P, Q, rfl, hs, _⟩ := exists_cut a.shape k hk
  generalize a.shape.getD P.length 0 = n at hs ⊢
  obtain ⟨pieces, h1, h2, h3⟩ := arraySplit_cut a zero parts n P Q hwf hs hnz hp
  refine ⟨pieces, h1, h2, fun i hi => ?_⟩
  obtain ⟨g1, g2, g3⟩ := h3 i hi
  refine ⟨by rw [g1, hs, set_mid], g2, fun c hc => ?_⟩
  rw [g1] at hc
  exact (shift_of_cut a.get? pieces[i].get? (((sectionSizes n parts).take i).sum + ·) P Q _
    (fun p q j hp' hq hj => (g3 p q j hp' hq hj).symm) c hc).symm

/-- **`split` is `array_split` when the part count divides the axis length, and an error otherwise** -/
theorem split_spec (a : Arr α) (zero : α) (parts k : Nat) (hwf : a.WF) (hnz : 0 ∉ a.shape) (hp : 0 < parts)
    (hk : k < a.ndim) :
    a.split zero parts (some k) =
      if a.shape.getD k 0 % parts = 0 then a.arraySplit zero parts (some k) else .err .ParameterError := by
  rw [split_eq, if_neg (Nat.not_le.2 hk), if_neg (Nat.ne_of_gt hp), if_neg (mt (isEmpty_iff_zero_mem a hwf).1 hnz), idx_getD a.shape k hk,
    Res.bind_ok]

/-- **refusals of splitting**: zero parts and an axis outside the rank are errors (never a panic, never data) -/
theorem split_refuses (a : Arr α) (zero : α) (parts k : Nat) :
    (parts = 0 → (∃ e, a.arraySplit zero parts (some k) = .err e) ∧ (∃ e, a.split zero parts (some k) = .err e)) ∧
    (a.ndim ≤ k → (∃ e, a.arraySplit zero parts (some k) = .err e) ∧ (∃ e, a.split zero parts (some k) = .err e) ∧
      a.splitAxis zero k = .err .AxisOutOfBounds) := by
  constructor
  · intro h0
    refine ⟨⟨_, by rw [arraySplit_eq, if_pos h0]⟩, ?_⟩
    rw [split_eq]
    by_cases hk : a.ndim ≤ k
    · exact ⟨_, if_pos hk⟩
    · exact ⟨_, by rw [if_neg hk, if_pos h0]⟩
  · intro hk
    refine ⟨?_, ⟨_, by rw [split_eq, if_pos hk]⟩, by rw [splitAxis_eq, if_pos hk]⟩
    rw [arraySplit_eq]
    by_cases h0 : parts = 0
    · exact ⟨_, if_pos h0⟩
    · exact ⟨_, by rw [if_neg h0, if_pos hk]⟩

/-- **splitting never panics** on a well-formed array: every call is data or an error.  The proof does not use `hnz`;
`split_total` says the same of every splitting function without it. -/
theorem split_no_panic (a : Arr α) (zero : α) (parts k : Nat) (hwf : a.WF) (hnz : 0 ∉ a.shape) :
    a.arraySplit zero parts (some k) ≠ .panic ∧ a.split zero parts (some k) ≠ .panic :=
  ⟨arraySplit_ne_panic a zero hwf parts k, split_ne_panic a zero hwf parts k⟩

/-- **the default axis of splitting and stacking is axis 0** — for splitting on every rank (a rank-0 receiver is refused
with either spelling: the code validates the DEFAULTED axis, /repo 3685e2a), for stacking on inputs of rank ≥ 1 -/
theorem none_axis_is_zero (a : Arr α) (zero : α) (parts : Nat) (rest : List (Arr α)) :
    a.arraySplit zero parts none = a.arraySplit zero parts (some 0) ∧
    a.split zero parts none = a.split zero parts (some 0) ∧
    (1 ≤ a.ndim → (∀ b ∈ rest, 1 ≤ b.ndim) → stack (a :: rest) zero none = stack (a :: rest) zero (some 0)) := by
  refine ⟨arraySplit_none a zero parts, split_none a zero parts, ?_⟩
  intro h hr
  have hin : ¬ ∃ b ∈ a :: rest, b.ndim ≤ 0 := by
    rintro ⟨b, hb, hle⟩
    rcases List.mem_cons.1 hb with rfl | hb
    · exact Nat.not_le.2 h hle
    · exact Nat.not_le.2 (hr b hb) hle
  rw [stack_none_eq, stack_some_eq, if_neg hin]

/-- **a rank-0 receiver is refused by `array_split` / `split` with the default axis** (`axis = None` stands for axis 0,
which a rank-0 array does not have): `Err(AxisOutOfBounds)` — never a panic at `shape[0]`, never data; zero parts are
refused first by `array_split` (`ParameterError`), the axis first by `split`.  No well-formedness needed. -/
theorem split_rank0_refused (a : Arr α) (zero : α) (parts : Nat) (h0 : a.ndim = 0) :
    a.arraySplit zero parts none = (if parts = 0 then .err .ParameterError else .err .AxisOutOfBounds) ∧
    a.split zero parts none = .err .AxisOutOfBounds ∧
    (∀ k, a.arraySplit zero parts (some k) = (if parts = 0 then .err .ParameterError else .err .AxisOutOfBounds)) ∧
    (∀ k, a.split zero parts (some k) = .err .AxisOutOfBounds) := by
  have hle : ∀ k : Nat, a.ndim ≤ k := fun k => h0 ▸ Nat.zero_le k
  have h1 : ∀ k, a.arraySplit zero parts (some k) = (if parts = 0 then .err .ParameterError else .err .AxisOutOfBounds) :=
    fun k => by rw [arraySplit_eq, if_pos (hle k)]
  have h2 : ∀ k, a.split zero parts (some k) = .err .AxisOutOfBounds := fun k => by rw [split_eq, if_pos (hle k)]
  exact ⟨(arraySplit_none a zero parts).trans (h1 0), (split_none a zero parts).trans (h2 0), h1, h2⟩

/-! ## joining -/

/-- **`append` along axis `k`**: the axis length of the result is the sum; the first input keeps its coordinates, the
second occupies, unchanged, the block that follows it -/
theorem appendAxis_at (a v : Arr α) (zero : α) (k : Nat) (hwa : a.WF) (hwv : v.WF) (hk : k < a.ndim) (hkv : k < v.ndim)
    (hoff : a.shape.eraseIdx k = v.shape.eraseIdx k) :
    ∃ r, a.append v zero (some k) = .ok r ∧ r.shape = a.shape.set k (a.shape.getD k 0 + v.shape.getD k 0) ∧ r.WF ∧
      (∀ c, inRange a.shape c = true → r.get? c = a.get? c) ∧
      (∀ c, inRange v.shape c = true → r.get? (c.set k (a.shape.getD k 0 + c.getD k 0)) = v.get? c) := by
  obtain ⟨P, Q, rfl, hs, her⟩ := exists_cut a.shape k hk
  have hsv := shape_cut_of_eraseIdx v.shape P.length P Q hkv rfl (by rw [← hoff, her])
  generalize a.shape.getD P.length 0 = na at hs ⊢
  generalize v.shape.getD P.length 0 = nv at hsv ⊢
  obtain ⟨r, h1, h2, h3, h4, h5⟩ := appendAxis_cut a v zero na nv P Q hwa hwv hs hsv
  refine ⟨r, h1, by rw [h2, hs, set_mid], h3, fun c hc => ?_, fun c hc => ?_⟩
  · rw [hs] at hc
    obtain ⟨p, j, q, rfl, hp', hj, hq⟩ := inRange_cut _ _ _ _ hc
    exact h4 p q j hp' hq hj
  · rw [hsv] at hc
    exact shift_of_cut r.get? v.get? (na + ·) P Q nv h5 c hc

/-- **`concatenate` along axis `k`** of inputs that agree off the axis: the result has the axis length = the sum of the
inputs' lengths, and input `i` occupies, unchanged, the block `[off_i, off_i + n_i)` along the axis -/
theorem concatenate_at (zero : α) (k : Nat) (a0 : Arr α) (rest : List (Arr α)) (h : Joinable k a0 rest) :
    ∃ r, concatenate (a0 :: rest) zero (some k) = .ok r ∧
      r.shape = a0.shape.set k (((a0 :: rest).map (axLen k)).sum) ∧ r.WF ∧
      ∀ i (hi : i < (a0 :: rest).length) c, inRange ((a0 :: rest)[i]).shape c = true →
        r.get? (c.set k (offsetOf k (a0 :: rest) i + c.getD k 0)) = ((a0 :: rest)[i]).get? c :=
  concatenate_coord zero k a0 rest h

/-- **along axis 0 the result is the chained element lists** -/
theorem concatenate_axis0_flat (zero : α) (a0 : Arr α) (rest : List (Arr α)) (h : Joinable 0 a0 rest) :
    concatenate (a0 :: rest) zero (some 0) =
      .ok ⟨(a0 :: rest).flatMap (·.elems), a0.shape.set 0 (((a0 :: rest).map (axLen 0)).sum)⟩ := by
  have hk0 : 0 < a0.shape.length := (h a0 List.mem_cons_self).2.1
  cases hs : a0.shape with
  | nil => rw [hs] at hk0; exact absurd hk0 (Nat.lt_irrefl 0)
  | cons n Q =>
    have := concatenate_axis0 zero Q a0 rest (fun b hb => by
      obtain ⟨g1, g2, g3⟩ := h b hb
      refine ⟨g1, ?_⟩
      exact shape_cut_of_eraseIdx b.shape 0 [] Q g2 rfl (by rw [g3, hs]; rfl))
    rw [this]; rfl

/-- **`concatenate(…, None)` chains the element lists** (as a flat array when there are two or more inputs; a single
input is returned as it is) -/
theorem concatenate_none (zero : α) (a0 : Arr α) (rest : List (Arr α)) :
    (∃ r, concatenate (a0 :: rest) zero none = .ok r ∧ r.elems = (a0 :: rest).flatMap (·.elems)) ∧
    (rest ≠ [] → concatenate (a0 :: rest) zero none = .ok (Arr.flat ((a0 :: rest).flatMap (·.elems)))) := by
  refine ⟨concatenate_none_elems zero a0 rest, ?_⟩
  intro hne
  cases rest with
  | nil => exact absurd rfl hne
  | cons b rest => exact concatenate_none_two zero a0 b rest

/-- **inputs whose other axes differ are refused**: by `append` (rank or off-axis mismatch) and by `concatenate`
(an axis outside some rank, or some input differing from the first off the axis) — an error, never data or a panic -/
theorem mismatch_refused (zero : α) (k : Nat) (a0 : Arr α) (rest : List (Arr α)) :
    (∀ v : Arr α, (a0.ndim ≠ v.ndim ∨ a0.shape.eraseIdx k ≠ v.shape.eraseIdx k) → ∃ e, a0.append v zero (some k) = .err e) ∧
    ((∃ b ∈ a0 :: rest, k ≥ b.ndim ∨ b.shape.eraseIdx k ≠ a0.shape.eraseIdx k) →
      ∃ e, concatenate (a0 :: rest) zero (some k) = .err e) := by
  refine ⟨fun v hv => appendAxis_refuses a0 v zero k hv, ?_⟩
  intro h
  obtain ⟨e, he⟩ := validate_err k a0 rest h
  exact ⟨e, by simp only [concatenate, he, Res.bind_err]⟩

/-! ## the round trip along an axis -/

/-- **splitting along an axis and concatenating the pieces along that axis gives the original array**, for every part
count (even or uneven split, more parts than the axis is long included) and for zero-size arrays too -/
theorem concat_split_id_axis (a : Arr α) (zero : α) (parts k : Nat) (hwf : a.WF) (hp : 0 < parts) (hk : k < a.ndim) :
    (a.arraySplit zero parts (some k) >>= fun ps => concatenate ps zero (some k)) = .ok a := by
  by_cases he : a.isEmpty = true
  · exact concat_split_empty a zero parts k he hp hk
  · obtain ⟨P, Q, rfl, hs, _⟩ := exists_cut a.shape k hk
    exact concat_split_cut a zero parts _ P Q hwf hs (mt (isEmpty_iff_zero_mem a hwf).2 he) hp

/-! ## stacking -/

/-- **`stack` at position `k`**: the result has a new axis of length = the number of inputs at position `k`, and the
element at `c` with `j` inserted at position `k` is the element of input `j` at `c` -/
theorem stack_at (zero : α) (k : Nat) (a0 : Arr α) (rest : List (Arr α)) (hk : k < a0.ndim)
    (h : ∀ b ∈ a0 :: rest, b.WF ∧ b.shape = a0.shape) :
    ∃ r, stack (a0 :: rest) zero (some k) = .ok r ∧ r.shape = a0.shape.insertIdx k (rest.length + 1) ∧ r.WF ∧
      ∀ j (hj : j < (a0 :: rest).length) c, inRange a0.shape c = true →
        r.get? (c.insertIdx k j) = ((a0 :: rest)[j]).get? c := by
  obtain ⟨P, Q, rfl, hs, _⟩ := exists_cut a0.shape k hk
  generalize a0.shape.getD P.length 0 = n at hs
  obtain ⟨r, h1, h2, h3, h4⟩ := stack_cut zero P Q n a0 rest (fun b hb => by rw [← hs]; exact h b hb)
  refine ⟨r, h1, by rw [h2, hs, insertIdx_mid], h3, fun i hi c hc => ?_⟩
  rw [hs] at hc
  obtain ⟨p, j, q, rfl, hp', hj, hq⟩ := inRange_cut _ _ _ _ hc
  rw [← inRange_length _ _ hp', insertIdx_mid]
  exact h4 i hi p q j hp' hq hj

/-- **inputs of unequal shapes are refused by `stack`** -/
theorem stack_unequal_refused (zero : α) (axis : Option Nat) (a0 : Arr α) (rest : List (Arr α))
    (h : ∃ b ∈ a0 :: rest, b.shape ≠ a0.shape) : ∃ e, stack (a0 :: rest) zero axis = .err e := by
  cases axis with
  | none => exact ⟨_, by rw [stack_none_eq, if_pos h]⟩
  | some k =>
    rw [stack_some_eq]
    exact Res.err_ite (fun _ => ⟨_, rfl⟩) fun _ => ⟨_, if_pos h⟩

/-- **`stack` on a new LAST axis (`axis = rank`) is refused** with `AxisOutOfBounds` — by the code and by the model; more
generally any axis that is not inside the rank of some input.  (The new axis can therefore only be created at positions
`0 … rank-1`, `stack_at`; the position after the last axis is not reachable through `stack`.) -/
theorem stack_axis_rank_refused (zero : α) (a0 : Arr α) (rest : List (Arr α)) :
    stack (a0 :: rest) zero (some a0.ndim) = .err .AxisOutOfBounds ∧
    ∀ k, (∃ b ∈ a0 :: rest, b.ndim ≤ k) → stack (a0 :: rest) zero (some k) = .err .AxisOutOfBounds :=
  ⟨stack_axis_refused zero a0.ndim (a0 :: rest) ⟨a0, List.mem_cons_self, Nat.le_refl _⟩,
   fun k h => stack_axis_refused zero k (a0 :: rest) h⟩

/-! ## the convenience functions -/

/-- **`vstack` = `concatenate` along axis 0** for inputs of rank ≠ 1 -/
theorem vstack_eq_concatenate (zero : α) (a0 : Arr α) (rest : List (Arr α)) (h : Joinable 0 a0 rest)
    (h1 : a0.shape.length ≠ 1) : vstack (a0 :: rest) zero = concatenate (a0 :: rest) zero (some 0) := by
  obtain ⟨r, g1, g2, g3, _⟩ := concatenate_coord zero 0 a0 rest h
  unfold Arr.vstack
  dsimp only
  rw [joinable_validate 0 a0 rest h, Res.bind_ok, if_neg h1, joinable_dims 0 a0 rest h]
  simp only [Res.bind_ok]
  rw [g1, Res.bind_ok, ← g2, Arr.reshape_of_prod g3 rfl]

/-- **`vstack` of 1-D inputs of one length = `concatenate` along axis 0 after `atleast(2)`**: the rows under each other -/
theorem vstack_1d_eq_concatenate (zero : α) (n : Nat) (a0 : Arr α) (rest : List (Arr α))
    (h : ∀ b ∈ a0 :: rest, b.WF ∧ b.shape = [n]) :
    vstack (a0 :: rest) zero =
      (Res.mapM' (fun (a : Arr α) => a.atleast 2) (a0 :: rest) >>= fun l => concatenate l zero (some 0)) ∧
    vstack (a0 :: rest) zero = .ok ⟨(a0 :: rest).flatMap (·.elems), [rest.length + 1, n]⟩ := by
  obtain ⟨h1, h2⟩ := vstack_1d zero n a0 rest h
  exact ⟨h1.trans h2.symm, h1⟩

/-- **`row_stack` is `vstack`** -/
theorem rowStack_eq_vstack (zero : α) (arrs : List (Arr α)) : rowStack arrs zero = vstack arrs zero := rfl

/-- **`hstack` = `concatenate` along axis 0 for 1-D inputs, along axis 1 after `atleast(2)` otherwise**.  In the first
conjunct `a0 :: rest` are the inputs; in the second the inputs are `arrs`, and `a0 :: rest` is what `atleast(2)` makes of
them, taken as a hypothesis (`atleast_spec` says what that is). -/
theorem hstack_eq_concatenate (zero : α) (arrs : List (Arr α)) (a0 : Arr α) (rest : List (Arr α)) :
    ((a0 :: rest).all (fun a => a.ndim == 1) = true →
      hstack (a0 :: rest) zero = concatenate (a0 :: rest) zero (some 0)) ∧
    (arrs.all (fun a => a.ndim == 1) = false →
      Res.mapM' (fun (a : Arr α) => a.atleast 2) arrs = .ok (a0 :: rest) → Joinable 1 a0 rest →
      hstack arrs zero = concatenate (a0 :: rest) zero (some 1)) := by
  refine ⟨fun h => ?_, fun hnot hprom h => ?_⟩
  · unfold Arr.hstack
    simp only [h, if_true]
  · cases arrs with
    | nil => cases hnot
    | cons x xs =>
      unfold Arr.hstack
      simp only [hnot, Bool.false_eq_true, if_false, hprom, Res.bind_ok]
      exact join_tail zero 1 a0 rest h

/-- **`dstack` = `concatenate` along axis 2 after `atleast(3)`**: the inputs are `arrs`, and `a0 :: rest` is what
`atleast(3)` makes of them (`hprom`) -/
theorem dstack_eq_concatenate (zero : α) (arrs : List (Arr α)) (a0 : Arr α) (rest : List (Arr α))
    (hprom : Res.mapM' (fun (a : Arr α) => a.atleast 3) arrs = .ok (a0 :: rest)) (h : Joinable 2 a0 rest) :
    dstack arrs zero = concatenate (a0 :: rest) zero (some 2) := by
  cases arrs with
  | nil => simp [Res.mapM', Res.sequence] at hprom
  | cons x xs =>
    unfold Arr.dstack
    simp only [hprom, Res.bind_ok]
    exact join_tail zero 2 a0 rest h

/-- **`column_stack`**: 1-D inputs become single columns, 2-D inputs are laid side by side: the result has shape
`[rows, total columns]` and input `i` occupies, unchanged, the columns `[off_i, off_i + cols_i)` of every row (this is
`concatenate` along axis 1 of the inputs promoted to columns, stated by coordinates) -/
theorem columnStack_at (zero : α) (R : Nat) (a0 : Arr α) (rest : List (Arr α)) (h : ∀ b ∈ a0 :: rest, ColOK R b) :
    ∃ r, columnStack (a0 :: rest) zero = .ok r ∧ r.shape = [R, ((a0 :: rest).map colsOf).sum] ∧ r.WF ∧
      ∀ i (hi : i < (a0 :: rest).length) row col, row < R → col < colsOf ((a0 :: rest)[i]) →
        r.get? [row, (((a0 :: rest).take i).map colsOf).sum + col]
          = ((a0 :: rest)[i]).get? (colCoord ((a0 :: rest)[i]) row col) := by
  refine ⟨_, columnStack_eq zero R a0 rest h, rfl, ?_, ?_⟩
  · show ((List.range R).flatMap fun row => (a0 :: rest).flatMap (seg zero row)).length = [R, ((a0 :: rest).map colsOf).sum].prod
    rw [length_flatMap_uniform _ _ _ (fun row _ => row_length zero row _), List.length_range, List.prod_cons, List.prod_cons,
      List.prod_nil, Nat.mul_one]
  · intro i hi row col hrow hcol
    have hoff := offset_add_size_le ((a0 :: rest).map colsOf) i (by rw [List.length_map]; exact hi)
    rw [← List.map_take, List.getElem_map] at hoff
    show ((List.range R).flatMap fun row => (a0 :: rest).flatMap (seg zero row))[ravel [R, ((a0 :: rest).map colsOf).sum]
      [row, (((a0 :: rest).take i).map colsOf).sum + col]]? = _
    -- row `row` of the result, then the part of input `i` in that row
    rw [show ravel [R, ((a0 :: rest).map colsOf).sum] [row, (((a0 :: rest).take i).map colsOf).sum + col]
        = row * ((a0 :: rest).map colsOf).sum + ((((a0 :: rest).take i).map colsOf).sum + col) by
          rw [ravel, ravel, List.prod_cons, List.prod_nil, Nat.mul_one, Nat.mul_one]; rfl,
      getElem?_flatMap_uniform _ _ (List.range R) row _ (by rw [List.length_range]; exact hrow)
        (fun r _ => row_length zero r _) (Nat.lt_of_lt_of_le (Nat.add_lt_add_left hcol _) hoff), List.getElem_range,
      show ((a0 :: rest).take i).map colsOf = ((a0 :: rest).take i).map (fun x => (seg zero row x).length) from
        List.map_congr_left (fun b _ => (seg_length zero row b).symm),
      getElem?_flatMap_offset (seg zero row) (a0 :: rest) i hi col (by rw [seg_length]; exact hcol)]
    exact seg_getElem? zero R row col _ (h _ (List.getElem_mem hi)) hrow hcol

/-- **`column_stack` refuses inputs of rank other than 1 or 2** -/
theorem columnStack_rank_refused (zero : α) (a0 : Arr α) (rest : List (Arr α)) (h0 : 1 ≤ a0.ndim)
    (h : ∃ b ∈ a0 :: rest, ¬ (b.ndim = 1 ∨ b.ndim = 2)) : columnStack (a0 :: rest) zero = .err .UnsupportedDimension := by
  unfold Arr.columnStack
  dsimp only
  rw [idx_getD a0.shape 0 h0, Res.bind_ok, if_pos]
  obtain ⟨b, hb, hne⟩ := h
  simp only [List.any_eq_true]
  refine ⟨b, hb, ?_⟩
  rw [not_or] at hne
  rw [beq_false_of_ne hne.1, beq_false_of_ne hne.2]; rfl

/-- **what `atleast(2)` / `atleast(3)` do to a well-formed input**: a vector becomes a row (`[1,n]`, resp. `[1,n,1]`), a
matrix gets a trailing unit axis, higher ranks are unchanged; the elements are kept -/
theorem atleast_spec (b : Arr α) (hwf : b.WF) :
    (∀ n, b.shape = [n] → b.atleast 2 = .ok ⟨b.elems, [1, n]⟩ ∧ b.atleast 3 = .ok ⟨b.elems, [1, n, 1]⟩) ∧
    (∀ m n, b.shape = [m, n] → b.atleast 3 = .ok ⟨b.elems, [m, n, 1]⟩) ∧
    (2 ≤ b.ndim → b.atleast 2 = .ok b) ∧ (3 ≤ b.ndim → b.atleast 3 = .ok b) := by
  refine ⟨fun n hs => ⟨atleast2_rank1 b n hwf hs, ?_⟩, fun m n hs => ?_, fun h => if_pos h, fun h => if_pos h⟩
  · obtain ⟨e, s⟩ := b
    subst hs
    show Arr.new e [1, n, 1] = _
    exact Arr.new_of_prod (by rw [hwf]; simp)
  · obtain ⟨e, s⟩ := b
    subst hs
    show Arr.new e [m, n, 1] = _
    exact Arr.new_of_prod (by rw [hwf]; simp)

/-- **`hsplit` / `vsplit` / `dsplit` are `split` along axis 1 (0 for a vector) / 0 / 2** -/
theorem xsplit_eq_split (a : Arr α) (zero : α) (parts : Nat) (hp : 0 < parts) :
    (1 ≤ a.ndim → a.hsplit zero parts = a.split zero parts (some (if a.ndim = 1 then 0 else 1))) ∧
    (2 ≤ a.ndim → a.vsplit zero parts = a.split zero parts (some 0)) ∧
    (3 ≤ a.ndim → a.dsplit zero parts = a.split zero parts (some 2)) := by
  refine ⟨fun h => ?_, fun h => guarded_split_of_pos a zero parts 0 (a.ndim = 0 ∨ a.ndim = 1) (by omega) hp,
    fun h => guarded_split_of_pos a zero parts 2 (a.ndim = 0 ∨ a.ndim = 1 ∨ a.ndim = 2) (by omega) hp⟩
  rw [hsplit_guarded]
  exact guarded_split_of_pos a zero parts _ (a.ndim = 0) (Nat.ne_of_gt h) hp

/-! ## arrays with a zero-length axis; splitting on every well-formed array -/

/-- **a well-formed array with a zero-length axis is returned whole, as the single piece `[a]`, by every splitting
function** — after the refusals, in the order each function has them: `array_split` refuses zero parts first and then an
axis outside the rank, `split` the other way round, `split_axis` only the axis; `hsplit` refuses zero parts, `vsplit` /
`dsplit` refuse ranks below 2 / 3 first and then zero parts.  The part count is otherwise irrelevant: `split` does NOT
examine whether it divides the axis length (a `[2,0]` array split in 3 along axis 0 is `Ok([a])`). -/
theorem split_zero_axis (a : Arr α) (zero : α) (parts k : Nat) (hwf : a.WF) (hz : 0 ∈ a.shape) :
    a.arraySplit zero parts (some k) =
      (if parts = 0 then .err .ParameterError else if a.ndim ≤ k then .err .AxisOutOfBounds else .ok [a]) ∧
    a.arraySplit zero parts none = (if parts = 0 then .err .ParameterError else .ok [a]) ∧
    a.split zero parts (some k) =
      (if a.ndim ≤ k then .err .AxisOutOfBounds else if parts = 0 then .err .ParameterError else .ok [a]) ∧
    a.split zero parts none = (if parts = 0 then .err .ParameterError else .ok [a]) ∧
    a.splitAxis zero k = (if a.ndim ≤ k then .err .AxisOutOfBounds else .ok [a]) ∧
    a.hsplit zero parts = (if parts = 0 then .err .ParameterError else .ok [a]) ∧
    a.vsplit zero parts =
      (if a.ndim = 1 then .err .UnsupportedDimension else if parts = 0 then .err .ParameterError else .ok [a]) ∧
    a.dsplit zero parts =
      (if a.ndim = 1 ∨ a.ndim = 2 then .err .UnsupportedDimension
       else if parts = 0 then .err .ParameterError else .ok [a]) := by
  have he := (isEmpty_iff_zero_mem a hwf).2 hz
  have hnd : 1 ≤ a.ndim := List.length_pos_iff.2 (List.ne_nil_of_mem hz)
  have h0 : ¬ a.ndim ≤ 0 := Nat.not_le.2 hnd
  refine ⟨arraySplit_empty a zero parts k he, ?_, split_empty a zero parts k he, ?_, splitAxis_empty a zero k he,
    hsplit_empty a zero parts he hnd, ?_, ?_⟩
  · rw [arraySplit_none, arraySplit_empty a zero parts 0 he, if_neg h0]
  · rw [split_none, split_empty a zero parts 0 he, if_neg h0]
  · exact (vsplit_empty a zero parts he).trans (if_congr ⟨fun h => h.resolve_left (Nat.ne_of_gt hnd), .inr⟩ rfl rfl)
  · exact (dsplit_empty a zero parts he).trans (if_congr ⟨fun h => h.resolve_left (Nat.ne_of_gt hnd), .inr⟩ rfl rfl)

/-- **`array_split` is total on well-formed arrays** (no hypothesis on the shape, the axis or the part count): the answer
is `Err(ParameterError)` exactly for zero parts, otherwise `Err(AxisOutOfBounds)` exactly for an axis outside the rank,
otherwise a list of pieces whose concatenation along the axis is the array itself. -/
theorem arraySplit_total (a : Arr α) (zero : α) (parts k : Nat) (hwf : a.WF) :
    (parts = 0 ∧ a.arraySplit zero parts (some k) = .err .ParameterError) ∨
    (0 < parts ∧ a.ndim ≤ k ∧ a.arraySplit zero parts (some k) = .err .AxisOutOfBounds) ∨
    (0 < parts ∧ k < a.ndim ∧ ∃ pieces, a.arraySplit zero parts (some k) = .ok pieces ∧
      concatenate pieces zero (some k) = .ok a) := by
  by_cases hp : parts = 0
  · exact .inl ⟨hp, by rw [arraySplit_eq, if_pos hp]⟩
  · by_cases hk : a.ndim ≤ k
    · exact .inr (.inl ⟨Nat.pos_of_ne_zero hp, hk, by rw [arraySplit_eq, if_neg hp, if_pos hk]⟩)
    · exact .inr (.inr ⟨Nat.pos_of_ne_zero hp, Nat.not_le.1 hk,
        Res.bind_eq_ok (concat_split_id_axis a zero parts k hwf (Nat.pos_of_ne_zero hp) (Nat.not_le.1 hk))⟩)

/-- **splitting never panics on a well-formed array** — every rank ≥ 0, zero-length axes included, every axis (inside the
rank or not), every part count (zero included): `array_split`, `split`, `split_axis`, `hsplit`, `vsplit`, `dsplit`
answer with data or with an error, with `axis = None` as well (`None` is axis 0; a rank-0 receiver is then refused with
`AxisOutOfBounds`, `split_rank0_refused`). -/
theorem split_total (a : Arr α) (zero : α) (parts k : Nat) (hwf : a.WF) :
    a.arraySplit zero parts (some k) ≠ .panic ∧ a.split zero parts (some k) ≠ .panic ∧
    a.splitAxis zero k ≠ .panic ∧ a.hsplit zero parts ≠ .panic ∧ a.vsplit zero parts ≠ .panic ∧
    a.dsplit zero parts ≠ .panic ∧
    a.arraySplit zero parts none ≠ .panic ∧ a.split zero parts none ≠ .panic := by
  refine ⟨arraySplit_ne_panic a zero hwf parts k, split_ne_panic a zero hwf parts k, splitAxis_ne_panic a zero hwf k, ?_,
    guarded_split_ne_panic a zero hwf parts 0 _, guarded_split_ne_panic a zero hwf parts 2 _, ?_, ?_⟩
  · rw [hsplit_guarded]; exact guarded_split_ne_panic a zero hwf parts _ _
  · rw [arraySplit_none]; exact arraySplit_ne_panic a zero hwf parts 0
  · rw [split_none]; exact split_ne_panic a zero hwf parts 0

/-- **the round trip through `array_split`, `split` and `split_axis`, for every well-formed array**: the first conjunct
is `concat_split_id_axis`; whenever `split` does not refuse — the array has a zero-length axis, or the part count divides
the axis length — concatenating its pieces gives the array back, and so does concatenating the pieces of `split_axis`. -/
theorem concat_split_id_total (a : Arr α) (zero : α) (parts k : Nat) (hwf : a.WF) (hp : 0 < parts) (hk : k < a.ndim) :
    (a.arraySplit zero parts (some k) >>= fun ps => concatenate ps zero (some k)) = .ok a ∧
    ((0 ∈ a.shape ∨ a.shape.getD k 0 % parts = 0) →
      (a.split zero parts (some k) >>= fun ps => concatenate ps zero (some k)) = .ok a) ∧
    (a.splitAxis zero k >>= fun ps => concatenate ps zero (some k)) = .ok a := by
  have h1 := concat_split_id_axis a zero parts k hwf hp hk
  refine ⟨h1, ?_, ?_⟩
  · intro h
    by_cases hz : 0 ∈ a.shape
    · rw [split_empty a zero parts k ((isEmpty_iff_zero_mem a hwf).2 hz), if_neg (Nat.not_le.2 hk), if_neg (Nat.ne_of_gt hp), Res.bind_ok]
      exact concatenate_singleton a zero k hk
    · have hd : a.shape.getD k 0 % parts = 0 := by
        rcases h with h | h
        · exact absurd h hz
        · exact h
      rw [split_spec a zero parts k hwf hz hp hk, if_pos hd]
      exact h1
  · rw [splitAxis_eq, if_neg (Nat.not_le.2 hk)]
    by_cases he : a.isEmpty = true ∨ a.ndim = 1
    · rw [if_pos he, Res.bind_ok]; exact concatenate_singleton a zero k hk
    · have hnz : 0 ∉ a.shape := mt (isEmpty_iff_zero_mem a hwf).2 fun h => he (.inl h)
      rw [if_neg he, idx_getD a.shape k hk, Res.bind_ok]
      exact concat_split_id_axis a zero _ k hwf (getD_mem_pos _ _ hk hnz) hk

/-! ## non-vacuity -/

example : sectionSizes 7 3 = [3, 2, 2] := by decide
example : sectionSizes 2 4 = [1, 1, 0, 0] := by decide
example : divPoints (sectionSizes 7 3) = [0, 3, 5, 7] := by decide
example : (⟨List.range 12, [2, 3, 2]⟩ : Arr Nat).WF ∧ 0 ∉ [2, 3, 2] ∧ 1 < (⟨List.range 12, [2, 3, 2]⟩ : Arr Nat).ndim := by decide
/-- an uneven split along the middle axis: blocks of 2 and 1 rows of every slab, in order -/
example : (⟨List.range 12, [2, 3, 2]⟩ : Arr Nat).arraySplit 0 2 (some 1)
    = .ok [⟨[0, 1, 2, 3, 6, 7, 8, 9], [2, 2, 2]⟩, ⟨[4, 5, 10, 11], [2, 1, 2]⟩] := by decide +kernel
example : (⟨List.range 12, [2, 3, 2]⟩ : Arr Nat).split 0 2 (some 1) = .err .ParameterError := by decide +kernel
example : ((⟨List.range 12, [2, 3, 2]⟩ : Arr Nat).arraySplit 0 2 (some 1) >>= fun ps => concatenate ps 0 (some 1))
    = .ok ⟨List.range 12, [2, 3, 2]⟩ := by decide +kernel
/-- joining along the last axis of a rank-3 array (the arm where `append`'s temporary shape is not the rolled shape) -/
example : (⟨[0, 1, 2, 3, 4, 5, 6, 7, 8, 9, 10, 11], [2, 3, 2]⟩ : Arr Nat).append ⟨[100, 101, 102, 103, 104, 105], [2, 3, 1]⟩ 0 (some 2)
    = .ok ⟨[0, 1, 100, 2, 3, 101, 4, 5, 102, 6, 7, 103, 8, 9, 104, 10, 11, 105], [2, 3, 3]⟩ := by decide +kernel
example : Joinable 1 (⟨List.range 4, [2, 2]⟩ : Arr Nat) [⟨List.range 2, [2, 1]⟩] := by
  intro b hb
  simp only [List.mem_cons, List.not_mem_nil, or_false] at hb
  rcases hb with rfl | rfl <;> decide
example : (⟨[1, 2], [2]⟩ : Arr Nat).append ⟨[3, 4, 5, 6], [2, 2]⟩ 0 (some 0) = .err .ParameterError := by decide
example : stack [(⟨[1, 2], [2]⟩ : Arr Nat), ⟨[3, 4], [2]⟩] 0 (some 0) = .ok ⟨[1, 2, 3, 4], [2, 2]⟩ := by decide +kernel
example : stack [(⟨[1, 2], [2]⟩ : Arr Nat), ⟨[3, 4], [2]⟩] 0 (some 1) = .err .AxisOutOfBounds := by decide
example : vstack [(⟨[1, 2], [2]⟩ : Arr Nat), ⟨[3, 4], [2]⟩] 0 = .ok ⟨[1, 2, 3, 4], [2, 2]⟩ := by decide +kernel
example : hstack [(⟨[1, 2], [2, 1]⟩ : Arr Nat), ⟨[3, 4, 5, 6], [2, 2]⟩] 0 = .ok ⟨[1, 3, 4, 2, 5, 6], [2, 3]⟩ := by decide +kernel

/-- zero-size inputs: an empty axis off the joining axis, and an empty input joined with a non-empty one -/
example : (⟨[], [2, 0]⟩ : Arr Nat).append ⟨[], [3, 0]⟩ 0 (some 0) = .ok ⟨[], [5, 0]⟩ := by decide +kernel
example : (⟨[], [2, 0]⟩ : Arr Nat).append ⟨[1, 2, 3, 4], [2, 2]⟩ 0 (some 1) = .ok ⟨[1, 2, 3, 4], [2, 2]⟩ := by decide +kernel
example : stack [(⟨[], [0, 2]⟩ : Arr Nat), ⟨[], [0, 2]⟩] 0 (some 1) = .ok ⟨[], [0, 2, 2]⟩ := by decide +kernel
example : columnStack [(⟨[1, 2], [2]⟩ : Arr Nat), ⟨[3, 4, 5, 6], [2, 2]⟩] 0 = .ok ⟨[1, 3, 4, 2, 5, 6], [2, 3]⟩ := by decide +kernel
example : ColOK 2 (⟨[1, 2], [2]⟩ : Arr Nat) ∧ ColOK 2 (⟨[3, 4, 5, 6], [2, 2]⟩ : Arr Nat) :=
  ⟨⟨by decide, Or.inl rfl⟩, ⟨by decide, Or.inr ⟨2, rfl⟩⟩⟩

example : (⟨[], [2, 0]⟩ : Arr Nat).WF ∧ 0 ∈ (⟨[], [2, 0]⟩ : Arr Nat).shape := by decide
example : (⟨[], [2, 0]⟩ : Arr Nat).split 0 3 (some 0) = .ok [⟨[], [2, 0]⟩] := by decide
example : (⟨[], [2, 0]⟩ : Arr Nat).arraySplit 0 0 (some 7) = .err .ParameterError := by decide
example : (⟨[], [2, 0]⟩ : Arr Nat).split 0 0 (some 7) = .err .AxisOutOfBounds := by decide
example : (⟨[], [0, 3]⟩ : Arr Nat).arraySplit 0 2 (some 1) = .ok [⟨[], [0, 3]⟩] := by decide
example : (⟨[], [0, 3]⟩ : Arr Nat).hsplit 0 2 = .ok [⟨[], [0, 3]⟩] := by decide
example : (⟨[], [0, 3]⟩ : Arr Nat).dsplit 0 2 = .err .UnsupportedDimension := by decide
example : (⟨[], [2, 0, 3]⟩ : Arr Nat).dsplit 0 2 = .ok [⟨[], [2, 0, 3]⟩] := by decide
example : (⟨[], [2, 0, 3]⟩ : Arr Nat).vsplit 0 0 = .err .ParameterError := by decide
example : (⟨[], [2, 0, 3]⟩ : Arr Nat).splitAxis 0 2 = .ok [⟨[], [2, 0, 3]⟩] := by decide
example : ((⟨[], [2, 0, 3]⟩ : Arr Nat).split 0 5 (some 2) >>= fun ps => concatenate ps 0 (some 2))
    = .ok ⟨[], [2, 0, 3]⟩ := by decide
example := split_total (⟨[], [2, 0, 3]⟩ : Arr Nat) 0 4 1 (by decide)
/-- a rank-0 receiver with `axis = None` -/
example : (⟨[7], []⟩ : Arr Nat).WF ∧ (⟨[7], []⟩ : Arr Nat).arraySplit 0 1 none = .err .AxisOutOfBounds ∧
    (⟨[7], []⟩ : Arr Nat).split 0 2 none = .err .AxisOutOfBounds ∧
    (⟨[7], []⟩ : Arr Nat).arraySplit 0 0 none = .err .ParameterError := by decide
example := split_rank0_refused (⟨[7], []⟩ : Arr Nat) 0 2 rfl
example := split_total (⟨[7], []⟩ : Arr Nat) 0 2 0 (by decide)

end ArrModel.C11
