import ArrProofs.Lemmas.Res
import ArrProofs.Lemmas.C18Typed
import ArrProofs.Lemmas.C18Fuel
import ArrProofs.Lemmas.C18Text
/-!
# C18 — array literals and text forms carry shape and elements faithfully

Property theorems only (helper lemmas: `ArrProofs/Lemmas/C18*.lean`).  Model under test: `ArrModel/C18.lean`
(`arrayGeneric`, `parseShape`, `finish`, `display`/`buildString`, `showTuple2/3`, `showList`, `parseTuple2/3`,
`parseList`), a character-level transcription of `src/macros/{create,helpers}.rs`, `display.rs`, `tuple2.rs`,
`tuple3.rs`, `collection/mod.rs` after the repairs of `/verif/fixes/C18-*.diff`.

`Valid s es` (Lemmas/C18Nest): a regular nested literal of shape `s`, every axis ≥ 1, whose leaves print (Debug)
as `es` in reading order, each leaf text `Plain`: non-empty, free of `[ ] , " #`, not starting with a blank.
`debugVec s es` is the text `format!("{:?}", vec![lit,])` the macro starts from (`nest`: `[` items joined by `", "` `]`,
recursively); that `nest` is the real Debug text is checked by the tie on every compiled literal.
All theorems hold for every rank and every axis length (induction on the nesting depth).
-/
namespace ArrModel.C18
open ArrModel

/-- **literal macro, shape and elements** (`array!(T, <nested brackets>)`, generic arm): the per-depth
replace / count / truncate loop of `array_parse_shape!` returns exactly the written shape, and the element texts come
out in reading order. -/
theorem parseShape_debug (s : List Nat) (es : List Str) (hs : s ≠ []) (h : Valid s es) :
    arrayGeneric (debugVec s es) = .ok (s, es) := by
  rw [debugVec_eq h.pos h.len]
  exact arrayGeneric_frame h _ (Or.inl ⟨rfl, by cases s with | nil => exact absurd rfl hs | cons _ _ => simp⟩)

/-- **`array_parse_shape!` alone**, on the pre-processed text with any number `a` of opening and `b ≥ rank-1` closing
brackets around the middle text (this is the form every typed front end reaches after blanking the elements). -/
theorem parseShape_tight (s : List Nat) (es : List Str) (h : Valid s es) (a b : Nat) (hb : s.length ≤ b + 1) :
    parseShape s.length (rep '[' a ++ mid sepT s es ++ rep ']' b) = .ok s := by
  rw [sepT_eq]
  exact parseShape_frame [' '] (by simp) h a b hb

/-- **multi-argument form** `array!(T, x₁, …, xₙ)` (text `[x₁, …, xₙ]`): a flat array of the `n` elements — the same
result as `Array::flat`. -/
theorem literal_args (n : Nat) (es : List Str) (h : Valid [n] es) :
    arrayGeneric (nest [n] es) = .ok ((Arr.flat es).shape, (Arr.flat es).elems) := by
  have := arrayGeneric_frame h 1 (Or.inr ⟨rfl, rfl⟩)
  rw [nest_eq_frame [n] h.pos]
  have hl : es.length = n := by simpa using h.len
  simpa [Arr.flat, hl] using this

/-- **`array_flat!(T, x₁, …, xₙ)`** expands to `array!(T, vec![x₁, …, xₙ])`, whose Debug text is `debugVec [n]`:
shape `[n]`, the elements in order — what `Array::flat` builds. -/
theorem flat_macro (n : Nat) (es : List Str) (h : Valid [n] es) :
    arrayGeneric (debugVec [n] es) = .ok ((Arr.flat es).shape, (Arr.flat es).elems) := by
  have hl : es.length = n := by simpa using h.len
  simpa [Arr.flat, hl] using parseShape_debug [n] es (by simp) h

/-- **the array that is built**: when the element parser inverts the element printer on the written values, the literal
is the array of shape `s` holding those values in reading order (`.parse().unwrap()` never fires, `Array::new`
accepts). -/
theorem literal_array {α} (pr : α → Str) (parse : Str → Option α) (s : List Nat) (vals : List α) (hs : s ≠ [])
    (h : Valid s (vals.map pr)) (hinv : ∀ v ∈ vals, parse (pr v) = some v) :
    finish parse (arrayGeneric (debugVec s (vals.map pr))) = .ok ⟨vals, s⟩ := by
  rw [parseShape_debug s _ hs h]
  have hm : Res.mapM' (fun t => Res.unwrap (parse t)) (vals.map pr) = .ok vals := by
    have := Res.mapM'_ok (f := fun v => Res.unwrap (parse (pr v))) (g := id) (l := vals)
      (fun v hv => by rw [hinv v hv]; rfl)
    simpa [Res.mapM', List.map_map, Function.comp_def] using this
  simp only [finish, hm]
  exact Arr.new_of_prod (by simpa using h.len.symm)

/-- **character literals** `array!(char, <nested brackets>)` (repaired `array_char!`, `fixes/C18-char-literal.diff`):
the written shape and the characters in reading order, for every rank.  The characters may be brackets, commas,
blanks, `_`, `#` — anything Debug prints unescaped (not `'`, `\`; `"` is excluded only to keep the statement short). -/
theorem char_literal (s : List Nat) (cs : List Char) (hs : s ≠ []) (hpos : ∀ d ∈ s, 1 ≤ d)
    (hl : cs.length = s.prod) (hc : ∀ c ∈ cs, c ≠ '\'' ∧ c ≠ '\\' ∧ c ≠ '"') :
    arrayChar (debugVec s (cs.map (fun c => ['\'', c, '\'']))) = .ok (s, cs.map (fun c => [c])) :=
  arrayChar_literal s cs hs hpos hl hc

/-- **string literals** `array!(String, <nested brackets>)` (repaired `array_string!`,
`fixes/C18-string-literal.diff`): the written shape and the strings in reading order, for every rank, for all
contents satisfying `StrOk` — no `"`, no `\`, not exactly `", "`, no occurrence of the four characters `], [`;
commas, brackets, blanks and the empty string are carried faithfully. -/
theorem string_literal (s : List Nat) (cs : List Str) (hs : s ≠ []) (hpos : ∀ d ∈ s, 1 ≤ d)
    (hl : cs.length = s.prod) (hc : ∀ c ∈ cs, StrOk c) :
    arrayString (debugVec s (cs.map (wrapQ '"'))) = .ok (s, cs) :=
  arrayString_literal s cs hs hpos hl hc

/-- **plain text form**: `format!("{}", a)` / `format!("{:.p}", a)` of a non-empty array of rank ≥ 1 is the canonical
nesting of its rendered elements: brackets nest according to the shape, elements in reading order
(`pr` is the element printer with the requested precision). -/
theorem display_eq_nest {α} (pr : α → Str) (a : Arr α) (hwf : a.WF) (hs : a.shape ≠ []) (hpos : ∀ d ∈ a.shape, 1 ≤ d) :
    display pr false a = nest a.shape (a.elems.map pr) :=
  buildString_eq_nest pr 1 a.shape a.elems hs hpos hwf

/-- **display nesting, by parsing back**: the literal parser, applied to the plain text form wrapped the way
`vec![…]` wraps a literal, returns the array's shape and its rendered elements in order. -/
theorem display_nesting {α} (pr : α → Str) (a : Arr α) (hwf : a.WF) (hs : a.shape ≠ [])
    (hv : Valid a.shape (a.elems.map pr)) :
    arrayGeneric ('[' :: display pr false a ++ [']']) = .ok (a.shape, a.elems.map pr) := by
  rw [display_eq_nest pr a hwf hs hv.pos]
  have : '[' :: nest a.shape (a.elems.map pr) ++ [']'] = debugVec a.shape (a.elems.map pr) := by
    have ht : (a.elems.map pr).take a.shape.prod = a.elems.map pr := List.take_of_length_le (Nat.le_of_eq hv.len)
    simp only [debugVec, nest, chunks, List.map_cons, List.map_nil, joinWith_single, ht]
  rw [this]
  exact parseShape_debug _ _ hs hv

/-- **one-element arrays** (the arm the pinned tree prints as `[x]` whatever the rank): the repaired `build_string`
prints one bracket pair per axis around the element rendered with the requested precision, in both forms. -/
theorem display_single {α} (pr : α → Str) (alt : Bool) (r : Nat) (x : α) :
    display pr alt ⟨[x], List.replicate (r + 1) 1⟩ = rep '[' (r + 1) ++ pr x ++ rep ']' (r + 1) :=
  buildString_single pr alt 1 r x

/-- the empty array prints as `[]` -/
theorem display_empty {α} (pr : α → Str) (alt : Bool) (shape : List Nat) : display pr alt ⟨[], shape⟩ = ['[', ']'] := by
  unfold display
  match shape with
  | [] => rfl
  | [_] => rfl
  | _ :: _ :: _ => rfl

/-- **pretty form**: `format!("{:#}", a)` differs from the plain form only in blanks and line breaks (any array, any
precision). -/
theorem pretty_eq_plain_mod_ws {α} (pr : α → Str) (a : Arr α) :
    strip (display pr true a) = strip (display pr false a) :=
  strip_buildString pr 1 a.shape a.elems

/-- **pairs survive their text form**: `Tuple2::from_str(Tuple2(x, y).to_string()) = Ok(Tuple2(x, y))` when the component
parsers invert the component printers and the component texts are free of `, ( ) [ ]`. -/
theorem tuple2_roundtrip {α β} (sa : α → Str) (sb : β → Str) (pa : Str → Option α) (pb : Str → Option β) (x : α) (y : β)
    (hx : pa (sa x) = some x) (hy : pb (sb y) = some y) (fx : SepFree (sa x)) (fy : SepFree (sb y)) :
    parseTuple2 pa pb (showTuple2 sa sb (x, y)) = some (x, y) := by
  have hshow : showTuple2 sa sb (x, y) = '(' :: (joinWith [',', ' '] [sa x, sb y] ++ [')']) := by
    simp [showTuple2, joinWith_cons_cons]
  have hf : ∀ t ∈ [sa x, sb y], SepFree t := by
    intro t ht; simp at ht; rcases ht with rfl | rfl <;> assumption
  unfold parseTuple2
  rw [hshow, tupleParts_show _ hf, splitChar_joinWith _ (by simp) (fun t ht => (hf t ht).comma)]
  simp [hx, hy]

/-- **triples survive their text form** -/
theorem tuple3_roundtrip {α β γ} (sa : α → Str) (sb : β → Str) (sc : γ → Str)
    (pa : Str → Option α) (pb : Str → Option β) (pc : Str → Option γ) (x : α) (y : β) (z : γ)
    (hx : pa (sa x) = some x) (hy : pb (sb y) = some y) (hz : pc (sc z) = some z)
    (fx : SepFree (sa x)) (fy : SepFree (sb y)) (fz : SepFree (sc z)) :
    parseTuple3 pa pb pc (showTuple3 sa sb sc (x, y, z)) = some (x, y, z) := by
  have hshow : showTuple3 sa sb sc (x, y, z) = '(' :: (joinWith [',', ' '] [sa x, sb y, sc z] ++ [')']) := by
    simp [showTuple3, joinWith_cons_cons]
  have hf : ∀ t ∈ [sa x, sb y, sc z], SepFree t := by
    intro t ht; simp at ht; rcases ht with rfl | rfl | rfl <;> assumption
  unfold parseTuple3
  rw [hshow, tupleParts_show _ hf, splitChar_joinWith _ (by simp) (fun t ht => (hf t ht).comma)]
  simp [hx, hy, hz]

/-- **lists survive their text form** (repaired `List::from_str`): for every list, the empty one included, whose items
print as non-empty texts free of `, ( ) [ ]` and are recovered by the item parser. -/
theorem list_roundtrip {α} (sa : α → Str) (pa : Str → Option α) (xs : List α)
    (h : ∀ x ∈ xs, pa (sa x) = some x ∧ SepFree (sa x) ∧ sa x ≠ []) :
    parseList pa (showList sa xs) = some xs := by
  have hf : ∀ t ∈ xs.map sa, SepFree t := by
    intro t ht; obtain ⟨x, hx, rfl⟩ := List.mem_map.1 ht; exact (h x hx).2.1
  have hne : ∀ t ∈ xs.map sa, t ≠ [] := by
    intro t ht; obtain ⟨x, hx, rfl⟩ := List.mem_map.1 ht; exact (h x hx).2.2
  have hshow : showList sa xs = '[' :: (joinWith [',', ' '] (xs.map sa) ++ [']']) := by simp [showList]
  unfold parseList
  rw [hshow]
  simp only [parseList_show_body _ hf]
  cases hxs : xs with
  | nil => simp
  | cons x r =>
    have hnn : (joinWith [','] ((x :: r).map sa)).isEmpty = false := by
      cases hj : joinWith [','] ((x :: r).map sa) with
      | nil => have := joinWith_eq_nil hj (hxs ▸ hne); simp at this
      | cons _ _ => rfl
    rw [hnn]
    simp only [Bool.false_eq_true, if_false]
    rw [splitChar_joinWith _ (by simp) (fun t ht => (hxs ▸ hf) t ht |>.comma)]
    exact mapM_option_map sa pa (x :: r) (fun y hy => (h y (hxs ▸ hy)).1)

/-- the pinned `List::from_str` cannot read what `Display` prints: a witness of the defect repaired by
`fixes/C18-list-fromstr.diff` (the item parser here is the identity on texts, as for `List<String>`: the pinned code
returns the items `"[1"`, `"2]"`; for `List<i32>` it returns an error). -/
theorem list_pinned_witness :
    parseListPinned (fun t => some t) (showList (fun t : Str => t) [['1'], ['2']]) = some [['[', '1'], ['2', ']']]
    ∧ parseList (fun t => some t) (showList (fun t : Str => t) [['1'], ['2']]) = some [['1'], ['2']] := by
  decide +kernel

/-! ## the typed front ends `array_tuple!` / `array_list!` (their loops as written, `helpers.rs:31-106`) -/

/-- **tuple literals** `array!(Tuple2<…>, <nested brackets>)` / `array!(Tuple3<…>, …)` (`array_tuple!` run on
`format!("{:?}", vec![vec![lit]])`, whose leaves are the Debug texts `(c₁, c₂[, c₃])`): for every rank and every axis
length the macro's shape is the written shape and the parenthesised pieces come out in reading order, each with its
quotes removed and `", "` between two quoted components tightened to `","` (what `array_parse_input!` does; `from_str`
accepts both).  Excluded (`TupOk`): bodies containing `)` or `\`, or — after the quote rewrite — the four characters
`], [`.  An opening parenthesis inside a body is carried. -/
theorem tuple_literal (s : List Nat) (bs : List Str) (hs : s ≠ []) (hpos : ∀ d ∈ s, 1 ≤ d)
    (hl : bs.length = s.prod) (hc : ∀ b ∈ bs, TupOk b) :
    arrayTuple (debugVec (1 :: s) (bs.map wrapP)) = .ok (s, bs.map (fun b => remove '"' (wrapP (quoteTight b)))) :=
  arrayTuple_literal s bs hs hpos hl hc

/-- … and when no component is quoted (numbers, booleans, characters other than `"`), the pieces are carried unchanged -/
theorem tuple_literal_plain (s : List Nat) (bs : List Str) (hs : s ≠ []) (hpos : ∀ d ∈ s, 1 ≤ d)
    (hl : bs.length = s.prod) (hc : ∀ b ∈ bs, ')' ∉ b ∧ '\\' ∉ b ∧ ']' ∉ b ∧ '"' ∉ b) :
    arrayTuple (debugVec (1 :: s) (bs.map wrapP)) = .ok (s, bs.map wrapP) := by
  have hq : ∀ b ∈ bs, quoteTight b = b := fun b hb =>
    replace_of_not_mem (p := quoteSepL) (c := '"') (by decide) (hc b hb).2.2.2
  rw [tuple_literal s bs hs hpos hl (fun b hb => ⟨(hc b hb).1, (hc b hb).2.1, noBr_of_not_mem (hc b hb).2.2.1⟩)]
  congr 2
  apply List.map_congr_left
  intro b hb
  rw [hq b hb]
  exact remove_of_not_mem (by simp [wrapP, (hc b hb).2.2.2])

/-- **the array of pairs that is built** (components intact): for pairs whose components print without
`, ( ) [ ] " \` and are recovered by the component parsers, `array!(Tuple2<A, B>, lit)` is the array of shape `s`
holding the written pairs in reading order (`Tuple2::from_str` on each piece, then `Array::new`). -/
theorem tuple2_literal_array {α β} (sa : α → Str) (sb : β → Str) (pa : Str → Option α) (pb : Str → Option β)
    (s : List Nat) (vals : List (α × β)) (hs : s ≠ []) (hpos : ∀ d ∈ s, 1 ≤ d) (hl : vals.length = s.prod)
    (h : ∀ v ∈ vals, pa (sa v.1) = some v.1 ∧ pb (sb v.2) = some v.2 ∧ SepFree (sa v.1) ∧ SepFree (sb v.2) ∧
      (∀ c ∈ sa v.1 ++ sb v.2, c ≠ '"' ∧ c ≠ '\\')) :
    finish (parseTuple2 pa pb) (arrayTuple (debugVec (1 :: s) (vals.map (showTuple2 sa sb)))) = .ok ⟨vals, s⟩ := by
  have hshow : vals.map (showTuple2 sa sb) = (vals.map (fun v => sa v.1 ++ [',', ' '] ++ sb v.2)).map wrapP := by
    rw [List.map_map]; apply List.map_congr_left; intro v _; simp [showTuple2, wrapP, List.append_assoc]
  have hbody : ∀ b ∈ vals.map (fun v => sa v.1 ++ [',', ' '] ++ sb v.2), ')' ∉ b ∧ '\\' ∉ b ∧ ']' ∉ b ∧ '"' ∉ b := by
    intro b hb
    obtain ⟨v, hv, rfl⟩ := List.mem_map.1 hb
    obtain ⟨_, _, f1, f2, hq⟩ := h v hv
    have key : ∀ c, c ∈ sa v.1 ++ [',', ' '] ++ sb v.2 → c ≠ ')' ∧ c ≠ '\\' ∧ c ≠ ']' ∧ c ≠ '"' := by
      intro c hc
      simp only [List.mem_append, List.mem_cons, List.not_mem_nil, or_false] at hc
      rcases hc with (hc | hc | hc) | hc
      · exact ⟨(f1 c hc).2.2.1, (hq c (by simp [hc])).2, (f1 c hc).2.2.2.2, (hq c (by simp [hc])).1⟩
      · subst hc; decide
      · subst hc; decide
      · exact ⟨(f2 c hc).2.2.1, (hq c (by simp [hc])).2, (f2 c hc).2.2.2.2, (hq c (by simp [hc])).1⟩
    exact ⟨fun hm => (key _ hm).1 rfl, fun hm => (key _ hm).2.1 rfl, fun hm => (key _ hm).2.2.1 rfl,
      fun hm => (key _ hm).2.2.2 rfl⟩
  rw [hshow, tuple_literal_plain s _ hs hpos (by simpa using hl) hbody, ← hshow]
  have hm : Res.mapM' (fun t => Res.unwrap (parseTuple2 pa pb t)) (vals.map (showTuple2 sa sb)) = .ok vals := by
    have := Res.mapM'_ok (f := fun v => Res.unwrap (parseTuple2 pa pb (showTuple2 sa sb v))) (g := id) (l := vals)
      (fun v hv => by
        obtain ⟨h1, h2, f1, f2, _⟩ := h v hv
        rw [show showTuple2 sa sb v = showTuple2 sa sb (v.1, v.2) from rfl, tuple2_roundtrip sa sb pa pb v.1 v.2 h1 h2 f1 f2]
        rfl)
    simpa [Res.mapM', List.map_map, Function.comp_def] using this
  simp only [finish, hm]
  exact Arr.new_of_prod hl.symm

/-- **list literals** `array!(List<T>, <nested brackets>)` (`array_list!` run on `format!("{:?}", vec![lit])`, whose
leaves are the Debug texts `[i₁, i₂, …]`, the empty list included): for every rank and every axis length the macro's shape
is the written shape — the marking pass writes `&[` exactly in front of the lists — and the list bodies come out in
reading order without their brackets, quotes removed, `", "` between two quoted items tightened to `","`.
Excluded (`ListOk`): bodies containing `[`, `]` or `\`.  An `&` or `_` inside a body is carried. -/
theorem list_literal (s : List Nat) (bs : List Str) (hs : s ≠ []) (hpos : ∀ d ∈ s, 1 ≤ d)
    (hl : bs.length = s.prod) (hc : ∀ b ∈ bs, ListOk b) :
    arrayList (debugVec s (bs.map wrapB)) = .ok (s, bs.map (fun b => remove '"' (quoteTight b))) :=
  arrayList_literal s bs hs hpos hl hc

/-- … and when no item is quoted, the bodies are carried unchanged -/
theorem list_literal_plain (s : List Nat) (bs : List Str) (hs : s ≠ []) (hpos : ∀ d ∈ s, 1 ≤ d)
    (hl : bs.length = s.prod) (hc : ∀ b ∈ bs, ListOk b ∧ '"' ∉ b) :
    arrayList (debugVec s (bs.map wrapB)) = .ok (s, bs) := by
  rw [list_literal s bs hs hpos hl (fun b hb => (hc b hb).1)]
  congr 2
  conv => rhs; rw [← List.map_id bs]
  apply List.map_congr_left
  intro b hb
  have : quoteTight b = b := replace_of_not_mem (p := quoteSepL) (c := '"') (by decide) (hc b hb).2
  rw [this]
  exact remove_of_not_mem (hc b hb).2

/-- **the `array_tuple!` loop ends on every text**: with `n` opening parentheses in the text, `n + 1` iterations are all
the loop can use (an iteration removes the first `(`, or panics, or is the single no-progress iteration of
`tuple_adjacent_no_progress`, which is followed by a panic); more fuel never changes the outcome. -/
theorem tuple_loop_ends (n : Nat) (text : Str) (acc : List Str) (k : Nat) (h : text.count '(' ≤ n) :
    cutTuples (n + 1 + k) text acc = cutTuples (n + 1) text acc :=
  cutTuples_fuel n text acc k h

/-- the fuel `text.length + 1` that `arrayTuple` / `arrayList` give their loops is never what decides the answer: the
model's `panic` never stands for a loop that would go on -/
theorem typed_loops_fuel_suffices (text : Str) (acc : List Str) (k : Nat) :
    cutTuples (text.length + 1 + k) text acc = cutTuples (text.length + 1) text acc
    ∧ cutLists (text.length + 1 + k) text acc = cutLists (text.length + 1) text acc :=
  ⟨cutTuples_fuel _ text acc k List.count_le_length, cutLists_fuel _ text acc k List.count_le_length⟩

/-- **the `array_list!` cut-out loop ends on every text** within `count('&') + 1` iterations -/
theorem list_loop_ends (n : Nat) (text : Str) (acc : List Str) (k : Nat) (h : text.count '&' ≤ n) :
    cutLists (n + 1 + k) text acc = cutLists (n + 1) text acc :=
  cutLists_fuel n text acc k h

/-- **the one iteration of `array_tuple!` that makes no progress**: when the first `)` of the text stands directly
before its first `(`, `start..=end` is the empty range at `start` — an empty piece is pushed, a `_` is inserted, nothing is
removed (the text grows by one character and still holds the same `(`). -/
theorem tuple_adjacent_no_progress (A Z : Str) (acc : List Str) (fuel : Nat) (hA : '(' ∉ A ∧ ')' ∉ A) :
    cutTuples (fuel + 1) (A ++ ')' :: '(' :: Z) acc = cutTuples fuel (A ++ ')' :: '_' :: '(' :: Z) ([] :: acc) :=
  cutTuples_adjacent_step A Z acc fuel hA

/-- … but the loop does not run on: the next iteration has `start = end + 2` and its slice panics.  On every text whose
first `)` comes before its first `(` — directly or not — `array_tuple!` panics, with any amount of fuel. -/
theorem tuple_adjacent_parens (A G Z : Str) (acc : List Str) (hA : '(' ∉ A ∧ ')' ∉ A) (hG : '(' ∉ G) (fuel : Nat) :
    cutTuples fuel (A ++ ')' :: (G ++ '(' :: Z)) acc = .panic := by
  cases G with
  | nil => exact cutTuples_adjacent A Z acc hA fuel
  | cons x G => exact cutTuples_close_first A (x :: G) Z acc hA hG (by simp) fuel

/-- the exclusions of `tuple_literal` / `list_literal` are necessary (each line: a literal whose one offending item
changes the outcome): a component `")"`; a component holding backslash-n; a component holding `], [`; a list item that
is itself a list; a list item `"a]"`; a list item holding backslash-n. -/
theorem typed_literal_exclusions_needed :
    arrayTuple "[[[(\")\", 1), (\"b\", 2)]]]".toList = .panic
    ∧ arrayTuple "[[[(\"a\\\\nb\", 1)]]]".toList = .ok ([1], ["(a\\\nb, 1)".toList])
    ∧ arrayTuple "[[[(\"x], [y\", 1), (\"b\", 2)]]]".toList = .ok ([2], ["(x],[y, 1)".toList, "(b, 2)".toList])
    ∧ arrayList "[[[[1], 2], [3]]]".toList = .ok ([2, 2], ["1".toList])
    ∧ arrayList "[[[\"a]\", \"b\"], [\"c\"]]]".toList = .panic
    ∧ arrayList "[[[\"a\\\\nb\"], [\"c\"]]]".toList = .ok ([2], ["a\\\nb".toList, "c".toList]) := by
  -- `String.toList_ofList` puts the character list in place of each literal: the kernel then evaluates the model alone,
  -- not the UTF-8 decoder behind `String.toList`
  refine ⟨?_, ?_, ?_, ?_, ?_, ?_⟩
  · rw [String.toList_ofList]
    decide +kernel
  · rw [String.toList_ofList, String.toList_ofList]
    decide +kernel
  · rw [String.toList_ofList, String.toList_ofList, String.toList_ofList]
    decide +kernel
  · rw [String.toList_ofList, String.toList_ofList]
    decide +kernel
  · rw [String.toList_ofList]
    decide +kernel
  · rw [String.toList_ofList, String.toList_ofList, String.toList_ofList]
    decide +kernel

/-! ## non-vacuity -/

section examples
private def d (n : Nat) : Str := (toString n).toList

/-- a rank-3 literal with a unit axis in the middle satisfies `Valid` -/
example : Valid [2, 1, 2] [['1'], ['-', '2'], ['3', '.', '5'], ['t', 'r', 'u', 'e']] :=
  ⟨by decide, by decide, by
    intro e he
    simp only [List.mem_cons, List.not_mem_nil, or_false] at he
    rcases he with rfl | rfl | rfl | rfl <;> exact ⟨by decide, by decide, by decide⟩⟩

example : debugVec [2, 1, 2] [['1'], ['-', '2'], ['3', '.', '5'], ['t', 'r', 'u', 'e']]
    = "[[[[1, -2]], [[3.5, true]]]]".toList := by
  rw [String.toList_ofList]
  decide +kernel

example : arrayGeneric "[[[[1, -2]], [[3.5, true]]]]".toList
    = .ok ([2, 1, 2], [['1'], ['-', '2'], ['3', '.', '5'], ['t', 'r', 'u', 'e']]) := by
  rw [String.toList_ofList]
  decide +kernel

/-- the hypotheses matter: a comma inside an element text changes the shape the generic arm computes -/
example : arrayGeneric (debugVec [2] [['a', ',', 'b'], ['c']]) = .ok ([3], [['a'], ['b'], ['c']]) := by decide +kernel

example : display (fun (n : Nat) => [Char.ofNat (48 + n)]) true ⟨[1, 2, 3, 4], [2, 2]⟩ = "[[1, 2],\n [3, 4]]".toList := by
  rw [String.toList_ofList]
  decide +kernel

/-- a string with a comma, a bracket and a blank is carried (`StrOk`), and the model run on the literal confirms it -/
example : StrOk ['a', ',', ' ', 'b', ']'] :=
  ⟨by decide, by decide, by decide, by
    intro k
    match k with
    | 0 | 1 | 2 | 3 | 4 => decide
    | k + 5 => simp [brSepL]⟩

example : arrayString "[[[\"a, b]\", \"\"], [\"[\", \",\"]]]".toList
    = .ok ([2, 2], ["a, b]".toList, [], ['['], [',']]) := by
  rw [String.toList_ofList, String.toList_ofList]
  decide +kernel

example : arrayChar "[[[',', ' '], ['[', ']']]]".toList = .ok ([2, 2], [[','], [' '], ['['], [']']]) := by
  rw [String.toList_ofList]
  decide +kernel

example : SepFree ['-', '2', '.', '5'] := by
  intro c hc; simp only [List.mem_cons, List.not_mem_nil, or_false] at hc
  rcases hc with rfl | rfl | rfl | rfl <;> decide
example : parseTuple2 (fun t => some t) (fun t => some t) "(1, 2.5)".toList = some ("1".toList, "2.5".toList) := by
  rw [String.toList_ofList, String.toList_ofList, String.toList_ofList]
  decide +kernel

/-- tuple and list literals: the hypotheses are satisfiable and the model run on the literal confirms the statements
(quoted components with a blank, a comma-free `(`, an `&`, the empty list) -/
example : TupOk "\"a b\", \"(\"".toList := by
  rw [String.toList_ofList]
  exact ⟨by decide, by decide, noBr_of_not_mem (by decide)⟩
example : arrayTuple (debugVec [1, 2] ["(1, 2.5)".toList, "(\"a b\", \"(\")".toList])
    = .ok ([2], ["(1, 2.5)".toList, "(a b,()".toList]) := by
  rw [String.toList_ofList, String.toList_ofList, String.toList_ofList]
  decide +kernel
example : ListOk "\"a&\", \"_\"".toList := by
  rw [String.toList_ofList]
  exact ⟨by decide, by decide, by decide⟩
example : arrayList (debugVec [2, 1] ["[1, 2]".toList, "[]".toList]) = .ok ([2, 1], ["1, 2".toList, []]) := by
  rw [String.toList_ofList, String.toList_ofList, String.toList_ofList]
  decide +kernel
example : arrayList "[[[\"a&\", \"b\"], [\"&c\"]]]".toList = .ok ([2], ["a&,b".toList, "&c".toList]) := by
  rw [String.toList_ofList, String.toList_ofList, String.toList_ofList]
  decide +kernel
/-- `)(`: one no-progress iteration, then a panic — never a result, never an endless loop -/
example : cutTuples 100 "[[[x)(1, 2)]]]".toList [] = .panic := by
  rw [String.toList_ofList]
  decide +kernel
end examples

end ArrModel.C18
