import ArrProofs.Lemmas.C03
import ArrProofs.Lemmas.GenCore
import ArrProofs.Lemmas.GenCoreShape
/-!
# C03 — broadcasting follows the trailing-axis stretch rule, in shape and in values

Property theorems only (helper lemmas and the specification predicates `stretchEq`, `stretchable`
live in `ArrProofs/Lemmas/C03*.lean`).
Model under test: `ArrModel/Broadcast.lean` (`isBroadcastable`, `broadcastShape`, `broadcastTo`, `broadcast`,
`commonBroadcastShape`, `broadcastArrays`, `zip`, and the crate-internal helpers `broadcastH2`, `broadcastH3`),
which transcribes `validators/shape.rs:18-29`, `operations/broadcast.rs` and `iter.rs:308-315` arm for arm.

Specification vocabulary
* `stretchable s t` — `s` is no longer than `t` and, aligned at the trailing axis, every axis of `s`
  equals the axis of `t` or is one; no zero length on an aligned axis (the code refuses those);
  the added leading axes of `t` are unconstrained.
* `bsrc s c` (model) — the source coordinate of target coordinate `c`: drop the added leading axes, use
  index 0 along the unit axes of `s`.
* `a.get? c` — the element stored at the row-major position of `c`.
* `fromEnd s k` — the `k`-th axis length of `s` counted from the trailing axis, a missing leading axis reads 1.
* `maxLen shapes`, `cmax shapes k` — largest rank / largest `k`-th-from-the-end length in a list of shapes.

Zero-length axes: the code refuses them on every aligned axis (`broadcast_zero_axis`,
`broadcastArrays_zero_axis`); only an *added leading* target axis of `broadcast_to` may be zero (empty result).
-/
namespace ArrModel.C03
open ArrModel Arr

variable {α β : Type}

/-! ## `broadcast_to`, accepted targets -/

/-- **broadcast_to, values and shape**: a well-formed array whose shape can be stretched to `t` is
broadcast successfully; the result has exactly the shape `t`, is well formed, and the element at every
in-range coordinate `c` is the source element at `bsrc a.shape c`.
Both arms of the code are covered: the equal-count `reshape` shortcut and the coordinate gather. -/
theorem broadcastTo_stretch (a : Arr α) (t : List Nat) (hwf : a.WF) (hs : stretchable a.shape t = true) :
    ∃ r, a.broadcastTo t = .ok r ∧ r.shape = t ∧ r.WF ∧
      ∀ c, inRange t c = true → r.get? c = a.get? (bsrc a.shape c) := by
  rw [broadcastTo_eq]
  by_cases hp : a.shape.prod = t.prod
  · rw [if_pos hp, if_pos (isBroadcastable_of_stretchable _ _ hs), Arr.reshape_of_prod hwf hp.symm]
    exact ⟨_, rfl, rfl, hwf.trans hp, fun c hc => congrArg (a.elems[·]?) (ravel_bsrc_of_prod_eq _ _ _ hs hp hc)⟩
  · rw [if_neg hp, if_pos hs]
    obtain ⟨es, hes, hlen, hval⟩ := gather_ok a hwf t hs
    rw [hes, Res.bind_ok, Arr.new_of_prod hlen.symm]
    exact ⟨_, rfl, rfl, hlen, hval⟩

/-- the source coordinate of an in-range target coordinate is in range for the source and holds an element; with
`broadcastTo_stretch`, every in-range position of the result holds an element -/
theorem broadcastTo_total (a : Arr α) (t : List Nat) (hwf : a.WF) (hs : stretchable a.shape t = true)
    (c : List Nat) (hc : inRange t c = true) :
    inRange a.shape (bsrc a.shape c) = true ∧ ∃ x, a.get? (bsrc a.shape c) = some x := by
  have h := inRange_bsrc _ _ _ hs hc
  exact ⟨h, get?_isSome a hwf _ h⟩

/-! ## `broadcast_to`, rejected targets

The rejection theorem leaves one region open: targets of the *same* element count that the source cannot be
stretched to.  There the code answers an error when `is_broadcastable` sees a clash (e.g. `[2,3] → [3,2]`)
and otherwise takes the `reshape` shortcut and succeeds (e.g. `[1,6] → [6,1]`); `broadcastTo_equal_count` and
`equal_count_region` below describe that region. -/

/-- **broadcast_to, rejection**: a target of a different element count that the source cannot be
stretched to is refused with `BroadcastShapeMismatch` — never data, never a panic. -/
theorem broadcastTo_reject (a : Arr α) (t : List Nat) (hs : stretchable a.shape t = false)
    (hp : a.shape.prod ≠ t.prod) : a.broadcastTo t = .err .BroadcastShapeMismatch := by
  rw [broadcastTo_eq, if_neg hp, hs]
  rfl

/-- on a well-formed array `broadcast_to` answers an array or `BroadcastShapeMismatch` — nothing else -/
theorem broadcastTo_ok_or_reject (a : Arr α) (t : List Nat) (hwf : a.WF) :
    (∃ r, a.broadcastTo t = .ok r) ∨ a.broadcastTo t = .err .BroadcastShapeMismatch := by
  by_cases hp : a.shape.prod = t.prod
  · rw [broadcastTo_eq, if_pos hp, Arr.reshape_of_prod hwf hp.symm]
    split
    · exact .inl ⟨_, rfl⟩
    · exact .inr rfl
  · cases hs : stretchable a.shape t
    · exact .inr (broadcastTo_reject a t hs hp)
    · obtain ⟨r, hr, _⟩ := broadcastTo_stretch a t hwf hs
      exact .inl ⟨r, hr⟩

/-- `broadcast_to` never panics on a well-formed array -/
theorem broadcastTo_never_panics (a : Arr α) (t : List Nat) (hwf : a.WF) : a.broadcastTo t ≠ .panic :=
  (broadcastTo_ok_or_reject a t hwf).elim (fun ⟨_, h⟩ => Res.ne_panic_of_ok h) fun h => Res.ne_panic_of_err ⟨_, h⟩

/-! ## `zip`: only the argument is stretched, to the receiver's shape -/

/-- **zip, values and shape** -/
theorem zip_at (a : Arr α) (b : Arr β) (ha : a.WF) (hb : b.WF) (hs : stretchable b.shape a.shape = true) :
    ∃ r, a.zip b = .ok r ∧ r.shape = a.shape ∧ r.WF ∧
      ∀ c, inRange a.shape c = true →
        ∃ x y, a.get? c = some x ∧ b.get? (bsrc b.shape c) = some y ∧ r.get? c = some (x, y) := by
  obtain ⟨b', hb1, hb2, hb3, hb4⟩ := broadcastTo_stretch b a.shape hb hs
  obtain ⟨r, hr1, hr2, hr3, hr4⟩ := new_zip a b' a.shape rfl hb2 ha hb3
  refine ⟨r, ?_, hr2, hr3, fun c hc => ?_⟩
  · unfold Arr.zip
    rw [hb1]; exact hr1
  · obtain ⟨x, hx⟩ := get?_isSome a ha c hc
    obtain ⟨_, y, hy⟩ := broadcastTo_total b a.shape hb hs c hc
    exact ⟨x, y, hx, hy, hr4 c x y hx (by rw [hb4 c hc, hy])⟩

/-- **zip, rejection**: an argument of a different element count that cannot be stretched to the
receiver's shape is refused (in particular the receiver is never stretched) -/
theorem zip_reject (a : Arr α) (b : Arr β) (hs : stretchable b.shape a.shape = false)
    (hp : b.shape.prod ≠ a.shape.prod) : a.zip b = .err .BroadcastShapeMismatch := by
  unfold Arr.zip
  rw [broadcastTo_reject b a.shape hs hp]; rfl

/-! ## `broadcast_shape`, axis by axis from the trailing axis

`fromEnd s k` is the `k`-th axis length counted from the end, reading a missing leading axis as 1. -/

/-- **broadcast_shape, characterisation**: the call answers `r` exactly when `r` has the larger rank, every
aligned pair of lengths is equal or contains a one, and each result axis is the non-unit length of the pair. -/
theorem broadcastShape_spec (s t r : List Nat) :
    broadcastShape s t = .ok r ↔
      r.length = max s.length t.length ∧
      ∀ k, k < r.length →
        (fromEnd s k = fromEnd t k ∨ fromEnd s k = 1 ∨ fromEnd t k = 1) ∧
        fromEnd r k = if fromEnd s k = 1 then fromEnd t k else fromEnd s k :=
  broadcastShape_ok_iff s t r

/-- with no zero-length axis, every result axis is the larger aligned length -/
theorem broadcastShape_max (s t r : List Nat) (h : broadcastShape s t = .ok r) (hs : 0 ∉ s) (ht : 0 ∉ t)
    (k : Nat) : fromEnd r k = max (fromEnd s k) (fromEnd t k) := by
  have := broadcastShape_axis s t r h k
  have := (zero_not_mem_iff_fromEnd s).1 hs k
  have := (zero_not_mem_iff_fromEnd t).1 ht k
  omega

/-- a disagreement on an aligned axis where neither length is one is refused -/
theorem broadcastShape_reject (s t : List Nat) (k : Nat)
    (h : fromEnd s k ≠ fromEnd t k ∧ fromEnd s k ≠ 1 ∧ fromEnd t k ≠ 1) :
    broadcastShape s t = .err .BroadcastShapeMismatch := by
  rcases broadcastShape_ok_or_err s t with ⟨r, hr⟩ | hr
  · have := broadcastShape_axis s t r hr k
    omega
  · exact hr

/-! ## `broadcast` of two arrays -/

/-- **broadcast, values and shape**: when the two shapes have a common broadcast shape `fs` without a
zero-length axis, the call succeeds with exactly that shape, and the pair stored at every in-range coordinate
`c` is (element of `a` at `bsrc a.shape c`, element of `b` at `bsrc b.shape c`).
Covers the equal-shape arm and the two-stretch arm. (A zero-length axis is refused by the code.) -/
theorem broadcast_at (a : Arr α) (b : Arr β) (fs : List Nat) (ha : a.WF) (hb : b.WF)
    (hfs : broadcastShape a.shape b.shape = .ok fs) (hz : 0 ∉ fs) :
    ∃ r, a.broadcast b = .ok r ∧ r.shape = fs ∧ r.WF ∧
      ∀ c, inRange fs c = true →
        ∃ x y, a.get? (bsrc a.shape c) = some x ∧ b.get? (bsrc b.shape c) = some y ∧
          r.get? c = some (x, y) := by
  obtain ⟨hsa, hsb, hib⟩ := stretchable_of_broadcastShape _ _ _ hfs hz
  by_cases heq : a.shape = b.shape
  · rw [broadcast_of_shape_eq a b hib heq]
    have hfa : a.shape = fs := by
      rw [← heq, broadcastShape_self] at hfs; exact Res.ok.inj hfs
    subst hfa
    obtain ⟨r, hr1, hr2, hr3, hr4⟩ := new_zip a b a.shape rfl heq.symm ha hb
    refine ⟨r, hr1, hr2, hr3, fun c hc => ?_⟩
    rw [bsrc_of_inRange _ _ hc, ← heq, bsrc_of_inRange _ _ hc]
    obtain ⟨x, hx⟩ := get?_isSome a ha c hc
    obtain ⟨y, hy⟩ := get?_isSome b hb c (by rw [← heq]; exact hc)
    exact ⟨x, y, hx, hy, hr4 c x y hx hy⟩
  · obtain ⟨a', ha1, ha2, ha3, ha4⟩ := broadcastTo_stretch a fs ha hsa
    obtain ⟨b', hb1, hb2, hb3, hb4⟩ := broadcastTo_stretch b fs hb hsb
    rw [broadcast_of_shape_ne a b hib heq, hfs, Res.bind_ok, ha1, Res.bind_ok, hb1, Res.bind_ok]
    obtain ⟨r, hr1, hr2, hr3, hr4⟩ := new_zip a' b' fs ha2 hb2 ha3 hb3
    refine ⟨r, hr1, hr2, hr3, fun c hc => ?_⟩
    obtain ⟨_, x, hx⟩ := broadcastTo_total a fs ha hsa c hc
    obtain ⟨_, y, hy⟩ := broadcastTo_total b fs hb hsb c hc
    exact ⟨x, y, hx, hy, hr4 c x y (by rw [ha4 c hc, hx]) (by rw [hb4 c hc, hy])⟩

/-- **broadcast, rejection**: operands that disagree on an aligned axis where neither length is one are
refused with `BroadcastShapeMismatch` -/
theorem broadcast_reject (a : Arr α) (b : Arr β) (k : Nat) (hka : k < a.shape.length) (hkb : k < b.shape.length)
    (h : fromEnd a.shape k ≠ fromEnd b.shape k ∧ fromEnd a.shape k ≠ 1 ∧ fromEnd b.shape k ≠ 1) :
    a.broadcast b = .err .BroadcastShapeMismatch :=
  broadcast_err_of_shape_err a b _ (broadcastShape_reject a.shape b.shape k h)

/-- **broadcast, zero-length axes are refused**: when the common shape contains a zero-length axis the call
answers `BroadcastShapeMismatch` (so the hypothesis `0 ∉ fs` of `broadcast_at` is exactly the success region) -/
theorem broadcast_zero_axis (a : Arr α) (b : Arr β) (fs : List Nat) (ha : a.WF)
    (hfs : broadcastShape a.shape b.shape = .ok fs) (hz : 0 ∈ fs) :
    a.broadcast b = .err .BroadcastShapeMismatch := by
  cases hib : isBroadcastable a.shape b.shape
  · exact broadcast_of_not_broadcastable a b hib
  · have hno := not_isBroadcastable_of_zero_mem _ _ fs hfs hz
    by_cases heq : a.shape = b.shape
    · exfalso
      have hfa : a.shape = fs := by
        rw [← heq, broadcastShape_self] at hfs; exact Res.ok.inj hfs
      rw [← heq] at hib
      rw [← hfa, ← heq, hib] at hno
      rcases hno with h | h
      · cases h
      · cases h
    · rw [broadcast_of_shape_ne a b hib heq, hfs, Res.bind_ok]
      rcases hno with h | h
      · rw [broadcastTo_of_not_broadcastable a fs h]; rfl
      · rcases broadcastTo_ok_or_reject a fs ha with ⟨a', ha'⟩ | ha'
        · rw [ha', Res.bind_ok, broadcastTo_of_not_broadcastable b fs h]; rfl
        · rw [ha']; rfl

/-! ## `broadcast_arrays`

`maxLen shapes` is the largest rank, `cmax shapes k` the largest `k`-th-from-the-end axis length
(both are left folds of `max`, see `cmax_spec`). -/

/-- `cmax` is the maximum: an upper bound of every member's axis, and attained (or 0 for no shapes) -/
theorem cmax_spec (shapes : List (List Nat)) (k : Nat) :
    (∀ s ∈ shapes, fromEnd s k ≤ cmax shapes k) ∧
    (cmax shapes k = 0 ∨ ∃ s ∈ shapes, cmax shapes k = fromEnd s k) := by
  refine ⟨fun s hs => fromEnd_le_cmax shapes s hs k, ?_⟩
  rcases foldl_max_mem (shapes.map (fun s => fromEnd s k)) 0 with h | h
  · exact .inl h
  · obtain ⟨s, hs, hs'⟩ := List.mem_map.1 h
    exact .inr ⟨s, hs, hs'.symm⟩

/-- **common_broadcast_shape, characterisation**: the call answers `cs` exactly when `cs` has the largest rank,
each axis (from the end) is the largest aligned length, and every member's aligned length equals that maximum
or is one (or the maximum is one). -/
theorem commonBroadcastShape_spec (shapes : List (List Nat)) (cs : List Nat) :
    commonBroadcastShape shapes = .ok cs ↔
      (cs.length = maxLen shapes ∧ ∀ k, k < maxLen shapes → fromEnd cs k = cmax shapes k) ∧
      ∀ s ∈ shapes, ∀ k, k < maxLen shapes →
        (fromEnd s k = cmax shapes k ∨ fromEnd s k = 1 ∨ cmax shapes k = 1) :=
  commonBroadcastShape_ok_iff shapes cs

/-- member shapes that disagree on an aligned axis where neither length is one have no common shape -/
theorem commonBroadcastShape_reject (shapes : List (List Nat)) (s t : List Nat) (hs : s ∈ shapes) (ht : t ∈ shapes)
    (k : Nat) (h : fromEnd s k ≠ fromEnd t k ∧ fromEnd s k ≠ 1 ∧ fromEnd t k ≠ 1) :
    commonBroadcastShape shapes = .err .BroadcastShapeMismatch := by
  rcases commonBroadcastShape_ok_or_err shapes with ⟨cs, hcs⟩ | hcs
  · exfalso
    obtain ⟨_, hcompat⟩ := (commonBroadcastShape_ok_iff shapes cs).1 hcs
    have hk : k < maxLen shapes := by
      have := lt_length_of_fromEnd_ne_one s k h.2.1
      have := length_le_maxLen shapes s hs
      omega
    have := hcompat s hs k hk
    have := hcompat t ht k hk
    have := fromEnd_le_cmax shapes s hs k
    have := fromEnd_le_cmax shapes t ht k
    omega
  · exact hcs

/-- **broadcast_arrays, values and shapes**: well-formed arrays without zero-length axes whose shapes have a
common shape `cs` are all broadcast to exactly `cs`; the `i`-th result is the `i`-th input stretched, value by
value through `bsrc`. -/
theorem broadcastArrays_spec (arrs : List (Arr α)) (cs : List Nat)
    (hwf : ∀ a ∈ arrs, a.WF) (hz : ∀ a ∈ arrs, 0 ∉ a.shape)
    (hcs : commonBroadcastShape (arrs.map (·.shape)) = .ok cs) :
    ∃ rs, Arr.broadcastArrays arrs = .ok rs ∧ rs.length = arrs.length ∧
      ∀ (i : Nat) a, arrs[i]? = some a → ∃ r, rs[i]? = some r ∧ r.shape = cs ∧ r.WF ∧
        ∀ c, inRange cs c = true → r.get? c = a.get? (bsrc a.shape c) := by
  have hst : ∀ a ∈ arrs, stretchable a.shape cs = true := fun a ha =>
    stretchable_of_common _ cs hcs a.shape (List.mem_map.2 ⟨a, ha, rfl⟩) (hz a ha)
  obtain ⟨rs, hrs⟩ := sequence_map_ok (fun a : Arr α => a.broadcastTo cs) arrs (fun a ha => by
    obtain ⟨r, hr, _⟩ := broadcastTo_stretch a cs (hwf a ha) (hst a ha)
    exact ⟨r, hr⟩)
  obtain ⟨hlen, hval⟩ := (sequence_map_ok_iff _ _ _).1 hrs
  refine ⟨rs, ?_, hlen, fun i a hia => ?_⟩
  · unfold Arr.broadcastArrays
    rw [hcs]; exact hrs
  · obtain ⟨r, hr1, hr2⟩ := hval i a hia
    have ha := List.mem_of_getElem? hia
    obtain ⟨r', hr', h⟩ := broadcastTo_stretch a cs (hwf a ha) (hst a ha)
    obtain rfl : r' = r := Res.ok.inj (hr'.symm.trans hr2)
    exact ⟨r', hr1, h⟩

/-- **broadcast_arrays, rejection**: two members that disagree on an aligned axis where neither length is one
make the whole call fail with `BroadcastShapeMismatch` -/
theorem broadcastArrays_reject (arrs : List (Arr α)) (a b : Arr α) (ha : a ∈ arrs) (hb : b ∈ arrs) (k : Nat)
    (h : fromEnd a.shape k ≠ fromEnd b.shape k ∧ fromEnd a.shape k ≠ 1 ∧ fromEnd b.shape k ≠ 1) :
    Arr.broadcastArrays arrs = .err .BroadcastShapeMismatch := by
  unfold Arr.broadcastArrays
  rw [commonBroadcastShape_reject (arrs.map (·.shape)) a.shape b.shape
    (List.mem_map.2 ⟨a, ha, rfl⟩) (List.mem_map.2 ⟨b, hb, rfl⟩) k h]
  rfl

/-- **broadcast_arrays, zero-length axes are refused** (so the hypothesis `0 ∉ a.shape` of
`broadcastArrays_spec` is necessary) -/
theorem broadcastArrays_zero_axis (arrs : List (Arr α)) (hwf : ∀ a ∈ arrs, a.WF) (a : Arr α) (ha : a ∈ arrs)
    (hz : 0 ∈ a.shape) : Arr.broadcastArrays arrs = .err .BroadcastShapeMismatch := by
  unfold Arr.broadcastArrays
  rcases commonBroadcastShape_ok_or_err (arrs.map (·.shape)) with ⟨cs, hcs⟩ | hcs
  · rw [hcs, Res.bind_ok]
    rcases sequence_map_ok_or_err (fun x : Arr α => x.broadcastTo cs) arrs .BroadcastShapeMismatch
      (fun x hx => broadcastTo_ok_or_reject x cs (hwf x hx)) with ⟨rs, hrs⟩ | hrs
    · exfalso
      obtain ⟨_, hval⟩ := (sequence_map_ok_iff _ _ _).1 hrs
      obtain ⟨i, hi⟩ := List.getElem?_of_mem ha
      obtain ⟨r, _, hr⟩ := hval i a hi
      obtain ⟨k, hk0⟩ := (zero_mem_iff_fromEnd a.shape).1 hz
      have hk : k < a.shape.length := lt_length_of_fromEnd_ne_one _ k (by omega)
      have hlen : cs.length = maxLen (arrs.map (·.shape)) := ((commonBroadcastShape_ok_iff _ cs).1 hcs).1.1
      have hle := length_le_maxLen (arrs.map (·.shape)) a.shape (List.mem_map.2 ⟨a, ha, rfl⟩)
      rw [broadcastTo_of_not_broadcastable a cs
        (isBroadcastable_false_of_zero _ _ k hk (by omega) (.inl hk0))] at hr
      cases hr
    · exact hrs
  · rw [hcs]; rfl

/-! ## `broadcast_to` on a target of the same element count

On such a target the only test left is `is_broadcastable`; when it passes, the element list is kept as it is and
only the shape is replaced (the `reshape` shortcut), otherwise the call is refused.  This covers the same-count
targets the source cannot be stretched to. -/

/-- `is_broadcastable`, axis by axis from the trailing axis: no zero length on an aligned axis, and the
two aligned lengths are equal or one of them is one (the *direction* is not tested) -/
theorem isBroadcastable_spec (s t : List Nat) :
    isBroadcastable s t = true ↔ ∀ k, k < s.length → k < t.length →
      fromEnd s k ≠ 0 ∧ fromEnd t k ≠ 0 ∧
      (fromEnd s k = fromEnd t k ∨ fromEnd s k = 1 ∨ fromEnd t k = 1) :=
  isBroadcastable_iff_compat s t

/-- **broadcast_to, equal element count**: on a target of the same element count the outcome is decided by
`is_broadcastable` alone — it passes: the row-major element list is returned unchanged under the new shape;
it fails: `BroadcastShapeMismatch`.  (For a stretchable pair this agrees with `broadcastTo_stretch`; for a
non-stretchable pair it is the region `broadcastTo_reject` leaves open, e.g. `[1,6] → [6,1]` succeeds.) -/
theorem broadcastTo_equal_count (a : Arr α) (t : List Nat) (hwf : a.WF) (hp : a.shape.prod = t.prod) :
    a.broadcastTo t =
      if isBroadcastable a.shape t = true then .ok ⟨a.elems, t⟩ else .err .BroadcastShapeMismatch := by
  rw [broadcastTo_eq, if_pos hp, Arr.reshape_of_prod hwf hp.symm]

/-- **the open region, characterised**: a pair that passes `is_broadcastable` without being a stretch either
lowers the rank, or shrinks an axis of the source that is longer than one to a unit axis of the target.
With `broadcastTo_equal_count` and `broadcastTo_reject`: outside the stretch rule `broadcast_to` hands out data
only for such pairs and only when the element counts agree, and then it is the unchanged element list. -/
theorem equal_count_region (s t : List Nat) (hs : stretchable s t = false) (hb : isBroadcastable s t = true) :
    t.length < s.length ∨ ∃ k, k < s.length ∧ k < t.length ∧ fromEnd t k = 1 ∧ 1 < fromEnd s k := by
  by_cases hle : s.length ≤ t.length
  · right
    have hns : ¬ ∀ k, k < s.length →
        (fromEnd s k = fromEnd t k ∨ fromEnd s k = 1) ∧ fromEnd s k ≠ 0 ∧ fromEnd t k ≠ 0 := fun hall => by
      rw [(stretchable_iff_fromEnd s t).2 ⟨hle, hall⟩] at hs; cases hs
    obtain ⟨k, hk⟩ := Classical.not_forall.1 hns
    obtain ⟨hks, hk'⟩ := Classical.not_imp.1 hk
    have := (isBroadcastable_iff_compat s t).1 hb k hks (by omega)
    exact ⟨k, hks, by omega, by omega, by omega⟩
  · left; omega

/-! ## the crate-internal helpers `broadcast_h2`, `broadcast_h3`

Every string-array operation with a heterogeneous operand (`multiply`, `splitlines`, `center`, `ljust`, …),
`round` and the flat `insert` go through these. `zero` stands for `T::zero()`; it never reaches a result. -/

/-- a one-element array broadcasts to every shape without a zero length — the rank-0 shape included
(through the equal-count shortcut) -/
theorem single_broadcastTo (z : α) (s : List Nat) (hz : 0 ∉ s) :
    ∃ r, (Arr.mk [z] [1]).broadcastTo s = .ok r ∧ r.shape = s ∧ r.WF := by
  cases s with
  | nil => exact ⟨⟨[z], []⟩, rfl, rfl, rfl⟩
  | cons d s' =>
    have hst : stretchable [1] (d :: s') = true := single_stretchable _ (by simp) hz
    obtain ⟨r, h1, h2, h3, _⟩ := broadcastTo_stretch ⟨[z], [1]⟩ (d :: s') rfl hst
    exact ⟨r, h1, h2, h3⟩

/-- **broadcast_h2, values and shapes**: two well-formed operands (element types may differ) without
zero-length axes whose shapes have the broadcast shape `fs` are both stretched to exactly `fs`, each value by
value through `bsrc`. -/
theorem broadcastH2_at (a : Arr α) (zero : α) (b : Arr β) (fs : List Nat) (ha : a.WF) (hb : b.WF)
    (hza : 0 ∉ a.shape) (hzb : 0 ∉ b.shape) (hfs : broadcastShape a.shape b.shape = .ok fs) :
    ∃ a' b', a.broadcastH2 zero b = .ok (a', b') ∧ a'.shape = fs ∧ b'.shape = fs ∧ a'.WF ∧ b'.WF ∧
      ∀ c, inRange fs c = true →
        a'.get? c = a.get? (bsrc a.shape c) ∧ b'.get? c = b.get? (bsrc b.shape c) := by
  have hz : 0 ∉ fs := (zero_not_mem_broadcastShape_iff _ _ _ hfs).2 ⟨hza, hzb⟩
  obtain ⟨t, ht1, ht2, ht3⟩ := single_broadcastTo zero b.shape hzb
  obtain ⟨r, hr1, hr2, hr3, hr4⟩ := broadcast_at a t fs ha ht3 (by rw [ht2]; exact hfs) hz
  obtain ⟨_, hsb, _⟩ := stretchable_of_broadcastShape _ _ _ hfs hz
  obtain ⟨b', hb1, hb2, hb3, hb4⟩ := broadcastTo_stretch b fs hb hsb
  refine ⟨mapped (·.1) r, b', ?_, hr2, hb2, mapped_wf _ r hr3, hb3, fun c hc => ⟨?_, hb4 c hc⟩⟩
  · have hre : (Arr.flat (r.elems.map (·.1))).reshape r.shape = .ok (mapped (·.1) r) := new_map_ok _ r hr3
    unfold Arr.broadcastH2
    rw [ht1, Res.bind_ok, hr1, Res.bind_ok, hre, Res.bind_ok]
    show (b.broadcastTo r.shape >>= _) = _
    rw [hr2, hb1]; rfl
  · obtain ⟨x, y, hx, _, hxy⟩ := hr4 c hc
    rw [hx, mapped_get, hxy]; rfl

/-- **broadcast_h2, rejection**: shapes without a broadcast shape are refused -/
theorem broadcastH2_reject (a : Arr α) (zero : α) (b : Arr β) (e : Err)
    (h : broadcastShape a.shape b.shape = .err e) : a.broadcastH2 zero b = .err .BroadcastShapeMismatch := by
  unfold Arr.broadcastH2
  rcases broadcastTo_ok_or_reject ⟨[zero], [1]⟩ b.shape rfl with ⟨t, ht⟩ | ht
  · rw [ht, Res.bind_ok, broadcast_err_of_shape_err a t e (by rw [broadcastTo_shape _ _ _ ht]; exact h)]; rfl
  · rw [ht]; rfl

/-- **broadcast_h3, values and shapes**: three well-formed operands without zero-length axes whose shapes
have the common shape `cs` are all stretched to exactly `cs`, each value by value through `bsrc`. -/
theorem broadcastH3_at {γ : Type} (a : Arr α) (zero : α) (b : Arr β) (c : Arr γ) (cs : List Nat)
    (ha : a.WF) (hb : b.WF) (hc : c.WF) (hza : 0 ∉ a.shape) (hzb : 0 ∉ b.shape) (hzc : 0 ∉ c.shape)
    (hcs : commonBroadcastShape [a.shape, b.shape, c.shape] = .ok cs) :
    ∃ a' b' c', a.broadcastH3 zero b c = .ok (a', b', c') ∧
      a'.shape = cs ∧ b'.shape = cs ∧ c'.shape = cs ∧ a'.WF ∧ b'.WF ∧ c'.WF ∧
      ∀ x, inRange cs x = true →
        a'.get? x = a.get? (bsrc a.shape x) ∧ b'.get? x = b.get? (bsrc b.shape x) ∧
        c'.get? x = c.get? (bsrc c.shape x) := by
  obtain ⟨t1, h11, h12, h13⟩ := single_broadcastTo zero b.shape hzb
  obtain ⟨t2, h21, h22, h23⟩ := single_broadcastTo zero c.shape hzc
  have hshapes : [a, t1, t2].map (·.shape) = [a.shape, b.shape, c.shape] := by simp [h12, h22]
  obtain ⟨rs, hrs1, _, hrs3⟩ := broadcastArrays_spec [a, t1, t2] cs
    (by simp [ha, h13, h23]) (by simp [hza, h12, hzb, h22, hzc]) (by rw [hshapes]; exact hcs)
  obtain ⟨r, hr1, hr2, hr3, hr4⟩ := hrs3 0 a rfl
  have hsb := stretchable_of_common _ cs hcs b.shape (by simp) hzb
  have hsc := stretchable_of_common _ cs hcs c.shape (by simp) hzc
  obtain ⟨b', hb1, hb2, hb3, hb4⟩ := broadcastTo_stretch b cs hb hsb
  obtain ⟨c', hc1, hc2, hc3, hc4⟩ := broadcastTo_stretch c cs hc hsc
  refine ⟨r, b', c', ?_, hr2, hb2, hc2, hr3, hb3, hc3, fun x hx => ⟨hr4 x hx, hb4 x hx, hc4 x hx⟩⟩
  have hidx : Res.idx rs 0 = .ok r := by
    unfold Res.idx; rw [hr1]
  unfold Arr.broadcastH3
  rw [h11, Res.bind_ok, h21, Res.bind_ok, hrs1, Res.bind_ok, hidx, Res.bind_ok, hr2, hb1, Res.bind_ok, hc1]; rfl

/-- **broadcast_h3, rejection**: shapes without a common shape are refused -/
theorem broadcastH3_reject {γ : Type} (a : Arr α) (zero : α) (b : Arr β) (c : Arr γ) (e : Err)
    (h : commonBroadcastShape [a.shape, b.shape, c.shape] = .err e) :
    a.broadcastH3 zero b c = .err .BroadcastShapeMismatch := by
  unfold Arr.broadcastH3
  rcases broadcastTo_ok_or_reject ⟨[zero], [1]⟩ b.shape rfl with ⟨t1, h1⟩ | h1
  · rw [h1, Res.bind_ok]
    rcases broadcastTo_ok_or_reject ⟨[zero], [1]⟩ c.shape rfl with ⟨t2, h2⟩ | h2
    · rw [h2, Res.bind_ok]
      have hba : Arr.broadcastArrays [a, t1, t2] = .err .BroadcastShapeMismatch := by
        unfold Arr.broadcastArrays
        have hs : [a, t1, t2].map (·.shape) = [a.shape, b.shape, c.shape] := by
          simp [broadcastTo_shape _ _ _ h1, broadcastTo_shape _ _ _ h2]
        rw [hs]
        rcases commonBroadcastShape_ok_or_err [a.shape, b.shape, c.shape] with ⟨cs, hcs⟩ | hcs
        · rw [hcs] at h; cases h
        · rw [hcs]; rfl
      rw [hba]; rfl
    · rw [h2]; rfl
  · rw [h1]; rfl

/-! ### non-vacuity: concrete instances meeting the hypotheses, and the conclusions observed on them -/
example : (⟨List.range 6, [2, 1, 3]⟩ : Arr Nat).WF ∧ stretchable [2, 1, 3] [2, 2, 3] = true := by decide +kernel
example : (⟨List.range 6, [2, 1, 3]⟩ : Arr Nat).broadcastTo [2, 2, 3]
    = .ok ⟨[0, 1, 2, 0, 1, 2, 3, 4, 5, 3, 4, 5], [2, 2, 3]⟩ := by decide +kernel
example : bsrc [2, 1, 3] [1, 1, 2] = [1, 0, 2] ∧ bsrc [3] [1, 1, 2] = [2] ∧ bsrc [4, 1] [1, 3, 2] = [3, 0] := by decide +kernel
-- the equal-count shortcut arm (added leading unit axes) and a zero-length leading target axis
example : stretchable [2, 3] [1, 1, 2, 3] = true ∧
    (⟨List.range 6, [2, 3]⟩ : Arr Nat).broadcastTo [1, 1, 2, 3] = .ok ⟨List.range 6, [1, 1, 2, 3]⟩ := by decide +kernel
example : stretchable [3] [0, 3] = true ∧ (⟨[7, 8, 9], [3]⟩ : Arr Nat).broadcastTo [0, 3] = .ok ⟨[], [0, 3]⟩ := by decide +kernel
-- rejection: not stretchable, different count
example : stretchable [2, 3] [3, 3] = false ∧ [2, 3].prod ≠ [3, 3].prod ∧
    (⟨List.range 6, [2, 3]⟩ : Arr Nat).broadcastTo [3, 3] = .err .BroadcastShapeMismatch := by decide +kernel
example : stretchable [2, 2, 3] [3] = false ∧
    (⟨List.range 12, [2, 2, 3]⟩ : Arr Nat).broadcastTo [3] = .err .BroadcastShapeMismatch := by decide +kernel
-- same count, not stretchable: the code reshapes, or refuses on a clash
example : stretchable [1, 6] [6, 1] = false ∧
    (⟨List.range 6, [1, 6]⟩ : Arr Nat).broadcastTo [6, 1] = .ok ⟨List.range 6, [6, 1]⟩ := by decide +kernel
example : stretchable [2, 3] [3, 2] = false ∧
    (⟨List.range 6, [2, 3]⟩ : Arr Nat).broadcastTo [3, 2] = .err .BroadcastShapeMismatch := by decide +kernel
-- `broadcast_shape` on [2,1,3] and [4,1]; `broadcast`
example : broadcastShape [2, 1, 3] [4, 1] = .ok [2, 4, 3] ∧ 0 ∉ [2, 4, 3] ∧
    fromEnd [2, 1, 3] 1 = 1 ∧ fromEnd [4, 1] 1 = 4 ∧ fromEnd [4, 1] 2 = 1 := by decide +kernel
example : ((⟨[0, 1, 2], [3]⟩ : Arr Nat).broadcast (⟨[10, 20], [2, 1]⟩ : Arr Nat))
    = .ok ⟨[(0, 10), (1, 10), (2, 10), (0, 20), (1, 20), (2, 20)], [2, 3]⟩ := by decide +kernel
example : fromEnd [2, 3] 0 ≠ fromEnd [2] 0 ∧ fromEnd [2, 3] 0 ≠ 1 ∧ fromEnd [2] 0 ≠ 1 ∧
    ((⟨List.range 6, [2, 3]⟩ : Arr Nat).broadcast (⟨[1, 2], [2]⟩ : Arr Nat)) = .err .BroadcastShapeMismatch := by decide +kernel
-- `zip` stretches only the argument
example : ((⟨List.range 6, [2, 3]⟩ : Arr Nat).zip (⟨[7], [1]⟩ : Arr Nat))
    = .ok ⟨[(0, 7), (1, 7), (2, 7), (3, 7), (4, 7), (5, 7)], [2, 3]⟩ := by decide +kernel
example : stretchable [2, 3] [1] = false ∧
    ((⟨[7], [1]⟩ : Arr Nat).zip (⟨List.range 6, [2, 3]⟩ : Arr Nat)) = .err .BroadcastShapeMismatch := by decide +kernel
-- `broadcast_arrays`
example : commonBroadcastShape [[2, 1, 3], [4, 1], [3]] = .ok [2, 4, 3] ∧ maxLen [[2, 1, 3], [4, 1], [3]] = 3 ∧
    cmax [[2, 1, 3], [4, 1], [3]] 1 = 4 := by decide +kernel
example : Arr.broadcastArrays [(⟨[1, 2], [2, 1]⟩ : Arr Nat), ⟨[5, 6, 7], [3]⟩]
    = .ok [⟨[1, 1, 1, 2, 2, 2], [2, 3]⟩, ⟨[5, 6, 7, 5, 6, 7], [2, 3]⟩] := by decide +kernel
example : Arr.broadcastArrays [(⟨[1, 2], [2]⟩ : Arr Nat), ⟨[5, 6, 7], [3]⟩] = .err .BroadcastShapeMismatch := by decide +kernel

-- same count outside the stretch rule: [1,6] → [6,1] passes `is_broadcastable`, is not a stretch, the target has a
-- unit axis (k = 0) where the source has 6; [2,3] → [3,2] fails `is_broadcastable`
example : isBroadcastable [1, 6] [6, 1] = true ∧ stretchable [1, 6] [6, 1] = false ∧ [1, 6].prod = [6, 1].prod ∧
    fromEnd [6, 1] 0 = 1 ∧ 1 < fromEnd [1, 6] 0 ∧
    (⟨List.range 6, [1, 6]⟩ : Arr Nat).broadcastTo [6, 1] = .ok ⟨List.range 6, [6, 1]⟩ := by decide +kernel
example : isBroadcastable [2, 3] [3, 2] = false ∧ [2, 3].prod = [3, 2].prod := by decide +kernel
example : isBroadcastable [2, 3] [6] = false ∧ isBroadcastable [6, 1] [6] = true ∧ stretchable [6, 1] [6] = false ∧
    (⟨List.range 6, [6, 1]⟩ : Arr Nat).broadcastTo [6] = .ok ⟨List.range 6, [6]⟩ := by decide +kernel
-- `broadcast_h2`, `broadcast_h3`
example : broadcastShape [2, 1] [3] = .ok [2, 3] ∧
    (⟨[1, 2], [2, 1]⟩ : Arr Nat).broadcastH2 0 (⟨['a', 'b', 'c'], [3]⟩ : Arr Char)
      = .ok (⟨[1, 1, 1, 2, 2, 2], [2, 3]⟩, ⟨['a', 'b', 'c', 'a', 'b', 'c'], [2, 3]⟩) := by decide +kernel
example : (⟨[7], []⟩ : Arr Nat).broadcastH2 0 (⟨[true, false], [2]⟩ : Arr Bool)
      = .ok (⟨[7, 7], [2]⟩, ⟨[true, false], [2]⟩) ∧
    (⟨[7, 8], [2]⟩ : Arr Nat).broadcastH2 0 (⟨[true], []⟩ : Arr Bool)
      = .ok (⟨[7, 8], [2]⟩, ⟨[true, true], [2]⟩) := by decide +kernel
example : broadcastShape [2] [3] = .err .BroadcastShapeMismatch ∧
    (⟨[1, 2], [2]⟩ : Arr Nat).broadcastH2 0 (⟨['a', 'b', 'c'], [3]⟩ : Arr Char) = .err .BroadcastShapeMismatch := by decide +kernel
example : commonBroadcastShape [[2, 1], [3], [1]] = .ok [2, 3] ∧
    (⟨[1, 2], [2, 1]⟩ : Arr Nat).broadcastH3 0 (⟨['a', 'b', 'c'], [3]⟩ : Arr Char) (⟨[true], [1]⟩ : Arr Bool)
      = .ok (⟨[1, 1, 1, 2, 2, 2], [2, 3]⟩, ⟨['a', 'b', 'c', 'a', 'b', 'c'], [2, 3]⟩,
             ⟨[true, true, true, true, true, true], [2, 3]⟩) := by decide +kernel
example : commonBroadcastShape [[2], [1], [3]] = .err .BroadcastShapeMismatch ∧
    (⟨[1, 2], [2]⟩ : Arr Nat).broadcastH3 0 (⟨['a'], [1]⟩ : Arr Char) (⟨[true, false, true], [3]⟩ : Arr Bool)
      = .err .BroadcastShapeMismatch := by decide +kernel

/-! ## `is_broadcastable` as translated from `src/validators/shape.rs`

`ArrModel.Gen.Core.Vec_is_broadcastable` is regenerated from that file by `tools/rs2lean.py` on every run;
`ArrProofs/Lemmas/GenCore.lean` proves it equal to `isBroadcastable` (the test every theorem above goes through). -/

open ArrModel.Gen.Core in
/-- **is_broadcastable (translated source) accepts exactly** the shape pairs that, aligned at the trailing axis, have no
zero length on an aligned axis and equal lengths or a one on every aligned axis -/
theorem gen_is_broadcastable_ok_iff (s t : List Nat) :
    Vec_is_broadcastable s t = .ok () ↔ ∀ k, k < s.length → k < t.length →
      fromEnd s k ≠ 0 ∧ fromEnd t k ≠ 0 ∧
      (fromEnd s k = fromEnd t k ∨ fromEnd s k = 1 ∨ fromEnd t k = 1) := by
  rw [is_broadcastable_ok_iff]; exact isBroadcastable_spec s t

open ArrModel.Gen.Core in
/-- … and refuses every other pair with `BroadcastShapeMismatch` (never a panic) -/
theorem gen_is_broadcastable_err_iff (s t : List Nat) :
    Vec_is_broadcastable s t = .err .BroadcastShapeMismatch ↔ isBroadcastable s t = false := by
  rw [is_broadcastable_eq]; cases isBroadcastable s t <;> simp

open ArrModel.Gen.Core in
theorem gen_is_broadcastable_never_panics (s t : List Nat) : Vec_is_broadcastable s t ≠ .panic :=
  is_broadcastable_never_panics s t

open ArrModel.Gen.Core in
/-- the `Array<T>` form forwards to the shape -/
theorem gen_array_is_broadcastable (a : Arr α) (t : List Nat) :
    Array_is_broadcastable a t = .ok () ↔ isBroadcastable a.shape t = true := by
  rw [array_is_broadcastable_eq, is_broadcastable_ok_iff]

open ArrModel.Gen.Core in
/-- the translated validator accepts every pair for which `broadcastTo` answers an array (it is the first test of
`broadcast_to`) -/
theorem gen_is_broadcastable_of_broadcastTo (a : Arr α) (t : List Nat) (r : Arr α) (h : a.broadcastTo t = .ok r) :
    Vec_is_broadcastable a.shape t = .ok () := by
  rw [is_broadcastable_ok_iff]
  cases hb : isBroadcastable a.shape t
  · rw [broadcastTo_of_not_broadcastable a t hb] at h; cases h
  · rfl

example : ArrModel.Gen.Core.Vec_is_broadcastable [2, 1, 3] [4, 1] = .ok () := by decide +kernel
example : ArrModel.Gen.Core.Vec_is_broadcastable [2, 3] [3, 2] = .err .BroadcastShapeMismatch := by decide +kernel
example : ArrModel.Gen.Core.Vec_is_broadcastable [2, 0] [1] = .err .BroadcastShapeMismatch := by decide +kernel

/-! ## `broadcast_shape` as translated from `src/core/operations/broadcast.rs`

`ArrModel.Gen.Core.Array_broadcast_shape` (with `Vec_has_error` from `validators/has_error.rs`) is regenerated on every run and proved
equal to `broadcastShape` in `ArrProofs/Lemmas/GenCoreShape.lean`. -/

open ArrModel.Gen.Core in
/-- **broadcast_shape (translated source), characterisation**: answers `r` exactly when `r` has the larger rank, every aligned pair of
lengths is equal or contains a one, and each result axis is the non-unit length of the pair -/
theorem gen_broadcast_shape_spec (a : Arr α) (t r : List Nat) :
    Array_broadcast_shape a t = .ok r ↔
      r.length = max a.shape.length t.length ∧
      ∀ k, k < r.length →
        (fromEnd a.shape k = fromEnd t k ∨ fromEnd a.shape k = 1 ∨ fromEnd t k = 1) ∧
        fromEnd r k = if fromEnd a.shape k = 1 then fromEnd t k else fromEnd a.shape k := by
  rw [broadcast_shape_eq]; exact broadcastShape_spec a.shape t r

open ArrModel.Gen.Core in
/-- a disagreement on an aligned axis where neither length is one is refused with an error value -/
theorem gen_broadcast_shape_reject (a : Arr α) (t : List Nat) (k : Nat)
    (h : fromEnd a.shape k ≠ fromEnd t k ∧ fromEnd a.shape k ≠ 1 ∧ fromEnd t k ≠ 1) :
    Array_broadcast_shape a t = .err .BroadcastShapeMismatch := by
  rw [broadcast_shape_eq]; exact broadcastShape_reject a.shape t k h

open ArrModel.Gen.Core in
/-- with no zero-length axis, every result axis is the larger aligned length -/
theorem gen_broadcast_shape_max (a : Arr α) (t r : List Nat) (h : Array_broadcast_shape a t = .ok r) (hs : 0 ∉ a.shape) (ht : 0 ∉ t)
    (k : Nat) : fromEnd r k = max (fromEnd a.shape k) (fromEnd t k) := by
  rw [broadcast_shape_eq] at h; exact broadcastShape_max a.shape t r h hs ht k

example : ArrModel.Gen.Core.Array_broadcast_shape (⟨List.range 6, [2, 1, 3]⟩ : Arr Nat) [4, 1] = .ok [2, 4, 3] := by decide +kernel
example : ArrModel.Gen.Core.Array_broadcast_shape (⟨[1, 2], [2]⟩ : Arr Nat) [3] = .err .BroadcastShapeMismatch := by decide +kernel

end ArrModel.C03
