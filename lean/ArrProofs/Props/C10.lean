import ArrProofs.Lemmas.C10Query
import ArrProofs.Lemmas.C10Ext
/-!
# C10 — all sort kinds give the same ordered rearrangement; order queries agree

Property theorems only (helper lemmas: `ArrProofs/Lemmas/C10{Basic,Heap,Tim,Query,Ext}.lean`).
Model under test: `ArrModel/C10.lean` — `merge_sort`, `quick_sort`, index-based `heap_sort`, run-merging `tim_sort`
(the code of /repo commit 9f63c83 = `fixes/C10-timsort-merge.diff`; the two statements of `merge` it replaces are
modelled as `pinnedMergeTail`), the `SortKind` selector with its string spellings, `sort`, `argsort`, `argmax`,
`argmin`, `unique`.

All theorems are for **every lane of every length** over any element type whose comparison operators form a linear
order (`Cmp.Lawful`; `Cmp.int_lawful` is the instance the tie runs on).  "Never panics" includes "the loop fuel of the
model suffices" (running out of fuel is modelled as a panic).

Scope: the lane-level (flat, `axis = None`) forms, and the `axis = Some(k)` forms of `sort`, `argsort`, `argmax`,
`argmin` for every axis (either spelling) of every array of any rank whose axes all have length >= 1, lifted through
the lemmas for `apply_along_axis` (`along_lanewise`, `countAxis_single` in `Lemmas/C10Ext.lean`, on the stage lemmas of C08).

Also proved:
* arrays with a zero-length axis: the complete outcome of `sort` / `argsort` / `unique` / `argmax` / `argmin` in the flat
  and axis forms (`*_zero_axis`, `*_flat_zero`, `argExtreme_zero`), and the total statements `*_op_total` /
  `*_op_never_panics` for EVERY well-formed array (no "no zero-length axis" hypothesis), every axis option and selector;
* `unique(axis)`: `unique_axis_spec` (every lane has `k` distinct values: shape[axis := k], every lane of the result is
  the sorted distinct values of the input lane), `unique_axis_outcome` (the complete outcome for ragged lanes: the
  concatenated per-lane answers reshaped to `rest ++ [k0]`, `k0` = the FIRST lane's count, when the total count happens
  to be `rest.prod * k0`, otherwise `Err(ShapeMustMatchValuesLength)`), `unique_axis_ragged_refused`;
* the result of `sort` / `argsort` in every form does not depend on the selected kind (`sort_op_kinds_equal`,
  `argsort_op_kinds_equal`); `argsort_axis_lane_facts`: the three facts of `argsort_spec` for every lane of the axis form;
* `argsort_rank_formula` (closed form: rank = #smaller + #equal-and-earlier) and `argsort_determined` (the three facts
  of `argsort_spec` determine the answer).
-/
namespace ArrModel.C10
open ArrModel ArrModel.Sort Arr

variable {α : Type} {c : Cmp α}

/-! ## the four algorithms -/

/-- **uniqueness of the sorted rearrangement**: a lane has exactly one non-decreasing permutation -/
theorem sorted_perm_unique (h : c.Lawful) {l₁ l₂ : List α} (h₁ : Sorted c l₁) (h₂ : Sorted c l₂) (p : l₁.Perm l₂) :
    l₁ = l₂ := h.sorted_perm_unique h₁ h₂ p

theorem merge_perm (xs : List α) : (mergeSort c xs).Perm xs := mergeSort_perm c xs
theorem merge_sorted (h : c.Lawful) (xs : List α) : Sorted c (mergeSort c xs) := mergeSort_sorted h xs

theorem quick_perm (xs : List α) : (quickSort c xs).Perm xs := quickSort_perm c xs
theorem quick_sorted (h : c.Lawful) (xs : List α) : Sorted c (quickSort c xs) := quickSort_sorted h xs

/-- `heap_sort` (index-based sift-down on the array): succeeds on every lane — no index ever leaves the array, the
`loop` terminates — and returns a non-decreasing permutation -/
theorem heap_spec (h : c.Lawful) (xs : List α) : ∃ s, heapSort c xs = .ok s ∧ s.Perm xs ∧ Sorted c s :=
  heapSort_spec h xs

theorem heap_no_panic (h : c.Lawful) (xs : List α) : heapSort c xs ≠ .panic :=
  Res.ne_panic_of_total (.inl (heapSort_spec h xs))

/-- `tim_sort`: succeeds on every lane **including the empty one and every length >= 32** (where runs
are merged), and returns a non-decreasing permutation -/
theorem tim_spec (h : c.Lawful) (xs : List α) : ∃ s, timSort c xs = .ok s ∧ s.Perm xs ∧ Sorted c s :=
  timSort_spec h xs

theorem tim_no_panic (h : c.Lawful) (xs : List α) : timSort c xs ≠ .panic :=
  Res.ne_panic_of_total (.inl (timSort_spec h xs))

/-- **all four selectable algorithms return the same lane**: the input's elements, each with its multiplicity, in
non-decreasing order (= the standard stable sort of the lane) -/
theorem sorts_agree (h : c.Lawful) (k : SortKind) (xs : List α) : sortFlat c k xs = .ok (xs.mergeSort c.le) :=
  sortFlat_eq_mergeSort h k xs

/-- the common result is a permutation of the lane and non-decreasing -/
theorem sort_result (h : c.Lawful) (k : SortKind) (xs : List α) :
    ∃ s, sortFlat c k xs = .ok s ∧ s.Perm xs ∧ Sorted c s :=
  ⟨_, sorts_agree h k xs, List.mergeSort_perm xs c.le, h.sorted_mergeSort xs⟩

theorem sort_never_panics (h : c.Lawful) (k : SortKind) (xs : List α) : sortFlat c k xs ≠ .panic := by
  rw [sorts_agree h k]; exact nofun

/-- **idempotence**: sorting a sorted lane (with any of the four kinds) returns it unchanged -/
theorem sort_idem (h : c.Lawful) (k k' : SortKind) (xs s : List α) (hs : sortFlat c k xs = .ok s) :
    sortFlat c k' s = .ok s := by
  rw [sorts_agree h k] at hs
  cases hs
  rw [sorts_agree h k']
  exact congrArg Res.ok (List.mergeSort_of_pairwise (h.sorted_mergeSort xs))

/-! ## the selector: enum and string spellings -/

/-- canonical (lower-case) name of a selector -/
def kindName : SortKind → List Char
  | .Quicksort => ['q','u','i','c','k','s','o','r','t']
  | .Mergesort => ['m','e','r','g','e','s','o','r','t']
  | .Heapsort => ['h','e','a','p','s','o','r','t']
  | .Stable => ['s','t','a','b','l','e']

/-- a string selects kind `k` exactly when its ASCII-lower-cased text is `k`'s name; every other text is refused
with an error value -/
theorem resolveKind_str (s : List Char) (k : SortKind) :
    resolveKind (.str s) = .ok k ↔ lowerAscii s = kindName k :=
  parseKindLower_eq_ok_iff (lowerAscii s) k

theorem resolveKind_unknown (s : List Char) (h : ∀ k, lowerAscii s ≠ kindName k) :
    resolveKind (.str s) = .err .ParameterError := by
  rcases parseKindLower_ok_or_err (lowerAscii s) with ⟨k, hk⟩ | he
  · exact absurd ((resolveKind_str s k).1 hk) (h k)
  · exact he

theorem resolveKind_never_panics (ka : KindArg) : resolveKind ka ≠ .panic := by
  cases ka with
  | none => exact nofun
  | enum k => exact nofun
  | str s =>
    show parseKindLower (lowerAscii s) ≠ .panic
    rcases parseKindLower_ok_or_err (lowerAscii s) with ⟨k, hk⟩ | he
    · rw [hk]; exact nofun
    · rw [he]; exact nofun

/-- every kind is reachable as an enum value … -/
theorem resolveKind_enum (k : SortKind) : resolveKind (.enum k) = .ok k := rfl

/-- … and by its lower-case name -/
theorem resolveKind_name (k : SortKind) : resolveKind (.str (kindName k)) = .ok k := by
  cases k <;> decide

/-- `kind = None` means quicksort -/
theorem resolveKind_default : resolveKind .none = .ok .Quicksort := rfl

/-! ## `sort` (public operation) -/

/-- flat form, any input shape, any accepted selector spelling: the 1-D array of the sorted elements -/
theorem sort_flat (h : c.Lawful) (zero : α) (a : Arr α) (ka : KindArg) (k : SortKind)
    (hk : resolveKind ka = .ok k) :
    Sort.sort c zero a none ka = .ok (Arr.flat (a.elems.mergeSort c.le)) := by
  simp only [Sort.sort, hk, Res.bind_ok, sortLane, sorts_agree h k, Res.map]

/-- **axis form, every axis of every rank** (`k` or `k - rank`): the shape is kept and every lane along the axis is
replaced by its sorted rearrangement — the same for all four kinds and all selector spellings -/
theorem sort_axis_spec (h : c.Lawful) (zero : α) (a : Arr α) (ax : Int) (ka : KindArg) (k : SortKind)
    (hk : resolveKind ka = .ok k) (hwf : a.WF) (hnz : 0 ∉ a.shape) (hax : normalizeAxis a.ndim ax < a.ndim) :
    ∃ r, Sort.sort c zero a (some ax) ka = .ok r ∧ r.shape = a.shape ∧ r.WF ∧
      ∀ cd, inRange a.shape cd = true →
        laneOf r (normalizeAxis a.ndim ax) cd = (laneOf a (normalizeAxis a.ndim ax) cd).mergeSort c.le := by
  simp only [Sort.sort, hk, Res.bind_ok]
  exact along_lanewise a zero zero _ (sortLane c k) (fun l => l.mergeSort c.le) hwf hax hnz
    (fun lane _ => ⟨by simp only [sortLane, Arr.flat, sorts_agree h k, Res.map], List.length_mergeSort lane⟩)

/-- an unknown selector name is an error value for `sort` and `argsort`, whatever the array and axis -/
theorem sort_bad_kind (zero : α) (a : Arr α) (axis : Option Int) (ka : KindArg) (e : Err)
    (hk : resolveKind ka = .err e) : Sort.sort c zero a axis ka = .err e := by
  simp only [Sort.sort, hk, Res.bind_err]

theorem argsort_bad_kind (zero : α) (a : Arr α) (axis : Option Int) (ka : KindArg) (e : Err)
    (hk : resolveKind ka = .err e) : Sort.argsort c zero a axis ka = .err e := by
  simp only [Sort.argsort, hk, Res.bind_err]

/-- the result of the flat `sort` satisfies the shape/count invariant and is a fixed point of `sort` -/
theorem sort_flat_idem (h : c.Lawful) (zero : α) (a : Arr α) (ka ka' : KindArg) (k k' : SortKind)
    (hk : resolveKind ka = .ok k) (hk' : resolveKind ka' = .ok k') (r : Arr α)
    (hr : Sort.sort c zero a none ka = .ok r) : r.WF ∧ Sort.sort c zero r none ka' = .ok r := by
  rw [sort_flat h zero a ka k hk] at hr
  cases hr
  refine ⟨Arr.flat_wf _, ?_⟩
  rw [sort_flat h zero _ ka' k' hk']
  simp only [Arr.flat, List.mergeSort_of_pairwise (h.sorted_mergeSort a.elems)]

/-- an axis outside the rank (after `normalize_axis`) is refused with an error value by all four operations -/
theorem axis_out_of_range (zero : α) (a : Arr α) (ax : Int) (ka : KindArg) (k : SortKind) (hk : resolveKind ka = .ok k)
    (isMax : Bool) (kd : Option Bool) (hax : a.ndim ≤ normalizeAxis a.ndim ax) :
    Sort.sort c zero a (some ax) ka = .err .AxisOutOfBounds ∧
    Sort.argsort c zero a (some ax) ka = .err .AxisOutOfBounds ∧
    Sort.unique c zero a (some ax) = .err .AxisOutOfBounds ∧
    Sort.argExtreme c zero isMax a (some ax) kd = .err .AxisOutOfBounds := by
  simp only [Sort.sort, Sort.argsort, Sort.unique, Sort.argExtreme, Arr.countAxis, hk, Res.bind_ok,
    applyAlongAxis_axis_err _ _ _ _ _ hax, Res.bind_err, and_self]

/-! ## `argsort` -/

/-- **index form**: `argsort` succeeds (its two `unwrap`s and `Vec::remove` never fail) and assigns to every element
the position it occupies in the sorted lane: the answer is a permutation of `0..n`, `sorted[r[i]] = xs[i]`, and equal
elements receive increasing positions in order of appearance.  (These three facts determine `r` uniquely.) -/
theorem argsort_spec (h : c.Lawful) (k : SortKind) (xs : List α) :
    ∃ r, argsortFlat c k xs = .ok r ∧ r.Perm (List.range xs.length) ∧
      (∀ (i : Nat) (x : α) (p : Nat), xs[i]? = some x → r[i]? = some p → (xs.mergeSort c.le)[p]? = some x) ∧
      (∀ (i j : Nat) (x : α) (pi pj : Nat), i < j → xs[i]? = some x → xs[j]? = some x → r[i]? = some pi →
        r[j]? = some pj → pi < pj) := by
  unfold argsortFlat
  rw [sorts_agree h k, Res.bind_ok]
  have hfst := enumFrom_map_fst 0 (xs.mergeSort c.le)
  have hsnd := enumFrom_map_snd 0 (xs.mergeSort c.le)
  obtain ⟨out, ho, hperm, hpt, hst⟩ := argsortLoop_spec h xs (enumFrom 0 (xs.mergeSort c.le))
    (by rw [hfst]; exact List.pairwise_lt_range')
    (by rw [hsnd]; exact (List.mergeSort_perm xs c.le).symm)
  refine ⟨out, ho, ?_, ?_, hst⟩
  · rw [hfst, List.length_mergeSort] at hperm
    rwa [List.range_eq_range']
  · intro i x p hi hp
    obtain ⟨q, hq, hx⟩ := (mem_enumFrom 0 _ p x).1 (hpt i x p hi hp)
    rw [hq, Nat.zero_add]; exact hx

theorem argsort_never_panics (h : c.Lawful) (k : SortKind) (xs : List α) : argsortFlat c k xs ≠ .panic :=
  Res.ne_panic_of_total (.inl (argsort_spec h k xs))

/-- public form, `axis = None`: the 1-D array of those positions -/
theorem argsort_flat (h : c.Lawful) (zero : α) (a : Arr α) (ka : KindArg) (k : SortKind)
    (hk : resolveKind ka = .ok k) :
    ∃ r, argsortFlat c k a.elems = .ok r ∧ Sort.argsort c zero a none ka = .ok (Arr.flat r) := by
  obtain ⟨r, hr, _⟩ := argsort_spec h k a.elems
  exact ⟨r, hr, by simp only [Sort.argsort, hk, Res.bind_ok, argsortLane, hr, Res.map]⟩

/-- **axis form, every axis of every rank**: the shape is kept and every lane of the answer is the `argsort` of the
corresponding lane of the input (so `argsort_spec` describes each lane) -/
theorem argsort_axis_spec (h : c.Lawful) (zero : α) (a : Arr α) (ax : Int) (ka : KindArg) (k : SortKind)
    (hk : resolveKind ka = .ok k) (hwf : a.WF) (hnz : 0 ∉ a.shape) (hax : normalizeAxis a.ndim ax < a.ndim) :
    ∃ r, Sort.argsort c zero a (some ax) ka = .ok r ∧ r.shape = a.shape ∧ r.WF ∧
      ∀ cd, inRange a.shape cd = true →
        argsortFlat c k (laneOf a (normalizeAxis a.ndim ax) cd) = .ok (laneOf r (normalizeAxis a.ndim ax) cd) := by
  simp only [Sort.argsort, hk, Res.bind_ok]
  -- the lane function as a total list function
  let g : List α → List Nat := fun lane => match argsortFlat c k lane with | .ok r => r | _ => []
  have hg : ∀ lane, argsortFlat c k lane = .ok (g lane) := by
    intro lane
    obtain ⟨r, hr, _⟩ := argsort_spec h k lane
    simp only [g, hr]
  obtain ⟨r, h1, h2, h3, h4⟩ := along_lanewise a zero (0 : Nat) _ (argsortLane c k) g hwf hax hnz
    (fun lane _ => by
      refine ⟨by simp only [argsortLane, Arr.flat, hg lane, Res.map], ?_⟩
      obtain ⟨r, hr, hp, _⟩ := argsort_spec h k lane
      have : g lane = r := by simp only [g, hr]
      rw [this, hp.length_eq, List.length_range])
  exact ⟨r, h1, h2, h3, fun cd hcd => by rw [h4 cd hcd]; exact hg _⟩

/-! ## `argmax` / `argmin` -/

/-- **argmax**: on a non-empty lane the answer is the first position of a largest element -/
theorem argmax_spec (h : c.Lawful) (xs : List α) (hne : xs ≠ []) :
    ∃ p m, argExtremePos c true xs = .ok p ∧ xs[p]? = some m ∧ (∀ y ∈ xs, c.le y m = true) ∧
      (∀ q, q < p → xs[q]? ≠ some m) := by
  obtain ⟨p, m, hp, hpm, hm, hfirst⟩ := argExtremePos_spec h true xs hne
  exact ⟨p, m, hp, hpm,
    fun y hy => sorted_last_max h _ (h.sorted_mergeSort xs) m hm y (List.mem_mergeSort.2 hy), hfirst⟩

/-- **argmin**: on a non-empty lane the answer is the first position of a smallest element -/
theorem argmin_spec (h : c.Lawful) (xs : List α) (hne : xs ≠ []) :
    ∃ p m, argExtremePos c false xs = .ok p ∧ xs[p]? = some m ∧ (∀ y ∈ xs, c.le m y = true) ∧
      (∀ q, q < p → xs[q]? ≠ some m) := by
  obtain ⟨p, m, hp, hpm, hm, hfirst⟩ := argExtremePos_spec h false xs hne
  exact ⟨p, m, hp, hpm,
    fun y hy => sorted_first_min h _ (h.sorted_mergeSort xs) m hm y (List.mem_mergeSort.2 hy), hfirst⟩

/-- the NaN arm (element types with NaN, no order law needed): the first NaN position wins, for both queries -/
theorem argExtreme_nan (c : Cmp α) (isMax : Bool) (xs : List α) (i : Nat) (hi : xs.findIdx? c.isNan = some i) :
    argExtremePos c isMax xs = .ok i := by
  unfold argExtremePos; rw [hi]

/-- public form, `axis = None`: one-element 1-D array holding that position; the empty array is refused with an
error value; `keepdims = Some(true)` only changes the shape (`atleast(ndim)`; shown here for rank 1) -/
theorem argExtreme_flat (h : c.Lawful) (zero : α) (isMax : Bool) (a : Arr α) :
    (a.elems = [] → Sort.argExtreme c zero isMax a none none = .err .ParameterError) ∧
    (a.elems ≠ [] → ∃ p, argExtremePos c isMax a.elems = .ok p ∧
        Sort.argExtreme c zero isMax a none none = .ok ⟨[p], [1]⟩ ∧
        Sort.argExtreme c zero isMax a none (some false) = .ok ⟨[p], [1]⟩ ∧
        (a.ndim = 1 → Sort.argExtreme c zero isMax a none (some true) = .ok ⟨[p], [1]⟩)) := by
  refine ⟨argExtremeLane_nil isMax a none, fun hne => ?_⟩
  obtain ⟨p, _, hp, _⟩ := argExtremePos_spec h isMax a.elems hne
  have hl : ∀ kd, Sort.argExtreme c zero isMax a none kd = Arr.keepdimsTail a.ndim kd (Arr.single p) :=
    fun kd => argExtremeLane_of_pos isMax a kd p hne hp
  refine ⟨p, hp, hl none, hl (some false), fun h1 => ?_⟩
  rw [hl, h1]; rfl

/-- **axis form, every axis of every rank**: with `keepdims = Some(true)` the axis is kept with length 1, otherwise
it is removed; the value at every position of the remaining axes is the position `argmax` / `argmin` reports on the
lane through that position (so `argmax_spec` / `argmin_spec` describe it: first position of an extreme element) -/
theorem argExtreme_axis_spec (h : c.Lawful) (zero : α) (isMax : Bool) (a : Arr α) (ax : Int) (kd : Option Bool)
    (hwf : a.WF) (hnz : 0 ∉ a.shape) (hax : normalizeAxis a.ndim ax < a.ndim) :
    ∃ r, Sort.argExtreme c zero isMax a (some ax) kd = .ok r ∧
      r.shape = (if kd = some true then a.shape.set (normalizeAxis a.ndim ax) 1
                 else a.shape.eraseIdx (normalizeAxis a.ndim ax)) ∧
      r.WF ∧
      ∀ cd, inRange (a.shape.eraseIdx (normalizeAxis a.ndim ax)) cd = true →
        ∃ p, argExtremePos c isMax
               (laneOf a (normalizeAxis a.ndim ax) (cd.insertIdx (normalizeAxis a.ndim ax) 0)) = .ok p ∧
          r.get? (if kd = some true then cd.insertIdx (normalizeAxis a.ndim ax) 0 else cd) = some p := by
  have hpos : 0 < a.shape.getD (normalizeAxis a.ndim ax) 0 := getD_mem_pos _ _ hax hnz
  -- the 1-D body on a non-empty lane
  have hbody : ∀ lane : List α, lane ≠ [] → ∃ p, argExtremePos c isMax lane = .ok p ∧
      argExtremeLane c isMax (Arr.flat lane) kd = .ok (Arr.single p) := by
    intro lane hne
    obtain ⟨p, _, hp, _⟩ := argExtremePos_spec h isMax lane hne
    exact ⟨p, hp, (argExtremeLane_of_pos isMax (Arr.flat lane) kd p hne hp).trans (keepdimsTail_one kd _)⟩
  obtain ⟨r, h1, h2, h3, h4⟩ := countAxis_single a zero (0 : Nat) ax kd (argExtremeLane c isMax) hwf hnz hax
    (fun lane hl => by
      obtain ⟨p, _, hp⟩ := hbody lane (by intro h0; rw [h0, List.length_nil] at hl; omega)
      exact ⟨_, hp, rfl⟩)
  refine ⟨r, h1, h2, h3, ?_⟩
  intro cd hcd
  obtain ⟨y, v, e1, e2, e3⟩ := h4 cd hcd
  have hne : laneOf a (normalizeAxis a.ndim ax) (cd.insertIdx (normalizeAxis a.ndim ax) 0) ≠ [] := by
    intro h0
    rw [h0, argExtremeLane_nil isMax (Arr.flat []) kd rfl] at e1
    cases e1
  obtain ⟨p, hp1, hp2⟩ := hbody _ hne
  rw [hp2] at e1
  cases e1
  simp only [Arr.single, List.cons.injEq, and_true] at e2
  exact ⟨p, hp1, by rw [e3, e2]⟩

/-! ## `unique` -/

/-- **distinct values**: strictly increasing, and exactly the members of the lane -/
theorem unique_spec (h : c.Lawful) (xs : List α) :
    (uniqueFlat c xs).Pairwise (fun a b => c.lt a b = true) ∧ (∀ y, y ∈ uniqueFlat c xs ↔ y ∈ xs) := by
  obtain ⟨h1, h2⟩ := dedup_spec h (xs.mergeSort c.le) (h.sorted_mergeSort xs)
  exact ⟨h1, fun y => (h2 y).trans List.mem_mergeSort⟩

/-- `unique` is, by definition, `dedup` of the standard stable sort of the lane; that sort is what each of the four kinds
returns (`sorts_agree`, repeated here) -/
theorem unique_eq_dedup_sort (h : c.Lawful) (k : SortKind) (xs : List α) :
    sortFlat c k xs = .ok (xs.mergeSort c.le) ∧ uniqueFlat c xs = dedup c (xs.mergeSort c.le) :=
  ⟨sorts_agree h k xs, rfl⟩

theorem unique_flat (zero : α) (a : Arr α) :
    Sort.unique c zero a none = .ok (Arr.flat (uniqueFlat c a.elems)) := rfl

/-! ## the pinned defect, as a theorem about the pinned statements -/

/-- On every exit of `merge`'s loop (`i == len1 || j == len2`) with two non-empty runs, the **pinned** remainder
copies `arr[k..k+len1] <- left_arr[i..]; arr[k+len1..k+len1+len2] <- right_arr[j..]` panic — whatever the array.
`merge` is called for every lane of length >= 32, hence `SortKind::Stable` panics there on the pinned tree. -/
theorem pinned_merge_tail_panics (L R a : List α) (i j k : Nat) (hL : L ≠ []) (hR : R ≠ [])
    (hexit : i = L.length ∨ j = R.length) (hi : i ≤ L.length) (hj : j ≤ R.length) :
    pinnedMergeTail L R L.length R.length a i j k = .panic := by
  have hLl : 0 < L.length := List.length_pos_iff.2 hL
  have hRl : 0 < R.length := List.length_pos_iff.2 hR
  unfold pinnedMergeTail
  simp only [sliceFrom, if_pos hi, if_pos hj, Res.bind_ok]
  by_cases h1 : k ≤ k + L.length ∧ k + L.length ≤ a.length ∧ k + L.length - k = (L.drop i).length
  · have hi0 : i = 0 := by
      have := h1.2.2; rw [List.length_drop] at this; omega
    have hjR : j = R.length := by omega
    simp only [cloneFromSlice, if_pos h1, Res.bind_ok]
    rw [if_neg]
    intro h2
    have := h2.2.2
    rw [List.length_drop] at this
    omega
  · simp only [cloneFromSlice, if_neg h1, Res.bind_panic]

/-! ## non-vacuity: the hypotheses are met, on lanes that exercise every loop -/

/-- the tie's element type is a lawful order -/
example : (Cmp.int).Lawful := Cmp.int_lawful

/-- a 70-element lane (two runs of 35, one merge pass) -/
def lane70 : List Int := (List.range 70).map (fun i => ((i * 37 + 11) % 23 : Nat))

example : timSort Cmp.int lane70 = .ok (mergeSort Cmp.int lane70) :=
  (sorts_agree Cmp.int_lawful .Stable lane70).trans (sorts_agree Cmp.int_lawful .Mergesort lane70).symm
example : heapSort Cmp.int lane70 = .ok (mergeSort Cmp.int lane70) :=
  (sorts_agree Cmp.int_lawful .Heapsort lane70).trans (sorts_agree Cmp.int_lawful .Mergesort lane70).symm
example : quickSort Cmp.int lane70 = mergeSort Cmp.int lane70 :=
  Res.ok.inj ((sorts_agree Cmp.int_lawful .Quicksort lane70).trans (sorts_agree Cmp.int_lawful .Mergesort lane70).symm)
example : (mergeSort Cmp.int lane70).take 8 = [0, 0, 0, 1, 1, 1, 2, 2] ∧ (mergeSort Cmp.int lane70).length = 70 := by
  decide +kernel
example : timSort Cmp.int ([] : List Int) = .ok [] := by decide
example : argsortFlat Cmp.int .Stable [3, 1, 3, 1] = .ok [2, 0, 3, 1] := by decide +kernel
example : argExtremePos Cmp.int true [3, 1, 3, 1] = .ok 0 ∧ argExtremePos Cmp.int false [3, 1, 3, 1] = .ok 1 := by
  decide +kernel
example : uniqueFlat Cmp.int [3, 1, 3, 1] = [1, 3] := by
  have e : ([3, 1, 3, 1] : List Int).mergeSort Cmp.int.le = mergeSort Cmp.int [3, 1, 3, 1] :=
    (Res.ok.inj ((sorts_agree Cmp.int_lawful .Mergesort [3, 1, 3, 1]).symm.trans rfl))
  rw [uniqueFlat, e]; decide +kernel
example : argExtremePos Cmp.f64 true [some 1, none, none] = .ok 1 := by decide +kernel
example : resolveKind (.str ['Q','u','I','c','K','s','O','r','T']) = .ok .Quicksort := by decide
example : resolveKind (.str ['S','T','A','B','L','E']) = .ok .Stable := by decide
example : resolveKind (.str ['t','i','m','s','o','r','t']) = .err .ParameterError := by decide
/-- the pinned copies on the first merge of a 32-element lane (runs of 16, loop exits with `i = 16`) -/
example : pinnedMergeTail (List.range 16) (List.range 16) 16 16 (List.range 32) 16 0 16 = .panic := by decide +kernel

/-- a `[2,3,2]` array with duplicates, middle axis (either spelling): hypotheses of the axis theorems, and what they
describe, computed by the model -/
def sample3 : Arr Int := ⟨[3, 1, 2, 1, 1, 0, 2, 3, 2, 0, 2, 1], [2, 3, 2]⟩

example : sample3.WF ∧ 0 ∉ sample3.shape ∧ normalizeAxis sample3.ndim 1 < sample3.ndim ∧
    normalizeAxis sample3.ndim (-2) = 1 := by decide
example : Sort.sort Cmp.int 0 sample3 (some 1) (.enum .Stable) =
    .ok ⟨[1, 0, 2, 1, 3, 1, 2, 0, 2, 1, 2, 3], [2, 3, 2]⟩ := by decide +kernel
example : Sort.sort Cmp.int 0 sample3 (some (-2)) (.enum .Heapsort) =
    Sort.sort Cmp.int 0 sample3 (some 1) (.enum .Stable) := by decide +kernel
example : laneOf sample3 1 [0, 0, 0] = [3, 2, 1] ∧ laneOf sample3 1 [1, 2, 1] = [3, 0, 1] := by decide +kernel
example : Sort.argsort Cmp.int 0 sample3 (some 1) (.enum .Mergesort) =
    .ok ⟨[2, 1, 1, 2, 0, 0, 0, 2, 1, 0, 2, 1], [2, 3, 2]⟩ := by decide +kernel
example : Sort.argExtreme Cmp.int 0 false sample3 (some 1) (some true) = .ok ⟨[2, 2, 0, 1], [2, 1, 2]⟩ ∧
    Sort.argExtreme Cmp.int 0 false sample3 (some 1) none = .ok ⟨[2, 2, 0, 1], [2, 2]⟩ := by decide +kernel
example : Sort.sort Cmp.int 0 sample3 (some 3) (.enum .Stable) = .err .AxisOutOfBounds := by decide +kernel
example := sort_axis_spec Cmp.int_lawful 0 sample3 1 (.enum .Stable) .Stable rfl (by decide) (by decide) (by decide)
example := argExtreme_axis_spec Cmp.int_lawful 0 true sample3 (-2) none (by decide) (by decide) (by decide)

/-! ## arrays with a zero-length axis (no order law needed: no comparison is ever made) -/

/-- all four kinds return the empty lane for the empty lane — for ANY comparison operators -/
theorem sortFlat_nil (c : Cmp α) (k : SortKind) : sortFlat c k ([] : List α) = .ok [] := by cases k <;> rfl

theorem argsortFlat_nil (c : Cmp α) (k : SortKind) : argsortFlat c k ([] : List α) = .ok [] := by
  unfold argsortFlat; rw [sortFlat_nil]; rfl

theorem uniqueFlat_nil (c : Cmp α) : uniqueFlat c ([] : List α) = [] := by
  simp [uniqueFlat, dedup]

/-- flat forms on an array without elements (any shape): the empty 1-D array -/
theorem sort_flat_zero (zero : α) (a : Arr α) (ka : KindArg) (k : SortKind) (hk : resolveKind ka = .ok k)
    (he : a.elems = []) : Sort.sort c zero a none ka = .ok (Arr.flat []) := by
  simp only [Sort.sort, hk, Res.bind_ok, sortLane, he, sortFlat_nil, Res.map]

theorem argsort_flat_zero (zero : α) (a : Arr α) (ka : KindArg) (k : SortKind) (hk : resolveKind ka = .ok k)
    (he : a.elems = []) : Sort.argsort c zero a none ka = .ok (Arr.flat []) := by
  simp only [Sort.argsort, hk, Res.bind_ok, argsortLane, he, argsortFlat_nil, Res.map]

theorem unique_flat_zero (zero : α) (a : Arr α) (he : a.elems = []) :
    Sort.unique c zero a none = .ok (Arr.flat []) := by
  simp only [Sort.unique, uniqueLane, he, uniqueFlat_nil]

/-- **`sort(axis)` on a well-formed array with a zero-length axis**, every rank, every axis in range, every kind: when
an axis OTHER than the processed one has length 0 the call answers `Err(ParameterError)` (`split(0, None)` inside
`apply_along_axis`), otherwise — only the processed axis is empty — the array itself comes back -/
theorem sort_zero_axis (zero : α) (a : Arr α) (ax : Int) (ka : KindArg) (k : SortKind) (hk : resolveKind ka = .ok k)
    (hwf : a.WF) (h0 : 0 ∈ a.shape) (hax : normalizeAxis a.ndim ax < a.ndim) :
    Sort.sort c zero a (some ax) ka =
      if 0 ∈ a.shape.eraseIdx (normalizeAxis a.ndim ax) then .err .ParameterError else .ok a := by
  simp only [Sort.sort, hk, Res.bind_ok]
  rw [along_zero_empty_lane a zero zero _ (sortLane c k) hwf hax h0
    (by simp only [sortLane, Arr.flat, sortFlat_nil, Res.map]), ← eq_mk_nil_of_zero_mem a hwf h0]

/-- `argsort(axis)` likewise: `Err(ParameterError)` or the empty index array of the same shape -/
theorem argsort_zero_axis (zero : α) (a : Arr α) (ax : Int) (ka : KindArg) (k : SortKind) (hk : resolveKind ka = .ok k)
    (hwf : a.WF) (h0 : 0 ∈ a.shape) (hax : normalizeAxis a.ndim ax < a.ndim) :
    Sort.argsort c zero a (some ax) ka =
      if 0 ∈ a.shape.eraseIdx (normalizeAxis a.ndim ax) then .err .ParameterError else .ok ⟨[], a.shape⟩ := by
  simp only [Sort.argsort, hk, Res.bind_ok]
  exact along_zero_empty_lane a zero (0 : Nat) _ (argsortLane c k) hwf hax h0
    (by simp only [argsortLane, Arr.flat, argsortFlat_nil, Res.map])

/-- `unique(axis)` likewise -/
theorem unique_zero_axis (zero : α) (a : Arr α) (ax : Int)
    (hwf : a.WF) (h0 : 0 ∈ a.shape) (hax : normalizeAxis a.ndim ax < a.ndim) :
    Sort.unique c zero a (some ax) =
      if 0 ∈ a.shape.eraseIdx (normalizeAxis a.ndim ax) then .err .ParameterError else .ok a := by
  simp only [Sort.unique]
  rw [along_zero_empty_lane a zero zero _ (uniqueLane c) hwf hax h0
    (by simp only [uniqueLane, Arr.flat, uniqueFlat_nil]), ← eq_mk_nil_of_zero_mem a hwf h0]

/-- **`argmax` / `argmin` on a well-formed array with a zero-length axis are ALWAYS refused with an error value**:
`AxisOutOfBounds` for an axis outside the rank, `ParameterError` otherwise (flat form: "cannot be empty"; axis form:
`split(0, None)` or the flat form on the one empty lane), whatever `keepdims` -/
theorem argExtreme_zero (zero : α) (isMax : Bool) (a : Arr α) (axis : Option Int) (kd : Option Bool)
    (hwf : a.WF) (h0 : 0 ∈ a.shape) :
    Sort.argExtreme c zero isMax a axis kd = .err (match axis with
      | some ax => if a.ndim ≤ normalizeAxis a.ndim ax then .AxisOutOfBounds else .ParameterError
      | none => .ParameterError) := by
  have he := elems_nil_of_zero_mem a hwf h0
  cases axis with
  | none => exact argExtremeLane_nil isMax a kd he
  | some ax =>
    by_cases hax : a.ndim ≤ normalizeAxis a.ndim ax
    · simp only [Sort.argExtreme, Arr.countAxis, applyAlongAxis_axis_err _ _ _ _ _ hax, Res.bind_err, if_pos hax]
    · have hf : (fun arr => argExtremeLane c isMax arr kd) (Arr.flat []) = .err .ParameterError :=
        argExtremeLane_nil isMax (Arr.flat []) kd rfl
      simp only [Sort.argExtreme, Arr.countAxis, if_neg hax]
      rw [along_zero_refusing_lane a zero (0 : Nat) _ _ .ParameterError hwf (by omega) h0 hf, ite_self]
      rfl

/-! ## total statements: every well-formed array (zero-length axes or not), every axis option, every selector -/

/-- **`sort` is total**: `Ok` with a well-formed array (of the same rank in the axis form, 1-D in the flat form) or an
error value — for every well-formed array, axis option and selector argument -/
theorem sort_op_total (h : c.Lawful) (zero : α) (a : Arr α) (axis : Option Int) (ka : KindArg) (hwf : a.WF) :
    (∃ r, Sort.sort c zero a axis ka = .ok r ∧ r.WF ∧ r.ndim = (if axis.isSome then a.ndim else 1)) ∨
    (∃ e, Sort.sort c zero a axis ka = .err e) := by
  cases hk : resolveKind ka with
  | panic => exact absurd hk (resolveKind_never_panics ka)
  | err e => exact Or.inr ⟨e, sort_bad_kind zero a axis ka e hk⟩
  | ok k =>
    cases axis with
    | none =>
      exact Or.inl ⟨_, sort_flat h zero a ka k hk, Arr.flat_wf _, rfl⟩
    | some ax =>
      simp only [Sort.sort, hk, Res.bind_ok, Option.isSome_some, if_true]
      exact applyAlongAxis_total a zero zero _ (sortLane c k) hwf fun x => Res.map_ne_panic _ (sort_never_panics h k x.elems)

theorem argsort_op_total (h : c.Lawful) (zero : α) (a : Arr α) (axis : Option Int) (ka : KindArg) (hwf : a.WF) :
    (∃ r, Sort.argsort c zero a axis ka = .ok r ∧ r.WF ∧ r.ndim = (if axis.isSome then a.ndim else 1)) ∨
    (∃ e, Sort.argsort c zero a axis ka = .err e) := by
  cases hk : resolveKind ka with
  | panic => exact absurd hk (resolveKind_never_panics ka)
  | err e => exact Or.inr ⟨e, argsort_bad_kind zero a axis ka e hk⟩
  | ok k =>
    cases axis with
    | none =>
      obtain ⟨r, _, hr⟩ := argsort_flat h zero a ka k hk
      exact Or.inl ⟨_, hr, Arr.flat_wf _, rfl⟩
    | some ax =>
      simp only [Sort.argsort, hk, Res.bind_ok, Option.isSome_some, if_true]
      exact applyAlongAxis_total a zero (0 : Nat) _ (argsortLane c k) hwf fun x =>
        Res.map_ne_panic _ (argsort_never_panics h k x.elems)

/-- `unique` is total for ANY comparison operators (no order law needed) -/
theorem unique_op_total (zero : α) (a : Arr α) (axis : Option Int) (hwf : a.WF) :
    (∃ r, Sort.unique c zero a axis = .ok r ∧ r.WF ∧ r.ndim = (if axis.isSome then a.ndim else 1)) ∨
    (∃ e, Sort.unique c zero a axis = .err e) := by
  cases axis with
  | none => exact Or.inl ⟨_, rfl, Arr.flat_wf _, rfl⟩
  | some ax =>
    simp only [Sort.unique, Option.isSome_some, if_true]
    exact applyAlongAxis_total a zero zero _ (uniqueLane c) hwf (fun x => nofun)

theorem argExtremeLane_total (h : c.Lawful) (isMax : Bool) (kd : Option Bool) (x : Arr α) :
    (∃ r, argExtremeLane c isMax x kd = .ok r ∧ r.WF) ∨ (∃ e, argExtremeLane c isMax x kd = .err e) := by
  by_cases he : x.elems = []
  · exact Or.inr ⟨_, argExtremeLane_nil isMax x kd he⟩
  · obtain ⟨p, _, hp, _⟩ := argExtremePos_spec h isMax x.elems he
    rw [argExtremeLane_of_pos isMax x kd p he hp]
    exact keepdimsTail_single_total p _ kd

/-- `argmax` / `argmin` are total: `Ok` with a well-formed array or an error value (in particular the `Vec::remove`
of the non-`keepdims` arm is only reached with the axis in range, and `position(..).unwrap()` always finds) -/
theorem argExtreme_op_total (h : c.Lawful) (zero : α) (isMax : Bool) (a : Arr α) (axis : Option Int)
    (kd : Option Bool) (hwf : a.WF) :
    (∃ r, Sort.argExtreme c zero isMax a axis kd = .ok r ∧ r.WF) ∨
    (∃ e, Sort.argExtreme c zero isMax a axis kd = .err e) := by
  cases axis with
  | none => exact argExtremeLane_total h isMax kd a
  | some ax =>
    simp only [Sort.argExtreme, Arr.countAxis]
    rcases applyAlongAxis_total a zero (0 : Nat) (normalizeAxis a.ndim ax) (fun arr => argExtremeLane c isMax arr kd) hwf
      (fun x => Res.ne_panic_of_total (argExtremeLane_total h isMax kd x)) with ⟨r, hr, hrwf, _⟩ | ⟨e, he⟩
    · rw [hr, Res.bind_ok]
      by_cases hkd : kd = some true
      · rw [if_pos hkd]; exact Or.inl ⟨r, rfl, hrwf⟩
      · rw [if_neg hkd]
        have hax : normalizeAxis a.ndim ax < a.shape.length := by
          apply Nat.lt_of_not_le
          intro hge
          rw [applyAlongAxis_axis_err a zero (0 : Nat) _ _ hge] at hr
          cases hr
        rw [removeAxis_reshape r a.shape _ hax]
        by_cases hp : (a.shape.eraseIdx (normalizeAxis a.ndim ax)).prod = r.elems.length
        · exact Or.inl ⟨_, Arr.new_of_prod hp, hp.symm⟩
        · exact Or.inr ⟨_, Arr.new_of_not_prod hp⟩
    · rw [he]; exact Or.inr ⟨e, rfl⟩

theorem sort_op_never_panics (h : c.Lawful) (zero : α) (a : Arr α) (axis : Option Int) (ka : KindArg) (hwf : a.WF) :
    Sort.sort c zero a axis ka ≠ .panic :=
  Res.ne_panic_of_total (sort_op_total h zero a axis ka hwf)

theorem argsort_op_never_panics (h : c.Lawful) (zero : α) (a : Arr α) (axis : Option Int) (ka : KindArg)
    (hwf : a.WF) : Sort.argsort c zero a axis ka ≠ .panic :=
  Res.ne_panic_of_total (argsort_op_total h zero a axis ka hwf)

theorem unique_op_never_panics (zero : α) (a : Arr α) (axis : Option Int) (hwf : a.WF) :
    Sort.unique c zero a axis ≠ .panic :=
  Res.ne_panic_of_total (unique_op_total (c := c) zero a axis hwf)

theorem argExtreme_op_never_panics (h : c.Lawful) (zero : α) (isMax : Bool) (a : Arr α) (axis : Option Int)
    (kd : Option Bool) (hwf : a.WF) : Sort.argExtreme c zero isMax a axis kd ≠ .panic :=
  Res.ne_panic_of_total (argExtreme_op_total h zero isMax a axis kd hwf)

/-! ## the selected kind never matters, in any form -/

/-- `sort` with any two accepted selectors (enum values, names in any case, `None`) gives the same answer — flat and
axis forms, every well-formed or ill-formed array, zero-length axes included -/
theorem sort_op_kinds_equal (h : c.Lawful) (zero : α) (a : Arr α) (axis : Option Int) (ka ka' : KindArg)
    (k k' : SortKind) (hk : resolveKind ka = .ok k) (hk' : resolveKind ka' = .ok k') :
    Sort.sort c zero a axis ka = Sort.sort c zero a axis ka' := by
  have hl : sortLane c k = sortLane c k' := funext fun x => by simp only [sortLane, sorts_agree h]
  simp only [Sort.sort, hk, hk', Res.bind_ok, hl]

/-- `argsort` likewise: the Stable kind (`tim_sort`) and the three others rank equal keys identically (in order of
appearance, `argsort_spec`) on every lane of every array -/
theorem argsort_op_kinds_equal (h : c.Lawful) (zero : α) (a : Arr α) (axis : Option Int) (ka ka' : KindArg)
    (k k' : SortKind) (hk : resolveKind ka = .ok k) (hk' : resolveKind ka' = .ok k') :
    Sort.argsort c zero a axis ka = Sort.argsort c zero a axis ka' := by
  have hl : argsortLane c k = argsortLane c k' :=
    funext fun x => by simp only [argsortLane, argsortFlat, sorts_agree h]
  simp only [Sort.argsort, hk, hk', Res.bind_ok, hl]

/-- **`argsort(axis)`, the three facts per lane** (permutation of `0..n`, `sorted[r[i]] = lane[i]`, equal keys ranked
in order of appearance), for every kind — the Stable kind included — and every lane of every array without a
zero-length axis -/
theorem argsort_axis_lane_facts (h : c.Lawful) (zero : α) (a : Arr α) (ax : Int) (ka : KindArg) (k : SortKind)
    (hk : resolveKind ka = .ok k) (hwf : a.WF) (hnz : 0 ∉ a.shape) (hax : normalizeAxis a.ndim ax < a.ndim) :
    ∃ r, Sort.argsort c zero a (some ax) ka = .ok r ∧ r.shape = a.shape ∧
      ∀ cd, inRange a.shape cd = true →
        (laneOf r (normalizeAxis a.ndim ax) cd).Perm (List.range (laneOf a (normalizeAxis a.ndim ax) cd).length) ∧
        (∀ (i : Nat) (x : α) (p : Nat), (laneOf a (normalizeAxis a.ndim ax) cd)[i]? = some x →
          (laneOf r (normalizeAxis a.ndim ax) cd)[i]? = some p →
          ((laneOf a (normalizeAxis a.ndim ax) cd).mergeSort c.le)[p]? = some x) ∧
        (∀ (i j : Nat) (x : α) (pi pj : Nat), i < j → (laneOf a (normalizeAxis a.ndim ax) cd)[i]? = some x →
          (laneOf a (normalizeAxis a.ndim ax) cd)[j]? = some x →
          (laneOf r (normalizeAxis a.ndim ax) cd)[i]? = some pi →
          (laneOf r (normalizeAxis a.ndim ax) cd)[j]? = some pj → pi < pj) := by
  obtain ⟨r, h1, h2, _, h4⟩ := argsort_axis_spec h zero a ax ka k hk hwf hnz hax
  refine ⟨r, h1, h2, fun cd hcd => ?_⟩
  obtain ⟨r0, e0, f1, f2, f3⟩ := argsort_spec h k (laneOf a (normalizeAxis a.ndim ax) cd)
  have := (h4 cd hcd).symm.trans e0
  cases this
  exact ⟨f1, f2, f3⟩

/-! ## `unique(axis)` -/

/-- **every lane has the same number `k` of distinct values**: `unique(axis)` answers `Ok`, the axis gets length `k`
and every lane of the result is `unique` of the corresponding input lane (for ANY comparison operators) -/
theorem unique_axis_spec (zero : α) (a : Arr α) (ax : Int) (k : Nat)
    (hwf : a.WF) (hnz : 0 ∉ a.shape) (hax : normalizeAxis a.ndim ax < a.ndim)
    (hk : ∀ cd, inRange a.shape cd = true → (uniqueFlat c (laneOf a (normalizeAxis a.ndim ax) cd)).length = k) :
    ∃ r, Sort.unique c zero a (some ax) = .ok r ∧ r.shape = a.shape.set (normalizeAxis a.ndim ax) k ∧ r.WF ∧
      ∀ cd, inRange a.shape cd = true →
        laneOf r (normalizeAxis a.ndim ax) cd = uniqueFlat c (laneOf a (normalizeAxis a.ndim ax) cd) := by
  simp only [Sort.unique]
  exact applyAlongAxis_lanes_uniform a zero zero _ k (uniqueLane c) (uniqueFlat c) hwf hax hnz (fun _ _ => rfl) hk

/-- … and on a lawful order every lane of the result is strictly increasing and has exactly the members of the input
lane: the sorted values of the lane without repetition -/
theorem unique_axis_sorted_distinct (h : c.Lawful) (zero : α) (a : Arr α) (ax : Int) (k : Nat)
    (hwf : a.WF) (hnz : 0 ∉ a.shape) (hax : normalizeAxis a.ndim ax < a.ndim)
    (hk : ∀ cd, inRange a.shape cd = true → (uniqueFlat c (laneOf a (normalizeAxis a.ndim ax) cd)).length = k) :
    ∃ r, Sort.unique c zero a (some ax) = .ok r ∧ r.shape = a.shape.set (normalizeAxis a.ndim ax) k ∧ r.WF ∧
      ∀ cd, inRange a.shape cd = true →
        (laneOf r (normalizeAxis a.ndim ax) cd).Pairwise (fun x y => c.lt x y = true) ∧
        (laneOf r (normalizeAxis a.ndim ax) cd).length = k ∧
        ∀ y, y ∈ laneOf r (normalizeAxis a.ndim ax) cd ↔ y ∈ laneOf a (normalizeAxis a.ndim ax) cd := by
  obtain ⟨r, h1, h2, h3, h4⟩ := unique_axis_spec (c := c) zero a ax k hwf hnz hax hk
  refine ⟨r, h1, h2, h3, fun cd hcd => ?_⟩
  rw [h4 cd hcd]
  exact ⟨(unique_spec h _).1, hk cd hcd, (unique_spec h _).2⟩

/-- **complete outcome of `unique(axis)` on an array without a zero-length axis** (lanes with different numbers of
distinct values included).  With `L = lanesOf a axis` (the lanes in processing order, `mem_lanesOf`), `k0` the number
of distinct values of the FIRST lane (the lane through the origin, `lanesOf_headD`) and `buf` the concatenation of all
per-lane answers: when `buf.length = rest.prod * k0` the answer is `Ok` — shape with the axis replaced by `k0`, and
the element at (remaining coordinates `c'`, axis coordinate `j`) is `buf[ravel rest c' * k0 + j]`, i.e. for ragged
lanes a re-cut buffer, not per-lane values — and otherwise `Err(ShapeMustMatchValuesLength)` (from `reshape`) -/
theorem unique_axis_outcome (zero : α) (a : Arr α) (ax : Int)
    (hwf : a.WF) (hnz : 0 ∉ a.shape) (hax : normalizeAxis a.ndim ax < a.ndim) :
    ((a.shape.eraseIdx (normalizeAxis a.ndim ax)).prod *
        (uniqueFlat c ((lanesOf a (normalizeAxis a.ndim ax)).headD [])).length =
        ((lanesOf a (normalizeAxis a.ndim ax)).flatMap (uniqueFlat c)).length →
      ∃ r, Sort.unique c zero a (some ax) = .ok r ∧
        r.shape = a.shape.set (normalizeAxis a.ndim ax)
          (uniqueFlat c ((lanesOf a (normalizeAxis a.ndim ax)).headD [])).length ∧ r.WF ∧
        ∀ c' j, inRange (a.shape.eraseIdx (normalizeAxis a.ndim ax)) c' = true →
          j < (uniqueFlat c ((lanesOf a (normalizeAxis a.ndim ax)).headD [])).length →
          r.get? (c'.insertIdx (normalizeAxis a.ndim ax) j) =
            ((lanesOf a (normalizeAxis a.ndim ax)).flatMap (uniqueFlat c))[
              ravel (a.shape.eraseIdx (normalizeAxis a.ndim ax)) c' *
                (uniqueFlat c ((lanesOf a (normalizeAxis a.ndim ax)).headD [])).length + j]?) ∧
    ((a.shape.eraseIdx (normalizeAxis a.ndim ax)).prod *
        (uniqueFlat c ((lanesOf a (normalizeAxis a.ndim ax)).headD [])).length ≠
        ((lanesOf a (normalizeAxis a.ndim ax)).flatMap (uniqueFlat c)).length →
      Sort.unique c zero a (some ax) = .err .ShapeMustMatchValuesLength) := by
  simp only [Sort.unique]
  exact applyAlongAxis_pure a zero zero _ (uniqueLane c) (uniqueFlat c) hwf hax hnz (fun _ _ => rfl)

/-- **ragged lanes are refused** whenever the first lane (the lane through the origin) has the largest — or the
smallest — number `k0` of distinct values and some lane differs: `Err(ShapeMustMatchValuesLength)`.  (When counts lie
on both sides of `k0` and happen to add up to `rest.prod * k0` the call succeeds with the re-cut buffer of
`unique_axis_outcome`; see the examples.) -/
theorem unique_axis_ragged_refused (zero : α) (a : Arr α) (ax : Int) (k0 : Nat)
    (hwf : a.WF) (hnz : 0 ∉ a.shape) (hax : normalizeAxis a.ndim ax < a.ndim)
    (hk0 : (uniqueFlat c (laneOf a (normalizeAxis a.ndim ax) (List.replicate a.ndim 0))).length = k0)
    (hrag :
      ((∀ cd, inRange a.shape cd = true → (uniqueFlat c (laneOf a (normalizeAxis a.ndim ax) cd)).length ≤ k0) ∧
        ∃ cd, inRange a.shape cd = true ∧ (uniqueFlat c (laneOf a (normalizeAxis a.ndim ax) cd)).length < k0) ∨
      ((∀ cd, inRange a.shape cd = true → k0 ≤ (uniqueFlat c (laneOf a (normalizeAxis a.ndim ax) cd)).length) ∧
        ∃ cd, inRange a.shape cd = true ∧ k0 < (uniqueFlat c (laneOf a (normalizeAxis a.ndim ax) cd)).length)) :
    Sort.unique c zero a (some ax) = .err .ShapeMustMatchValuesLength := by
  apply (unique_axis_outcome (c := c) zero a ax hwf hnz hax).2
  rw [lanesOf_headD a _ hax hnz, hk0, ← lanesOf_length a (normalizeAxis a.ndim ax)]
  have hmem := mem_lanesOf a _ hax hnz
  -- the total of the counts against `k0` for every lane
  have hk0s : ((lanesOf a (normalizeAxis a.ndim ax)).flatMap fun _ => List.replicate k0 ()).length =
      (lanesOf a (normalizeAxis a.ndim ax)).length * k0 :=
    length_flatMap_uniform _ k0 _ fun _ _ => List.length_replicate
  rcases hrag with ⟨hle, cd, hcd, hlt⟩ | ⟨hge, cd, hcd, hgt⟩
  · have := length_flatMap_lt (uniqueFlat c) (fun _ => List.replicate k0 ()) (lanesOf a (normalizeAxis a.ndim ax))
      (fun l hl => by obtain ⟨cd, hcd, rfl⟩ := (hmem l).1 hl; rw [List.length_replicate]; exact hle cd hcd)
      ⟨_, (hmem _).2 ⟨cd, hcd, rfl⟩, by rw [List.length_replicate]; exact hlt⟩
    omega
  · have := length_flatMap_lt (fun _ => List.replicate k0 ()) (uniqueFlat c) (lanesOf a (normalizeAxis a.ndim ax))
      (fun l hl => by obtain ⟨cd, hcd, rfl⟩ := (hmem l).1 hl; rw [List.length_replicate]; exact hge cd hcd)
      ⟨_, (hmem _).2 ⟨cd, hcd, rfl⟩, by rw [List.length_replicate]; exact hgt⟩
    omega

/-! ## non-vacuity: zero-length axes, `unique(axis)` -/

/-- zero-length axes: `[2,0]` (axis 0: the other axis is empty — refused; axis 1: the array comes back), `[0,0]` -/
example : Sort.sort Cmp.int 0 (⟨[], [2, 0]⟩ : Arr Int) (some 0) (.enum .Stable) = .err .ParameterError ∧
    Sort.sort Cmp.int 0 (⟨[], [2, 0]⟩ : Arr Int) (some 1) (.enum .Stable) = .ok ⟨[], [2, 0]⟩ ∧
    Sort.sort Cmp.int 0 (⟨[], [0, 0]⟩ : Arr Int) (some (-1)) .none = .err .ParameterError ∧
    Sort.sort Cmp.int 0 (⟨[], [1, 0, 1]⟩ : Arr Int) (some (-2)) (.enum .Heapsort) = .ok ⟨[], [1, 0, 1]⟩ ∧
    Sort.argsort Cmp.int 0 (⟨[], [2, 0]⟩ : Arr Int) (some 1) .none = .ok ⟨[], [2, 0]⟩ ∧
    Sort.argsort Cmp.int 0 (⟨[], [0, 2]⟩ : Arr Int) none .none = .ok ⟨[], [0]⟩ ∧
    Sort.argExtreme Cmp.int 0 true (⟨[], [2, 0]⟩ : Arr Int) (some 1) (some true) = .err .ParameterError ∧
    Sort.argExtreme Cmp.int 0 false (⟨[], [2, 0]⟩ : Arr Int) (some 2) none = .err .AxisOutOfBounds := by
  decide +kernel
example := sort_zero_axis (c := Cmp.int) 0 (⟨[], [2, 0]⟩ : Arr Int) 1 (.enum .Stable) .Stable rfl (by decide)
  (by decide) (by decide)
example : Sort.unique Cmp.int 0 (⟨[], [2, 0]⟩ : Arr Int) (some 1) = .ok ⟨[], [2, 0]⟩ :=
  (unique_zero_axis 0 _ 1 (by decide) (by decide) (by decide)).trans (by decide)

/-- `unique(axis)`: uniform lanes (2 distinct values each), ragged lanes that are refused (counts 2, 1), and ragged
lanes whose counts 2, 1, 3 add up to `3 * 2`: accepted with the re-cut buffer (rows `[1,2] [5,7] [8,9]`) -/
def uniformU : Arr Int := ⟨[1, 1, 2, 4, 3, 4], [2, 3]⟩

example : Sort.unique Cmp.int 0 uniformU (some 1) = .ok ⟨[1, 2, 3, 4], [2, 2]⟩ := by
  simp only [Sort.unique, uniqueLane_eq_model_sort Cmp.int_lawful]; decide +kernel
example : Sort.unique Cmp.int 0 ⟨[1, 2, 2, 5, 5, 5], [2, 3]⟩ (some (-1)) = .err .ShapeMustMatchValuesLength := by
  simp only [Sort.unique, uniqueLane_eq_model_sort Cmp.int_lawful]; decide +kernel
example : Sort.unique Cmp.int 0 ⟨[1, 2, 2, 5, 5, 5, 7, 8, 9], [3, 3]⟩ (some 1) = .ok ⟨[1, 2, 5, 7, 8, 9], [3, 2]⟩ := by
  simp only [Sort.unique, uniqueLane_eq_model_sort Cmp.int_lawful]; decide +kernel
/-- the hypothesis of `unique_axis_spec` is met by `uniformU` -/
example : ∀ cd, inRange uniformU.shape cd = true →
    (uniqueFlat Cmp.int (laneOf uniformU (normalizeAxis uniformU.ndim 1) cd)).length = 2 := by
  intro cd hcd
  -- the lanes are finitely many (`mem_lanesOf`): evaluate each
  have hm := (mem_lanesOf uniformU (normalizeAxis uniformU.ndim 1) (by decide) (by decide) _).2 ⟨cd, hcd, rfl⟩
  rw [uniqueFlat_eq_model_sort Cmp.int_lawful]
  exact (by decide +kernel : ∀ l ∈ lanesOf uniformU (normalizeAxis uniformU.ndim 1),
    (dedup Cmp.int (mergeSort Cmp.int l)).length = 2) _ hm

/-! ## the closed form of `argsort` -/

/-- **closed form**: `argsort` (any kind) assigns to position `i` the number of elements smaller than `xs[i]` plus the
number of equal elements appearing before position `i` (`rankOf`) -/
theorem argsort_rank_formula (h : c.Lawful) (k : SortKind) (xs : List α) :
    argsortFlat c k xs = .ok ((List.range xs.length).map (rankOf c xs)) := by
  obtain ⟨r, hr, hp, hA, hB⟩ := argsort_spec h k xs
  rw [hr, rank_unique h xs _ r (h.sorted_mergeSort xs) hp hA hB]

/-- **the three facts of `argsort_spec` determine the answer**: any list of positions that is a permutation of
`0..n`, puts every element where the sorted lane holds it, and ranks equal elements in order of appearance IS the
answer of `argsort`, for every kind -/
theorem argsort_determined (h : c.Lawful) (k : SortKind) (xs : List α) (r : List Nat)
    (hperm : r.Perm (List.range xs.length))
    (hA : ∀ (i : Nat) (x : α) (p : Nat), xs[i]? = some x → r[i]? = some p → (xs.mergeSort c.le)[p]? = some x)
    (hB : ∀ (i j : Nat) (x : α) (pi pj : Nat), i < j → xs[i]? = some x → xs[j]? = some x → r[i]? = some pi →
        r[j]? = some pj → pi < pj) :
    argsortFlat c k xs = .ok r := by
  rw [argsort_rank_formula h k xs, rank_unique h xs _ r (h.sorted_mergeSort xs) hperm hA hB]

example : (List.range 4).map (rankOf Cmp.int [3, 1, 3, 1]) = [2, 0, 3, 1] := by decide
example : (List.range 6).map (rankOf Cmp.int [5, 5, -1, 5, 0, -1]) = [3, 4, 0, 5, 2, 1] := by decide

end ArrModel.C10
