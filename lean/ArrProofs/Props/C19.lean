import ArrProofs.Lemmas.C19Ext
/-!
# C19 — bit unpacking and packing are inverse; `binary_repr` parses back

Property theorems only.  Helpers: `ArrProofs/Lemmas/C19.lean` (bytes, byte lists, `binary_repr`, the frame of checks the
two operations share), `C19Axis.lean` (`alongRef`), `C19Along.lean` (`alongPipe`), `C19Ext.lean` (arrays without elements,
`count`, totality, canonical texts, and the specification-side definitions `emptyAnswer`, `orderAccepted`, `axisAccepted`,
`countKeep`).  Model under test: `ArrModel/C19.lean` (`toBitOrder`, `unpackByte`, `unpackFlat`, `unpackFlatArr`,
`unpackLane`, `packGroup`, `pad8`, `packFlat`, `packFlatArr`, `packLane`, `unpackBits`, `packBits`, `binaryRepr`,
`binaryReprSigned`).

The round trip is proved for the flat form (`axis = None`); for the lane functions handed to `apply_along_axis`; lifted
through *any* `apply_along_axis` that satisfies `AlongLifts`; and for the axis forms exactly as `binary_bits.rs` wraps them
— `normalize_axis`, then `apply_along_axis` with the flat lane function — for
* `alongPipe` = the shared pipeline model `Arr.applyAlongAxis` of the crate's `apply_along_axis`
  (moveaxis / ravel / split / map / reshape / move back), via the central lemma `applyAlongAxis_spec`
  (`pack_unpack_axis`, `unpack_axis_at`, `pack_axis_at`), and
* `alongRef` = a coordinate-level reference lane semantics (`pack_unpack_axis_ref`, `unpack_axis_ref`).
The driver runs both and reports a split, so their agreement is part of the tie.

Beside the round trip: `count` for every count, flat and by axis; the order of the checks and the complete outcome on
arrays without elements or with a zero-length axis; totality (never a panic) on every well-formed array; the canonical
form of `binary_repr` at every width.
-/
namespace ArrModel.C19
open ArrModel

/-! ## `BitOrder` spellings -/

/-- a text is accepted exactly when it is in the spelling table, with the table's meaning -/
theorem toBitOrder_text_ok_iff (s : List Char) (o : BitOrder) :
    toBitOrder (.text s) = .ok o ↔ (s, o) ∈ bitOrderTable := by
  unfold toBitOrder bitOrderTable
  by_cases h1 : s = ['b', 'i', 'g']
  · subst h1; cases o <;> simp
  · by_cases h2 : s = ['l', 'i', 't', 't', 'l', 'e']
    · subst h2; cases o <;> simp
    · simp [h1, h2]

/-- any other text is an error value (not a panic, not a default) -/
theorem toBitOrder_unknown (s : List Char) (h : ∀ o, (s, o) ∉ bitOrderTable) :
    toBitOrder (.text s) = .err .ParameterError := by
  have h1 : s ≠ ['b', 'i', 'g'] := fun e => h .big (by simp [bitOrderTable, e])
  have h2 : s ≠ ['l', 'i', 't', 't', 'l', 'e'] := fun e => h .little (by simp [bitOrderTable, e])
  simp [toBitOrder, h1, h2]

theorem toBitOrder_enum (o : BitOrder) : toBitOrder (.enum o) = .ok o := rfl

/-- both orders are reachable in the enum and in the text spelling, and mean the same -/
theorem spellings_agree :
    toBitOrder (.text ['b', 'i', 'g']) = toBitOrder (.enum .big) ∧
    toBitOrder (.text ['l', 'i', 't', 't', 'l', 'e']) = toBitOrder (.enum .little) ∧
    optOrder none = .ok .big := by decide

/-- the order option is accepted exactly when `to_bit_order` answers a value (absent, either enum value, or a text of the
table, `toBitOrder_text_ok_iff`) -/
theorem order_accepted_iff (ord : Option Spelling) : orderAccepted ord = true ↔ ∃ o, optOrder ord = .ok o :=
  orderAccepted_iff ord

/-! ## one byte -/

/-- **what unpacking a byte is**: big order lists the binary digits most significant first, little order
least significant first (for every natural number, not only bytes) -/
theorem unpackByte_digits (b : Nat) :
    unpackByte .big b = [b / 128 % 2, b / 64 % 2, b / 32 % 2, b / 16 % 2, b / 8 % 2, b / 4 % 2, b / 2 % 2, b % 2] ∧
    unpackByte .little b = [b % 2, b / 2 % 2, b / 4 % 2, b / 8 % 2, b / 16 % 2, b / 32 % 2, b / 64 % 2, b / 128 % 2] := by
  have hr : (List.range 8).reverse = [7, 6, 5, 4, 3, 2, 1, 0] := by decide
  constructor <;> simp [unpackByte, hr, Nat.shiftRight_eq_div_pow, Nat.and_one_is_mod]

/-- for each of the 256 byte values and both orders, packing the unpacked bits returns the byte: the eight low binary
digits of `b` have the value `b % 256` (`ofDigitsLE_lowBits`) -/
theorem unpack_byte_pack_byte : ∀ b, b < 256 → ∀ o : BitOrder, packGroup o (unpackByte o b) = .ok b :=
  packGroup_unpackByte

/-- and conversely every group of eight bits is recovered from its byte: the low binary digits of the value of a digit
list are the list (`lowBits_ofDigitsLE`) -/
theorem pack_group_unpack_byte (o : BitOrder) (x0 x1 x2 x3 x4 x5 x6 x7 : Nat)
    (h0 : x0 < 2) (h1 : x1 < 2) (h2 : x2 < 2) (h3 : x3 < 2) (h4 : x4 < 2) (h5 : x5 < 2) (h6 : x6 < 2) (h7 : x7 < 2) :
    (packGroup o [x0, x1, x2, x3, x4, x5, x6, x7]).map (unpackByte o) = .ok [x0, x1, x2, x3, x4, x5, x6, x7] :=
  unpack_packGroup8 o _ rfl fun x hx => by
    simp only [List.mem_cons, List.not_mem_nil, or_false] at hx
    omega

/-- values other than 0/1 count as set bits (`if i > &0`) -/
theorem pack_group_nonbinary (o : BitOrder) (g : List Nat) :
    packGroup o (g.map (fun i => if i > 0 then 1 else 0)) = packGroup o g := by
  have : ∀ i, bitChar (asBit i) = bitChar i := fun i => by unfold bitChar asBit; split <;> simp_all
  show packGroup o (g.map asBit) = _
  simp only [packGroup, List.map_map, Function.comp_def, this]

/-! ## lists of bytes (flat order) -/

/-- unpacking replaces every byte by eight elements … -/
theorem unpack_flat_length (o : BitOrder) (bs : List Nat) : (unpackFlat o bs).length = 8 * bs.length :=
  unpackFlat_length o bs

/-- … all of them bits -/
theorem unpack_flat_bits (o : BitOrder) (bs : List Nat) : ∀ x ∈ unpackFlat o bs, x < 2 := by
  intro x hx
  simp only [unpackFlat, List.mem_flatMap] at hx
  obtain ⟨b, _, hb⟩ := hx
  exact unpackByte_bits o b x hb

/-- byte `i` of the input becomes elements `8i … 8i+7` of the output -/
theorem unpack_flat_at (o : BitOrder) : ∀ (bs : List Nat) (i : Nat) (b : Nat), bs[i]? = some b →
    ((unpackFlat o bs).drop (8 * i)).take 8 = unpackByte o b
  | [], i, b, h => by simp at h
  | x :: xs, 0, b, h => by
    simp only [List.getElem?_cons_zero, Option.some.injEq] at h; subst h
    rw [unpackFlat_cons]; simp [unpackByte_length]
  | x :: xs, i + 1, b, h => by
    rw [unpackFlat_cons]
    have : 8 * (i + 1) = (unpackByte o x).length + 8 * i := by rw [unpackByte_length]; omega
    rw [this, List.drop_append]
    simp only [Nat.add_sub_cancel_left]
    rw [List.drop_eq_nil_of_le (by omega), List.nil_append]
    exact unpack_flat_at o xs i b (by simpa using h)

/-- **pack ∘ unpack = id** for every list of bytes, in either order -/
theorem pack_unpack_flat (o : BitOrder) (bs : List Nat) (h : ∀ b ∈ bs, b < 256) :
    packFlat o (unpackFlat o bs) = .ok bs := packFlat_unpackFlat o bs h

/-- **padding**: packing a bit list whose length is not a multiple of eight is packing it with the final short
group filled up with zero bits -/
theorem pack_pad (o : BitOrder) (xs : List Nat) (h : xs.length % 8 ≠ 0) :
    packFlat o xs = packFlat o (xs ++ List.replicate (8 - xs.length % 8) 0) := by
  rw [← packFlat_pad8, pad8, if_pos h]

/-- a list whose length is a multiple of eight is packed as it is -/
theorem pack_no_pad (xs : List Nat) (h : xs.length % 8 = 0) : pad8 xs = xs := pad8_of_dvd xs h

/-- the number of bytes is the number of groups, `⌈len / 8⌉` -/
theorem pack_length (o : BitOrder) (xs r : List Nat) (h : packFlat o xs = .ok r) :
    r.length = (xs.length + 7) / 8 := by
  rw [packFlat_eq] at h
  exact Res.ok.inj h ▸ packedBytes_length o xs

/-- packing groups eight at a time: the first eight elements make the first byte, the rest the rest -/
theorem pack_step (o : BitOrder) (g rest : List Nat) (hg : g.length = 8) :
    packFlat o (g ++ rest) = (packGroup o g >>= fun b => packFlat o rest >>= fun bs => .ok (b :: bs)) :=
  packFlat_append8 o g rest hg

/-- **unpack ∘ pack = zero padding**: packing a list of bits and unpacking the bytes gives the bits followed by
the padding zeros -/
theorem unpack_pack_flat (o : BitOrder) (xs : List Nat) (hb : ∀ x ∈ xs, x < 2) :
    (packFlat o xs).map (unpackFlat o) = .ok (pad8 xs) := by
  rw [← packFlat_pad8]
  exact unpackFlat_packFlat_mul8 o ((xs.length + 7) / 8) (pad8 xs) (by rw [pad8_length, Nat.mul_comm]) (pad8_bits xs hb)

/-! ## arrays: the round trip, flat and along an axis -/

/-- **the lane round trip** (what `apply_along_axis` is given): for every lane of bytes, packing the unpacked
lane returns the lane — including the empty lane -/
theorem lane_roundtrip (o : BitOrder) (lane : Arr Nat) (h : ∀ b ∈ lane.elems, b < 256) :
    (unpackLane o none lane >>= packLane o) = .ok (Arr.flat lane.elems) := by
  unfold unpackLane
  by_cases he : lane.isEmpty = true
  · have : lane.elems = [] := by simpa [Arr.isEmpty] using he
    rw [if_pos he, this]; rfl
  · rw [if_neg he, unpack_flat_arr, Res.bind_ok]
    exact packLane_unpackFlat o _ (by simpa [Arr.isEmpty] using he) h

/-- **`pack_bits(unpack_bits(a))` in flat order returns the original bytes** (as a 1-D array: the flat form
discards the shape by design), for every accepted spelling of the order -/
theorem pack_unpack_flat_arr (along : Along) (a : Arr Nat) (ord : Option Spelling) (o : BitOrder)
    (ho : optOrder ord = .ok o) (hne : a.isEmpty = false) (h : ∀ b ∈ a.elems, b < 256) :
    (unpackBits along a none none ord >>= fun u => packBits along u none ord) = .ok (Arr.flat a.elems) := by
  have hu : (Arr.flat (unpackFlat o a.elems)).isEmpty = false :=
    flat_not_empty (unpackFlat_ne_nil o (by simpa [Arr.isEmpty] using hne))
  rw [unpackBits_eq, bitsFrame_flat ho hne, unpack_flat_arr, Res.bind_ok, packBits_eq, bitsFrame_flat ho hu]
  exact packFlatArr_unpackFlat o _ h

/-- the two lane functions form an inverse pair in the sense `AlongLifts` asks for: a lane of `n > 0` bytes
goes to a 1-D array of `8·n` bits and comes back -/
theorem lane_pair (o : BitOrder) (l : List Nat) (hl : l ≠ []) (h : ∀ b ∈ l, b < 256) :
    (unpackFlat o l).length = 8 * l.length ∧
    unpackLane o none (Arr.flat l) = .ok (Arr.flat (unpackFlat o l)) ∧
    packLane o (Arr.flat (unpackFlat o l)) = .ok (Arr.flat l) :=
  ⟨unpackFlat_length o l, unpackLane_none o l hl, packLane_unpackFlat o l hl h⟩

/-- **round trip along an axis**, for any `apply_along_axis` satisfying `AlongLifts`: same axis, same order ⇒
the original bytes *and shape* -/
theorem pack_unpack_axis_of_lifts (along : Along) (a : Arr Nat) (ax : Int) (ord : Option Spelling) (o : BitOrder)
    (ho : optOrder ord = .ok o) (hwf : a.WF) (hk : normalizeAxis a.ndim ax < a.ndim) (hne : a.isEmpty = false)
    (h : ∀ b ∈ a.elems, b < 256) (hal : AlongLifts along a (normalizeAxis a.ndim ax)) :
    (unpackBits along a (some ax) none ord >>= fun u => packBits along u (some ax) ord) = .ok a := by
  have hn : 0 < a.shape.getD (normalizeAxis a.ndim ax) 0 := (axis_split a _ hwf hk hne).2.2.1
  obtain ⟨u, hu, hnd, hue, hback⟩ := hal (unpackLane o none) (packLane o) (8 * a.shape.getD (normalizeAxis a.ndim ax) 0)
    (by omega)
    (fun l hl hmem => by
      obtain ⟨h1, h2, h3⟩ := lane_pair o l (List.ne_nil_of_length_pos (hl ▸ hn)) (fun b hb => h b (hmem b hb))
      exact ⟨unpackFlat o l, by rw [h1, hl], h2, h3⟩)
    (fun l hl => ⟨_, unpackLane_of_length o hn l hl⟩)
    (fun l hl => ⟨_, (packLane_of_length o (by omega) l hl).1, by
      rw [show (Arr.flat (packedBytes o l)).elems.length = _ from (packLane_of_length o (by omega) l hl).2]; omega⟩)
  rw [unpackBits_eq, bitsFrame_axis ho hk hne, hu, Res.bind_ok, packBits_eq, bitsFrame_axis ho (hnd ▸ hk) hue, hnd]
  exact hback

/-- **C19, axis form, on the model of the crate's own `apply_along_axis` pipeline**: packing what was unpacked
along the same axis with the same order returns the original bytes and the original shape — every rank, every
axis (either spelling), both orders (any accepted spelling), all byte values. -/
theorem pack_unpack_axis (a : Arr Nat) (ax : Int) (ord : Option Spelling) (o : BitOrder)
    (ho : optOrder ord = .ok o) (hwf : a.WF) (hnz : 0 ∉ a.shape) (hk : normalizeAxis a.ndim ax < a.ndim)
    (h : ∀ b ∈ a.elems, b < 256) :
    (unpackBits alongPipe a (some ax) none ord >>= fun u => packBits alongPipe u (some ax) ord) = .ok a :=
  pack_unpack_axis_of_lifts alongPipe a ax ord o ho hwf hk (not_empty_of_no_zero_axis a hwf hnz) h
    (alongPipe_lifts a _ hwf hk hnz)

/-- **unpacking along an axis, per coordinate** (pipeline model): the axis becomes eight times as long, the other
axes are kept, and the element at coordinate `c` is bit `c[axis]` of the flat unpacking of the lane through `c` —
i.e. bit `c[axis] % 8` of the byte at position `c[axis] / 8` of that lane (`unpack_flat_at`). -/
theorem unpack_axis_at (a : Arr Nat) (ax : Int) (ord : Option Spelling) (o : BitOrder)
    (ho : optOrder ord = .ok o) (hwf : a.WF) (hnz : 0 ∉ a.shape) (hk : normalizeAxis a.ndim ax < a.ndim) :
    ∃ u, unpackBits alongPipe a (some ax) none ord = .ok u ∧
      u.shape = a.shape.set (normalizeAxis a.ndim ax) (8 * a.shape.getD (normalizeAxis a.ndim ax) 0) ∧ u.WF ∧
      ∀ c, inRange u.shape c = true →
        u.get? c = (unpackFlat o (laneOf a (normalizeAxis a.ndim ax) c))[c.getD (normalizeAxis a.ndim ax) 0]? := by
  have hn := getD_mem_pos _ _ hk hnz
  rw [unpackBits_eq, bitsFrame_axis ho hk (not_empty_of_no_zero_axis a hwf hnz)]
  exact alongPipe_lanes a _ _ _ (unpackFlat o) hwf hk hnz (unpackLane_of_length o hn)

/-- **packing along an axis, per coordinate** (pipeline model): the axis shrinks to `⌈n / 8⌉`, and the element at
coordinate `c` is byte `c[axis]` of the flat packing of the lane through `c` -/
theorem pack_axis_at (a : Arr Nat) (ax : Int) (ord : Option Spelling) (o : BitOrder)
    (ho : optOrder ord = .ok o) (hwf : a.WF) (hnz : 0 ∉ a.shape) (hk : normalizeAxis a.ndim ax < a.ndim) :
    ∃ u, packBits alongPipe a (some ax) ord = .ok u ∧
      u.shape = a.shape.set (normalizeAxis a.ndim ax) ((a.shape.getD (normalizeAxis a.ndim ax) 0 + 7) / 8) ∧ u.WF ∧
      ∀ c, inRange u.shape c = true → ∃ r, packFlat o (laneOf a (normalizeAxis a.ndim ax) c) = .ok r ∧
        u.get? c = r[c.getD (normalizeAxis a.ndim ax) 0]? := by
  have hn := getD_mem_pos _ _ hk hnz
  obtain ⟨u, hu, hs, huwf, hget⟩ := alongPipe_lanes a _ _ _ (packedBytes o) hwf hk hnz (packLane_of_length o hn)
  rw [packBits_eq, bitsFrame_axis ho hk (not_empty_of_no_zero_axis a hwf hnz)]
  exact ⟨u, hu, hs, huwf, fun c hc => ⟨_, packFlat_eq o _, hget c hc⟩⟩

/-- **round trip along every axis for the reference lane semantics** -/
theorem pack_unpack_axis_ref (a : Arr Nat) (ax : Int) (ord : Option Spelling) (o : BitOrder)
    (ho : optOrder ord = .ok o) (hwf : a.WF) (hk : normalizeAxis a.ndim ax < a.ndim) (hne : a.isEmpty = false)
    (h : ∀ b ∈ a.elems, b < 256) :
    (unpackBits alongRef a (some ax) none ord >>= fun u => packBits alongRef u (some ax) ord) = .ok a :=
  pack_unpack_axis_of_lifts alongRef a ax ord o ho hwf hk hne h (alongRef_lifts a _ hwf hk hne)

/-- **what unpacking along an axis is** (reference lane semantics): the axis becomes eight times as long, every
other axis is kept, and every lane along the axis is replaced by its flat unpacking -/
theorem unpack_axis_ref (a : Arr Nat) (ax : Int) (ord : Option Spelling) (o : BitOrder)
    (ho : optOrder ord = .ok o) (hwf : a.WF) (hk : normalizeAxis a.ndim ax < a.ndim) (hne : a.isEmpty = false) :
    let k := normalizeAxis a.ndim ax
    let O := (a.shape.take k).prod
    let n := a.shape.getD k 0
    let I := (a.shape.drop (k + 1)).prod
    unpackBits alongRef a (some ax) none ord =
      .ok ⟨unlanes ((lanes a.elems O n I).map (unpackFlat o)) O (8 * n) I, a.shape.set k (8 * n)⟩ := by
  intro k O n I
  obtain ⟨_, hO, hn, hI⟩ := axis_split a k hwf hk hne
  rw [unpackBits_eq, bitsFrame_axis ho hk hne]
  exact alongRef_eq a k hk (unpackLane o none) (fun l => Arr.flat (unpackFlat o l)) (8 * n) (Nat.mul_pos hO hI)
    fun l hl => unpackLane_of_length o hn l (mem_lanes_length _ _ _ _ l hl)

/-! ## the `count` argument, flat and by axis -/

/-- what `countKeep` (`Lemmas/C19Ext.lean`) is: absent keeps all `total` bits; `c ≥ 0` keeps the first `c` and is refused
beyond `total`; `-c < 0` keeps all but the last `c` and is refused when `c > total` -/
theorem count_keep_spec (total : Nat) :
    countKeep total none = some total ∧
    (∀ c : Nat, countKeep total (some (Int.ofNat c)) = if c ≤ total then some c else none) ∧
    (∀ c : Nat, 0 < c → countKeep total (some (-(Int.ofNat c))) = if c ≤ total then some (total - c) else none) :=
  ⟨rfl, countKeep_ofNat total, countKeep_neg total⟩

/-- **`count` in the flat form, every count** (through the whole operation: accepted order, non-empty array): the result
is the 1-D array of the first `m` bits of the full unpacking, `m = countKeep (8·len) count`, or the `OutOfBounds` error
value when the count is refused — `count = 0` and `count = -8·len` give the empty 1-D array, `count = 8·len` the same as
no count -/
theorem unpack_count_flat (along : Along) (a : Arr Nat) (count : Option Int) (ord : Option Spelling) (o : BitOrder)
    (ho : optOrder ord = .ok o) (hne : a.isEmpty = false) :
    unpackBits along a none count ord =
      match countKeep (8 * a.elems.length) count with
      | some m => .ok (Arr.flat ((unpackFlat o a.elems).take m))
      | none => .err .OutOfBounds := by
  rw [unpackBits_eq, bitsFrame_flat ho hne]
  exact unpackFlatArr_count o count a

/-- the flat arm alone (`unpackFlatArr`, no side condition), `count ≥ 0`: the first `count` bits; more than there are is an
error -/
theorem unpack_count_nonneg (o : BitOrder) (a : Arr Nat) (c : Nat) :
    unpackFlatArr o (some (Int.ofNat c)) a =
      if c ≤ 8 * a.elems.length then .ok (Arr.flat ((unpackFlat o a.elems).take c)) else .err .OutOfBounds := by
  rw [unpackFlatArr_count, countKeep_ofNat]
  by_cases h : c ≤ 8 * a.elems.length
  · rw [if_pos h, if_pos h]
  · rw [if_neg h, if_neg h]

/-- … `count < 0`: `|count|` bits are trimmed off the end; trimming more than there are is an error (the arm as of
commit 121394e, see fixes/C19-unpack-negative-count) -/
theorem unpack_count_neg (o : BitOrder) (a : Arr Nat) (c : Nat) (hc : 0 < c) :
    unpackFlatArr o (some (-(Int.ofNat c))) a =
      if c ≤ 8 * a.elems.length then .ok (Arr.flat ((unpackFlat o a.elems).take (8 * a.elems.length - c)))
      else .err .OutOfBounds := by
  rw [unpackFlatArr_count, countKeep_neg _ c hc]
  by_cases h : c ≤ 8 * a.elems.length
  · rw [if_pos h, if_pos h]
  · rw [if_neg h, if_neg h]

/-- **`count` undoes the padding**: unpacking the packed bits with `count` = the original number of bits
returns exactly the original bits, whatever their number -/
theorem unpack_count_undoes_padding (o : BitOrder) (xs : List Nat) (hb : ∀ x ∈ xs, x < 2) :
    (packFlat o xs >>= fun bs => unpackFlatArr o (some (Int.ofNat xs.length)) (Arr.flat bs)) = .ok (Arr.flat xs) := by
  obtain ⟨bs, h1, h2⟩ := Res.map_eq_ok (unpack_pack_flat o xs hb)
  have hle : xs.length ≤ 8 * bs.length := by rw [← unpackFlat_length o, h2, pad8_length]; omega
  rw [h1, Res.bind_ok, unpack_count_nonneg]
  show (if xs.length ≤ 8 * bs.length then Res.ok (Arr.flat ((unpackFlat o bs).take xs.length)) else _) = _
  rw [if_pos hle, h2, take_pad8]

/-- whatever the `count`, the flat form answers with a value or an error value, never a panic -/
theorem unpack_count_never_panics (o : BitOrder) (a : Arr Nat) (count : Option Int) :
    unpackFlatArr o count a ≠ .panic := unpackFlatArr_ne_panic o count a

/-- **`count` along an axis, every accepted count** (pipeline model): the count applies to every lane separately —
`m = countKeep (8·n) count` with `n` the length of the axis — the axis takes length `m`, the other axes are kept, and the
element at `c` is bit `c[axis]` of the flat unpacking of the lane through `c`: the result is the prefix of length `m`
along the axis of the unpacking without count (`unpack_axis_at`) -/
theorem unpack_count_axis_ok (a : Arr Nat) (ax : Int) (count : Option Int) (ord : Option Spelling) (o : BitOrder) (m : Nat)
    (ho : optOrder ord = .ok o) (hwf : a.WF) (hnz : 0 ∉ a.shape) (hk : normalizeAxis a.ndim ax < a.ndim)
    (hm : countKeep (8 * a.shape.getD (normalizeAxis a.ndim ax) 0) count = some m) :
    ∃ u, unpackBits alongPipe a (some ax) count ord = .ok u ∧
      u.shape = a.shape.set (normalizeAxis a.ndim ax) m ∧ u.WF ∧
      ∀ c, inRange u.shape c = true →
        u.get? c = (unpackFlat o (laneOf a (normalizeAxis a.ndim ax) c))[c.getD (normalizeAxis a.ndim ax) 0]? := by
  have hn := getD_mem_pos _ _ hk hnz
  have hk' : normalizeAxis a.ndim ax < a.shape.length := hk
  obtain ⟨u, hu, hs, huwf, hget⟩ := alongPipe_lanes a _ m (unpackLane o count)
      (fun l => (unpackFlat o l).take m) hwf hk hnz fun l hl =>
    ⟨by rw [unpackLane_flat o count l (List.ne_nil_of_length_pos (hl ▸ hn)), hl, hm],
     by rw [List.length_take, unpackFlat_length, hl]; exact Nat.min_eq_left (countKeep_le _ _ _ hm)⟩
  rw [unpackBits_eq, bitsFrame_axis ho hk (not_empty_of_no_zero_axis a hwf hnz)]
  refine ⟨u, hu, hs, huwf, fun c hc => ?_⟩
  have hck : c.getD (normalizeAxis a.ndim ax) 0 < m := by
    have := inRange_getD_lt u.shape c (normalizeAxis a.ndim ax) hc (by rw [hs, List.length_set]; exact hk')
    rwa [hs, getD_set_self _ _ _ hk'] at this
  rw [hget c hc, List.getElem?_take, if_pos hck]

/-- **`count` along an axis, every refused count**: more than the `8·n` bits of a lane (either sign) is the `OutOfBounds`
error value — for every rank, axis, order -/
theorem unpack_count_axis_err (a : Arr Nat) (ax : Int) (count : Option Int) (ord : Option Spelling) (o : BitOrder)
    (ho : optOrder ord = .ok o) (hwf : a.WF) (hnz : 0 ∉ a.shape) (hk : normalizeAxis a.ndim ax < a.ndim)
    (hm : countKeep (8 * a.shape.getD (normalizeAxis a.ndim ax) 0) count = none) :
    unpackBits alongPipe a (some ax) count ord = .err .OutOfBounds := by
  have hn := getD_mem_pos _ _ hk hnz
  rw [unpackBits_eq, bitsFrame_axis ho hk (not_empty_of_no_zero_axis a hwf hnz)]
  apply applyAlongAxis_all_err a 0 0 _ _ _ hwf hk hnz
  intro l hl
  rw [unpackLane_flat o count l (List.ne_nil_of_length_pos (hl ▸ hn)), hl, hm]

/-! ## the checks before any work: order, then axis -/

/-- an unknown order name: both operations return the error, whatever the array (empty ones included: the order is
parsed before the empty-array shortcut, commit 97c65b7), the axis and the count -/
theorem bad_order_rejected (along : Along) (a : Arr Nat) (axis count : Option Int) (s : List Char)
    (h : ∀ o, (s, o) ∉ bitOrderTable) :
    unpackBits along a axis count (some (.text s)) = .err .ParameterError ∧
    packBits along a axis (some (.text s)) = .err .ParameterError := by
  have ho : optOrder (some (.text s)) = .err .ParameterError := toBitOrder_unknown s h
  rw [unpackBits_eq, packBits_eq]
  exact ⟨bitsFrame_bad_order ho, bitsFrame_bad_order ho⟩

/-- an axis outside the rank is an error value in both operations — for every array, empty ones included, and
whatever `apply_along_axis` is: the axis is validated before the empty-array shortcut and before any lane work
(commit 97c65b7) -/
theorem axis_out_of_range (along : Along) (a : Arr Nat) (ax : Int) (count : Option Int) (ord : Option Spelling)
    (o : BitOrder) (ho : optOrder ord = .ok o) (hk : a.ndim ≤ normalizeAxis a.ndim ax) :
    unpackBits along a (some ax) count ord = .err .AxisOutOfBounds ∧
    packBits along a (some ax) ord = .err .AxisOutOfBounds := by
  rw [unpackBits_eq, packBits_eq]
  exact ⟨bitsFrame_bad_axis ho hk, bitsFrame_bad_axis ho hk⟩

/-- an axis outside the rank is an error value in both operations (reference lane semantics; instance of
`axis_out_of_range`) -/
theorem axis_out_of_range_ref (a : Arr Nat) (ax : Int) (count : Option Int) (ord : Option Spelling) (o : BitOrder)
    (ho : optOrder ord = .ok o) (hk : a.ndim ≤ normalizeAxis a.ndim ax) :
    unpackBits alongRef a (some ax) count ord = .err .AxisOutOfBounds ∧
    packBits alongRef a (some ax) ord = .err .AxisOutOfBounds :=
  axis_out_of_range alongRef a ax count ord o ho hk

/-- the axis option is accepted exactly when it is absent or `-rank ≤ axis < rank` (for every `isize` axis; ranks below
`2^63`) -/
theorem axis_accepted_iff (ndim : Nat) (ax : Int) (hnd : ndim < 2 ^ 63) (hax : -(2 ^ 63 : Int) ≤ ax) :
    (axisAccepted ndim none = true) ∧
    (axisAccepted ndim (some ax) = true ↔ (-(Int.ofNat ndim) ≤ ax ∧ ax < Int.ofNat ndim)) := by
  refine ⟨rfl, ?_⟩
  simp only [axisAccepted, decide_eq_true_eq]
  exact normalizeAxis_lt_iff ndim ax hnd hax

/-! ## arrays without elements and zero-length axes: complete outcome -/

/-- for well-formed arrays the shortcut `is_empty()` fires exactly on the arrays with a zero-length axis -/
theorem empty_iff_zero_axis (a : Arr Nat) (hwf : a.WF) : a.isEmpty = true ↔ 0 ∈ a.shape := Arr.isEmpty_iff_zero_mem a hwf

/-- **arrays without elements, complete outcome of both operations**, whatever `apply_along_axis` is, whatever the
count, for every axis and order option (no side condition): the order option is judged first (`ParameterError`), the axis
second (`AxisOutOfBounds`), and only then the answer is `Array::empty()` — the 1-D array of shape `[0]`, NOT the input
shape (`emptyAnswer`, `Lemmas/C19Ext.lean`; `orderAccepted` / `axisAccepted` are characterised by `order_accepted_iff` /
`axis_accepted_iff`) -/
theorem empty_outcome (along : Along) (a : Arr Nat) (he : a.isEmpty = true) (axis count : Option Int)
    (ord : Option Spelling) :
    unpackBits along a axis count ord = emptyAnswer a.ndim axis ord ∧
    packBits along a axis ord = emptyAnswer a.ndim axis ord :=
  ⟨(unpackBits_eq along a axis count ord).trans (bitsFrame_of_isEmpty he axis ord _ _),
    (packBits_eq along a axis ord).trans (bitsFrame_of_isEmpty he axis ord _ _)⟩

/-- … in particular for every well-formed array with a zero-length axis (any rank, any position of the zero) -/
theorem zero_axis_outcome (along : Along) (a : Arr Nat) (hwf : a.WF) (h0 : 0 ∈ a.shape) (axis count : Option Int)
    (ord : Option Spelling) :
    unpackBits along a axis count ord = emptyAnswer a.ndim axis ord ∧
    packBits along a axis ord = emptyAnswer a.ndim axis ord :=
  empty_outcome along a ((Arr.isEmpty_iff_zero_mem a hwf).2 h0) axis count ord

/-- with an accepted order and an axis inside the rank (or the flat form) that outcome is `Array::empty()` -/
theorem empty_after_validation (along : Along) (a : Arr Nat) (axis count : Option Int) (ord : Option Spelling)
    (o : BitOrder) (ho : optOrder ord = .ok o) (he : a.isEmpty = true)
    (hax : ∀ ax, axis = some ax → normalizeAxis a.ndim ax < a.ndim) :
    unpackBits along a axis count ord = .ok ⟨[], [0]⟩ ∧ packBits along a axis ord = .ok ⟨[], [0]⟩ := by
  have hacc : axisAccepted a.ndim axis = true := by
    cases axis with
    | none => rfl
    | some ax => exact decide_eq_true (hax ax rfl)
  have hemp : emptyAnswer a.ndim axis ord = .ok ⟨[], [0]⟩ := by
    rw [emptyAnswer, (orderAccepted_iff ord).2 ⟨o, ho⟩, hacc]; rfl
  obtain ⟨hu, hp⟩ := empty_outcome along a he axis count ord
  exact ⟨hu.trans hemp, hp.trans hemp⟩

/-- **the round trip on an array without elements, complete outcome**: the unpacked value is the 1-D empty array, so
`pack_bits` validates the SAME axis against rank 1 — an axis other than `0` / `-1` (accepted for the input of rank ≥ 2)
is refused there -/
theorem roundtrip_empty (along : Along) (a : Arr Nat) (he : a.isEmpty = true) (axis count : Option Int)
    (ord : Option Spelling) :
    (unpackBits along a axis count ord >>= fun u => packBits along u axis ord) =
      if orderAccepted ord = false then .err .ParameterError
      else if axisAccepted a.ndim axis = false ∨ axisAccepted 1 axis = false then .err .AxisOutOfBounds
      else .ok ⟨[], [0]⟩ := by
  rw [(empty_outcome along a he axis count ord).1]
  unfold emptyAnswer
  cases ho : orderAccepted ord with
  | false => simp
  | true =>
    cases h1 : axisAccepted a.ndim axis with
    | false => simp
    | true =>
      simp only [Bool.true_eq_false, if_false, Res.bind_ok, false_or]
      rw [(empty_outcome along ⟨[], [0]⟩ rfl axis count ord).2]
      simp [emptyAnswer, ho, Arr.ndim]

/-- instance: on a well-formed array with a zero-length axis the round trip along an inner axis `ax ≥ 1` (in range for the
array) is an `AxisOutOfBounds` error value — not the input, not a panic -/
theorem roundtrip_zero_axis_inner (along : Along) (a : Arr Nat) (hwf : a.WF) (h0 : 0 ∈ a.shape) (ax : Int) (h1 : 1 ≤ ax)
    (count : Option Int) (ord : Option Spelling) (o : BitOrder) (ho : optOrder ord = .ok o) :
    (unpackBits along a (some ax) count ord >>= fun u => packBits along u (some ax) ord) = .err .AxisOutOfBounds := by
  rw [roundtrip_empty along a ((Arr.isEmpty_iff_zero_mem a hwf).2 h0)]
  have hacc : orderAccepted ord = true := (orderAccepted_iff ord).2 ⟨o, ho⟩
  have hn1 : ¬ normalizeAxis 1 ax < 1 := by
    unfold normalizeAxis; rw [if_neg (by omega)]; omega
  have h2 : axisAccepted 1 (some ax) = false := by simp [axisAccepted, hn1]
  simp [hacc, h2]

/-- **the shortcut decides**: on a well-formed array with a zero-length axis the lane pipeline itself (the crate's
`apply_along_axis` with the very lane closures of the two operations) would answer `ParameterError` when an axis other
than the processed one has length 0 and the INPUT array otherwise (`C08Empty`: `applyAlongAxis_other_zero`,
`applyAlongAxis_axis_zero`) — never the `[0]`-shaped `Array::empty()` that `zero_axis_outcome` states; so dropping or
moving the shortcut changes the answer on every such array -/
theorem lanes_on_zero_axis (a : Arr Nat) (hwf : a.WF) (k : Nat) (hk : k < a.ndim) (h0 : 0 ∈ a.shape) (o : BitOrder)
    (count : Option Int) :
    alongPipe a k (unpackLane o count) = (if 0 ∈ a.shape.eraseIdx k then .err .ParameterError else .ok a) ∧
    alongPipe a k (packLane o) = (if 0 ∈ a.shape.eraseIdx k then .err .ParameterError else .ok a) :=
  ⟨alongPipe_zero_axis a hwf k hk h0 _ (unpackLane_nil o count), alongPipe_zero_axis a hwf k hk h0 _ (packLane_nil o)⟩

/-! ## never a panic -/

/-- **never a panic, total**: on the model of the crate's own `apply_along_axis` pipeline, for EVERY well-formed byte
array (zero-length axes included), every axis, count and order option, `unpack_bits` answers `Ok` with a well-formed
array or `Err` -/
theorem unpack_total (a : Arr Nat) (hwf : a.WF) (axis count : Option Int) (ord : Option Spelling) :
    (∃ u, unpackBits alongPipe a axis count ord = .ok u ∧ u.WF) ∨ (∃ e, unpackBits alongPipe a axis count ord = .err e) :=
  unpackBits_eq alongPipe a axis count ord ▸ bitsFrame_pipe_total a hwf axis ord _ _
    (fun o => unpackFlatArr_total o count a) (fun o => unpackLane_ne_panic o count)

/-- the same for `pack_bits` (any element values) -/
theorem pack_total (a : Arr Nat) (hwf : a.WF) (axis : Option Int) (ord : Option Spelling) :
    (∃ u, packBits alongPipe a axis ord = .ok u ∧ u.WF) ∨ (∃ e, packBits alongPipe a axis ord = .err e) :=
  packBits_eq alongPipe a axis ord ▸ bitsFrame_pipe_total a hwf axis ord _ _
    (fun o => Or.inl ⟨_, packFlatArr_eq o a, Arr.flat_wf _⟩) packLane_ne_panic

theorem unpack_never_panics (a : Arr Nat) (hwf : a.WF) (axis count : Option Int) (ord : Option Spelling) :
    unpackBits alongPipe a axis count ord ≠ .panic := by
  rcases unpack_total a hwf axis count ord with ⟨u, h, _⟩ | ⟨e, h⟩ <;> rw [h] <;> exact fun h => nomatch h

theorem pack_never_panics (a : Arr Nat) (hwf : a.WF) (axis : Option Int) (ord : Option Spelling) :
    packBits alongPipe a axis ord ≠ .panic := by
  rcases pack_total a hwf axis ord with ⟨u, h, _⟩ | ⟨e, h⟩ <;> rw [h] <;> exact fun h => nomatch h

/-- … and for the chained round trip (even with different axis / order options in the two calls) -/
theorem roundtrip_never_panics (a : Arr Nat) (hwf : a.WF) (axis axis' count : Option Int) (ord ord' : Option Spelling) :
    (unpackBits alongPipe a axis count ord >>= fun u => packBits alongPipe u axis' ord') ≠ .panic := by
  rcases unpack_total a hwf axis count ord with ⟨u, h, huwf⟩ | ⟨e, h⟩
  · rw [h]; exact pack_never_panics u huwf axis' ord'
  · rw [h]; exact fun h => nomatch h

/-! ## `binary_repr` -/

/-- **the binary text of a natural number parses back to it** (`from_str_radix(·, 2)`) -/
theorem binaryRepr_parse (n : Nat) : parseRadix2 (binaryRepr n) = some n := by
  rw [binaryRepr, parseRadix2_digits _ (binaryDigits_ne_nil n) (binaryDigits_lt n), binaryDigits_value]

/-- … also with the overflow check of a `w`-bit unsigned type -/
theorem binaryRepr_parse_unsigned (w n : Nat) (h : n < 2 ^ w) : parseRadix2U w (binaryRepr n) = some n := by
  simp [parseRadix2U, binaryRepr_parse, h]

/-- different values have different texts -/
theorem binaryRepr_injective (m n : Nat) (h : binaryRepr m = binaryRepr n) : m = n := by
  have := binaryRepr_parse m
  rw [h, binaryRepr_parse n] at this
  exact (Option.some.inj this).symm

/-- **the text is canonical**: for a positive value it starts with `1` (no leading zeros, no sign, no prefix) and has
exactly as many characters as the value needs, `2^(len-1) ≤ n < 2^len`; zero is `"0"` -/
theorem binaryRepr_canonical (n : Nat) (hn : 0 < n) :
    (binaryRepr n).head? = some '1' ∧
    2 ^ ((binaryRepr n).length - 1) ≤ n ∧ n < 2 ^ (binaryRepr n).length := by
  refine ⟨?_, ?_⟩
  · have := reprLoop_getLast (n + 1) n hn (by omega)
    simp only [binaryRepr, binaryDigits, List.head?_map, List.head?_reverse, this]
    rfl
  · rw [binaryRepr_length]; exact reprLoop_length_bounds (n + 1) n hn (by omega)

/-- **the converse — `binary_repr` is the inverse of parsing on canonical texts**: every non-empty text of binary digits
without a leading zero (or the text `"0"`), given by its digit list, parses to a value whose `binary_repr` is that very
text; with `binaryRepr_parse` the two functions are mutually inverse between the natural numbers and the canonical texts.
(A text with a leading zero parses too, but is not what `binary_repr` prints — example below.) -/
theorem binaryRepr_of_parse (ds : List Nat) (hne : ds ≠ []) (hd : ∀ d ∈ ds, d < 2) (hc : ds = [0] ∨ ds.head? = some 1) :
    ∃ n, parseRadix2 (ds.map digitChar) = some n ∧ binaryRepr n = ds.map digitChar :=
  ⟨ofDigitsBE ds, parseRadix2_digits ds hne hd, by rw [binaryRepr, binaryDigits_ofDigitsBE ds hd hc]⟩

/-- **a value of a `w`-bit signed type**: the text is the two's-complement pattern; parsed as the unsigned
`w`-bit type and reinterpreted as signed it is the value again (negative values included) -/
theorem binaryReprSigned_parse (w : Nat) (v : Int) (hw : 0 < w)
    (hlo : -(2 ^ (w - 1) : Int) ≤ v) (hhi : v < (2 ^ (w - 1) : Int)) :
    (parseRadix2U w (binaryReprSigned w v)).map (toSigned w) = some v := by
  obtain ⟨u, hu, hult, hpos, hneg⟩ := signed_pattern w v hw hlo hhi
  unfold binaryReprSigned
  rw [hu, binaryRepr_parse_unsigned w u hult, Option.map_some, toSigned]
  by_cases h0 : 0 ≤ v
  · rw [if_pos (hpos h0).2]; exact congrArg some (hpos h0).1
  · obtain ⟨h1, h2⟩ := hneg (Int.lt_of_not_ge h0)
    rw [if_neg (Nat.not_lt.2 h2)]
    exact congrArg some (by rw [Int.ofNat_eq_natCast, h1]; omega)

/-- a non-negative value of a `w`-bit signed type prints like the unsigned value (no padding to the width) -/
theorem binaryReprSigned_nonneg (w : Nat) (v : Int) (hw : 0 < w) (h0 : 0 ≤ v) (hhi : v < (2 ^ (w - 1) : Int)) :
    binaryReprSigned w v = binaryRepr v.toNat := by
  obtain ⟨u, hu, _, h1, _⟩ := signed_pattern w v hw (by have : (0 : Int) ≤ 2 ^ (w - 1) := Int.pow_nonneg (by decide); omega) hhi
  unfold binaryReprSigned
  rw [hu]
  congr 1
  have := (h1 h0).1
  omega

/-- **a negative value of a `w`-bit signed type, every width**: the text has exactly `w` characters, starts with `1`, and
its value read as a plain binary number is `v + 2^w ≥ 2^(w-1)` — a minus sign never appears, and the text does not fit
the non-negative range of the same signed type -/
theorem binaryReprSigned_neg (w : Nat) (v : Int) (hw : 0 < w) (hlo : -(2 ^ (w - 1) : Int) ≤ v) (hneg : v < 0) :
    (binaryReprSigned w v).length = w ∧ (binaryReprSigned w v).head? = some '1' ∧
    ∃ u : Nat, parseRadix2 (binaryReprSigned w v) = some u ∧ (u : Int) = v + (2 ^ w : Int) ∧ 2 ^ (w - 1) ≤ u := by
  obtain ⟨u, hu, hlt, _, h2⟩ := signed_pattern w v hw hlo
    (by have : (0 : Int) ≤ 2 ^ (w - 1) := Int.pow_nonneg (by decide); omega)
  obtain ⟨hui, hge⟩ := h2 hneg
  have hpos : 0 < u := Nat.lt_of_lt_of_le (Nat.two_pow_pos _) hge
  obtain ⟨hc1, hc2, hc3⟩ := binaryRepr_canonical u hpos
  unfold binaryReprSigned
  rw [hu]
  exact ⟨pow_window_unique u _ w hc2 hc3 hge hlt, hc1, u, binaryRepr_parse u, hui, hge⟩

/-- **every width at once** (`w ≥ 1`; a 0-bit type does not exist): every value of the `w`-bit unsigned type and every
value of the `w`-bit signed type parses back from its `binary_repr`, and within either type different values have
different texts -/
theorem binaryRepr_every_width (w : Nat) (hw : 0 < w) :
    (∀ n : Nat, n < 2 ^ w → parseRadix2U w (binaryRepr n) = some n) ∧
    (∀ v : Int, -(2 ^ (w - 1) : Int) ≤ v → v < (2 ^ (w - 1) : Int) →
      (parseRadix2U w (binaryReprSigned w v)).map (toSigned w) = some v) ∧
    (∀ v v' : Int, -(2 ^ (w - 1) : Int) ≤ v → v < (2 ^ (w - 1) : Int) → -(2 ^ (w - 1) : Int) ≤ v' →
      v' < (2 ^ (w - 1) : Int) → binaryReprSigned w v = binaryReprSigned w v' → v = v') := by
  refine ⟨fun n h => binaryRepr_parse_unsigned w n h, fun v h1 h2 => binaryReprSigned_parse w v hw h1 h2, ?_⟩
  intro v v' h1 h2 h3 h4 he
  have a := binaryReprSigned_parse w v hw h1 h2
  rw [he, binaryReprSigned_parse w v' hw h3 h4] at a
  exact (Option.some.inj a).symm

/-! ## non-vacuity -/

example : toBitOrder (.text ['B', 'i', 'g']) = .err .ParameterError := by decide
example : unpackByte .big 23 = [0, 0, 0, 1, 0, 1, 1, 1] ∧ unpackByte .little 23 = [1, 1, 1, 0, 1, 0, 0, 0] := by decide
example : packFlat .big [0, 0, 0, 1, 0, 1, 1, 1, 1] = .ok [23, 128] ∧ packFlat .little [0, 0, 0, 1, 0, 1, 1, 1, 1] = .ok [232, 1] := by decide +kernel
example : packFlat .big [0, 0, 0, 1, 0, 1, 1, 1, 1] = packFlat .big [0, 0, 0, 1, 0, 1, 1, 1, 1, 0, 0, 0, 0, 0, 0, 0] := by decide +kernel
example : unpackBits alongRef ⟨[2, 3, 5], [3, 1]⟩ (some 1) none none
    = .ok ⟨[0, 0, 0, 0, 0, 0, 1, 0, 0, 0, 0, 0, 0, 0, 1, 1, 0, 0, 0, 0, 0, 1, 0, 1], [3, 8]⟩ := by decide +kernel
example : (unpackBits alongRef ⟨[1, 200, 37, 255], [2, 2]⟩ (some 0) none (some (.text ['l', 'i', 't', 't', 'l', 'e'])) >>= fun u =>
    packBits alongRef u (some 0) (some (.enum .little))) = .ok ⟨[1, 200, 37, 255], [2, 2]⟩ := by decide +kernel
example : countKeep 16 (some 5) = some 5 ∧ countKeep 16 (some (-5)) = some 11 ∧ countKeep 16 (some 17) = none ∧
    countKeep 16 (some (-17)) = none ∧ countKeep 16 (some 0) = some 0 ∧ countKeep 16 (some (-16)) = some 0 ∧
    countKeep 16 none = some 16 := by decide
example : unpackFlatArr .big (some (-3)) ⟨[2, 3, 5], [3]⟩ = .ok (Arr.flat [0, 0, 0, 0, 0, 0, 1, 0, 0, 0, 0, 0, 0, 0, 1, 1, 0, 0, 0, 0, 0]) := by decide +kernel
example : unpackFlatArr .big (some (-25)) ⟨[2, 3, 5], [3]⟩ = .err .OutOfBounds := by decide
example : unpackBits alongRef ⟨[2, 3, 5, 7], [2, 2]⟩ none (some (-27)) none = .ok (Arr.flat [0, 0, 0, 0, 0]) := by decide
example : unpackBits alongRef ⟨[2, 3, 5, 7], [2, 2]⟩ none (some 33) none = .err .OutOfBounds := by decide
example : unpackBits alongRef ⟨[], [0, 2]⟩ none none (some (.text ['b', 'o', 'g'])) = .err .ParameterError := by decide
example : packBits alongRef ⟨[], [0]⟩ (some 1) (some (.enum .little)) = .err .AxisOutOfBounds := by decide
example : unpackBits alongRef ⟨[], [2, 0]⟩ (some (-1)) none none = .ok ⟨[], [0]⟩ := by decide
example : emptyAnswer 2 (some 1) none = .ok ⟨[], [0]⟩ ∧ emptyAnswer 2 (some 2) none = .err .AxisOutOfBounds ∧
    emptyAnswer 2 (some 2) (some (.text ['B'])) = .err .ParameterError ∧
    emptyAnswer 2 (some (-2)) (some (.text ['l', 'i', 't', 't', 'l', 'e'])) = .ok ⟨[], [0]⟩ := by decide
example : unpackBits alongPipe ⟨[], [2, 0]⟩ (some 1) (some 3) none = .ok ⟨[], [0]⟩ := by decide
example : (unpackBits alongPipe ⟨[], [2, 0]⟩ (some 1) none none >>= fun u => packBits alongPipe u (some 1) none)
    = .err .AxisOutOfBounds := by decide
example : (unpackBits alongPipe ⟨[], [2, 0]⟩ (some (-1)) none none >>= fun u => packBits alongPipe u (some (-1)) none)
    = .ok ⟨[], [0]⟩ := by decide
example : (0 : Nat) ∈ ([2, 0] : List Nat).eraseIdx 0 ∧ (0 : Nat) ∉ ([2, 0] : List Nat).eraseIdx 1 := by decide
example : binaryRepr 10 = ['1', '0', '1', '0'] ∧ binaryRepr 0 = ['0'] := by decide
example : binaryReprSigned 8 (-3) = ['1', '1', '1', '1', '1', '1', '0', '1'] := by decide
example : (-(2 ^ (8 - 1) : Int) ≤ -128) ∧ ((-128 : Int) < 2 ^ (8 - 1)) := by decide
example : binaryReprSigned 8 (-128) = ['1', '0', '0', '0', '0', '0', '0', '0'] ∧ binaryReprSigned 8 127 = binaryRepr 127 ∧
    (binaryRepr 127).length = 7 ∧ binaryReprSigned 3 (-1) = ['1', '1', '1'] := by decide
example : parseRadix2 ['0', '1'] = some 1 ∧ binaryRepr 1 = ['1'] ∧
    parseRadix2 ([1, 0, 1, 0].map digitChar) = some 10 ∧ binaryRepr 10 = [1, 0, 1, 0].map digitChar := by decide

end ArrModel.C19
